import QuartzModel.Proofs.TransCronLemmas
import QuartzModel.Theorems.C14
/-!
# The hand-written model of `CronTrigger.NextFireTime` IS the translated Go code

`Generated.TransCron` (regenerated from `quartz/cron.go`, `quartz/util.go` by `harness/cmd/gotolean-cron` on every run)
contains the translation of `(*CronTrigger).NextFireTime` and `fires` — the retry loop over wall-clock candidates
around the state machine; the inner `newCSMFromFields(wall, ct.fields)` + `csm.NextTriggerTime(time.UTC)` are the
translated definitions of `Generated.Trans`.  This file proves, for ALL inputs,

* `trans_fires`               — translated `fires` = `Cron.fires`;
* `trans_zoneLoop`            — the translated `for {}` loop = `Cron.zoneLoop` (same loop fuel, any valid cursor);
* `trans_nextFireTime_zoneLoop`, `trans_nextFireTime` — translated `NextFireTime` = `Cron.nextFire {} f z prev` for every
  well-formed expression `f`, every location `z : Cron.Zone` with bounded offsets, EVERY int64 `prev` (negative ones
  included: Go's `prev / 1e9` + `if prev % 1e9 < 0 { prevSec-- }` is the model's floor division) and every fuel `> csmFuel`;

and (last section) the integer/slice helpers of the parser against `Cron/Parse.lean`;

and transfers C14 (`C14_sound`, `C14_no_miss`, `C14_expiry`, `C14_terminates`, `C14_total`, arbitrary `Zone`) and
C01 / C02 / C06 (fixed-offset locations) to the fully translated `NextFireTime` (in `TransCsm.nextFireT` of
`Proofs/TransTransfer.lean` only the inner call is translated code).

Modelled, not translated: `Cron.goTime` (package `time` on UTC midnights, parameter of the state machine),
`TransCron.goClock` (package `time` on UTC seconds: `Cal.Civil.toSeconds` / `ofSeconds`, validated against Go by `qh cal`, `harness/cmd/qh/cal.go`),
the location (`Cron.Zone`, nothing assumed about `date`), int64 overflow (none below `maxYear`), and the translator itself.
The Go results `(int64, error)` are `some (r, none)` / `some (0, some "ErrTriggerExpired")`; `none` = out of fuel.
-/
namespace TransCron
open Generated.TransCron Generated.Trans Cron Cal Odo TransRepr TransCsm

/-- every listed function was translated and every idiom was found in the source -/
theorem trans_cron_nothing_missing : Generated.TransCron.missing = [] := by decide

/-- translated `fires` (on `time.Time`s in the trigger's location; the wall reading in any location) = `Cron.fires` -/
theorem trans_fires (z : Zone) (ct : CronTrigger) (next w prevSec : Int) (b : Bool) :
    CronTrigger.fires (locOfZone z) ct ⟨next, false⟩ ⟨w, b⟩ ⟨prevSec, false⟩ = Cron.fires z next w prevSec := rfl

/-- **the translated `for {}` loop of `NextFireTime` is `Cron.zoneLoop`**: any loop fuel, any cursor showing a valid wall
clock; `cf` is the fuel handed to the state machine -/
theorem trans_zoneLoop (f : Fields) (hwf : WellFormed f = true) (cf : Nat) (hcf : csmFuel + 1 ≤ cf) (z : Zone)
    (ct : CronTrigger) (hct : ct.fields = mkFields f) (prevSec prevOff : Int) (fuel : Nat)
    (wallT : Time) (wallM : Civil) (hv : wallM.Valid) (hy : wallM.year ≤ 3940) (hS : Shows z wallT wallM) :
    CronTrigger.NextFireTime.loop1 goTime goClock (locOfZone z) ct (Time.unixIn prevSec) prevOff cf fuel wallT =
      ofOutcome (zoneLoop {} f z prevSec prevOff fuel wallM) := by
  induction fuel generalizing wallT wallM with
  | zero => rfl
  | succ fuel ih =>
    obtain ⟨e1, e2, e3, e4, e5, e6⟩ := shows_fields z wallT wallM hS
    obtain ⟨csm', hN⟩ := nextTriggerTime_exact f hwf cf hcf wallM hv hy
    rw [zoneLoop_succ]
    simp only [CronTrigger.NextFireTime.loop1, e1, e2, e3, e4, e5, e6, hct, hN, Option.bind_some]
    cases hc : csmNext {} f wallM with
    | none => exact absurd hc (csmNext_ne_none f hwf wallM hv)
    | some o =>
      cases o with
      | none => simp [ofOutcome]
      | some t =>
        obtain ⟨hvt, hty⟩ := csmNext_some_valid f hwf wallM t hc
        have hst := shows_utc z t hvt
        obtain ⟨d1, d2, d3, d4, d5, d6⟩ := shows_fields z _ t hst
        have hw : Time.ofWallUTC goClock (wallOfCivil t) = ⟨t.toSeconds, true⟩ := by
          simp only [Time.ofWallUTC, goClock, wallOfCivil, goUnixOf_valid t hvt]
        simp only [hw, d1, d2, d3, d4, d5, d6]
        simp only [Time.date, goClock_unixOf, locOfZone_date, goUnixOf_valid t hvt, Time.unixIn, Time.Unix, trans_fires]
        cases hf1 : Cron.fires z (z.date t.toSeconds) t.toSeconds prevSec with
        | true =>
          simp only [Bool.not_true, Bool.false_eq_true, if_false, if_true, trans_fires, hf1, Time.UnixNano, ofOutcome]
        | false =>
          simp only [Bool.not_false, if_true, trans_fires, Bool.false_eq_true, if_false]
          cases hf2 : Cron.fires z (t.toSeconds - prevOff) t.toSeconds prevSec with
          | true => simp only [if_true, Time.UnixNano, ofOutcome, Bool.not_true, Bool.false_eq_true, if_false]
          | false =>
            simp only [Bool.false_eq_true, if_false]
            exact ih _ t hvt hty hst

section main
variable (f : Fields) (hwf : WellFormed f = true) (z : Zone)
  (hz : ∀ u, -100000 ≤ z.offsetAt u ∧ z.offsetAt u ≤ 100000)
  (ct : CronTrigger) (hct : ct.fields = mkFields f) (prev : Int)
  (hmin : -9223372036854775808 ≤ prev) (hmax : prev ≤ 9223372036854775807)
  (fuel : Nat) (hfuel : csmFuel + 1 ≤ fuel)
include hwf hz hct hmin hmax hfuel

/-- the translated `NextFireTime` is the model's loop run with the same fuel, started at the reading of `⌊prev / 1e9⌋` -/
theorem trans_nextFireTime_zoneLoop :
    CronTrigger.NextFireTime goTime goClock (locOfZone z) ct prev fuel =
      ofOutcome (zoneLoop {} f z (prev / 1000000000) (z.offsetAt (prev / 1000000000)) fuel
        (Civil.ofSeconds (prev / 1000000000 + z.offsetAt (prev / 1000000000)))) := by
  obtain ⟨hv, hy⟩ := wall0_int64 (z.offsetAt (prev / 1000000000)) prev (hz _) hmin hmax
  have hfd := floorDiv prev
  simp only [CronTrigger.NextFireTime, decide_eq_true_eq, hfd]
  -- `Time.zoneOffset (locOfZone z) (Time.unixIn s)` unfolds to `z.offsetAt s`
  exact trans_zoneLoop f hwf fuel hfuel z ct hct _ _ fuel _ _ hv hy (shows_start z _)

/-- **the translated `(*CronTrigger).NextFireTime` is the model's `Cron.nextFire`**, for every int64 `prev` -/
theorem trans_nextFireTime :
    CronTrigger.NextFireTime goTime goClock (locOfZone z) ct prev fuel = ofOutcome (nextFire {} f z prev) := by
  rw [trans_nextFireTime_zoneLoop f hwf z hz ct hct prev hmin hmax fuel hfuel]
  obtain ⟨hv, hy⟩ := wall0_int64 (z.offsetAt (prev / 1000000000)) prev (hz _) hmin hmax
  have hne : zoneLoop {} f z (prev / 1000000000) (z.offsetAt (prev / 1000000000)) csmFuel
      (Civil.ofSeconds (prev / 1000000000 + z.offsetAt (prev / 1000000000))) ≠ .outOfFuel :=
    zoneLoop_fuel f hwf z _ _ _ _ hv hy (by rw [csmFuel_eq]; omega)
  rw [zoneLoop_mono f z _ _ csmFuel _ fuel (by omega) hne]
  rfl

/-! ## C14 for the translated `NextFireTime` (arbitrary location, every int64 `prev`: `hmin`, `hmax`) -/

theorem C14_sound_transCron (r : Int)
    (h : CronTrigger.NextFireTime goTime goClock (locOfZone z) ct prev fuel = some (r, none)) :
    r % 1000000000 = 0 ∧ prev < r ∧ Matches f (reading z (r / 1000000000)) := by
  rw [trans_nextFireTime f hwf z hz ct hct prev hmin hmax fuel hfuel] at h
  exact C14_sound f hwf z prev hmin hz r (ofOutcome_inj _ (.ok r) h)

/-- C14 no-miss: a matching local reading that was passed over cannot be named after `prev` -/
theorem C14_no_miss_transCron (r : Int)
    (h : CronTrigger.NextFireTime goTime goClock (locOfZone z) ct prev fuel = some (r, none))
    (L : Civil) (hL : Matches f L)
    (h1 : Civil.lexLt (reading z (prev / 1000000000)) L)
    (h2 : Civil.lexLt L (reading z (r / 1000000000))) :
    ∀ u ∈ cands z (prev / 1000000000) L.toSeconds, ¬ Fires z (prev / 1000000000) L.toSeconds u := by
  rw [trans_nextFireTime f hwf z hz ct hct prev hmin hmax fuel hfuel] at h
  exact C14_no_miss f hwf z prev hmin hz r (ofOutcome_inj _ (.ok r) h) L hL h1 h2

/-- C14 expiry: `ErrTriggerExpired` only when no matching reading ahead can be named after `prev` -/
theorem C14_expiry_transCron (r : Int) (e : String)
    (h : CronTrigger.NextFireTime goTime goClock (locOfZone z) ct prev fuel = some (r, some e))
    (L : Civil) (hL : Matches f L) (h1 : Civil.lexLt (reading z (prev / 1000000000)) L) :
    ∀ u ∈ cands z (prev / 1000000000) L.toSeconds, ¬ Fires z (prev / 1000000000) L.toSeconds u := by
  rw [trans_nextFireTime f hwf z hz ct hct prev hmin hmax fuel hfuel] at h
  exact C14_expiry f hwf z prev hmin hz (ofOutcome_expired _ r e h) L hL h1

/-- C14 termination: the translated retry loop ends (with any fuel above `csmFuel`) -/
theorem C14_terminates_transCron :
    CronTrigger.NextFireTime goTime goClock (locOfZone z) ct prev fuel ≠ none := by
  rw [trans_nextFireTime f hwf z hz ct hct prev hmin hmax fuel hfuel]
  intro h
  exact C14_terminates f hwf z prev hmin hz (ofOutcome_inj _ .outOfFuel h)

/-- C14 totality: a value strictly after `prev`, or `ErrTriggerExpired` -/
theorem C14_total_transCron :
    (∃ r, CronTrigger.NextFireTime goTime goClock (locOfZone z) ct prev fuel = some (r, none) ∧ prev < r) ∨
      CronTrigger.NextFireTime goTime goClock (locOfZone z) ct prev fuel = some (0, some "ErrTriggerExpired") := by
  rw [trans_nextFireTime f hwf z hz ct hct prev hmin hmax fuel hfuel]
  rcases C14_total f hwf z prev hmin hz with ⟨r, h, hr⟩ | h
  · exact Or.inl ⟨r, by rw [h]; rfl, hr⟩
  · exact Or.inr (by rw [h]; rfl)

end main

/-! ## C01 / C02 / C06 for the translated `NextFireTime` (fixed-offset locations) -/

section fixed
variable (f : Fields) (hwf : WellFormed f = true) (c : Int) (hc : -100000 ≤ c ∧ c ≤ 100000)
  (ct : CronTrigger) (hct : ct.fields = mkFields f) (prev : Int) (hp : -9223372036854775808 ≤ prev) (hmax : prev ≤ 9223372036854775807)
  (fuel : Nat) (hfuel : csmFuel + 1 ≤ fuel)
include hwf hc hct hp hmax hfuel

theorem trans_nextFireTime_fixed :
    CronTrigger.NextFireTime goTime goClock (locOfZone (fixedZone c)) ct prev fuel =
      ofOutcome (nextFire {} f (fixedZone c) prev) :=
  trans_nextFireTime f hwf (fixedZone c) (fun _ => hc) ct hct prev (by omega) hmax fuel hfuel

theorem C01_sound_transCron (r : Int)
    (h : CronTrigger.NextFireTime goTime goClock (locOfZone (fixedZone c)) ct prev fuel = some (r, none)) :
    r % 1000000000 = 0 ∧ prev < r ∧ Matches f (Civil.ofSeconds (r / 1000000000 + c)) := by
  rw [trans_nextFireTime_fixed f hwf c hc ct hct prev hp hmax fuel hfuel] at h
  exact C01_sound f hwf c prev hc hp r (ofOutcome_inj _ (.ok r) h)

theorem C02_minimal_transCron (r : Int)
    (h : CronTrigger.NextFireTime goTime goClock (locOfZone (fixedZone c)) ct prev fuel = some (r, none)) :
    ∀ u : Int, prev < u → u < r → u % 1000000000 = 0 →
      ¬ Matches f (Civil.ofSeconds (u / 1000000000 + c)) := by
  rw [trans_nextFireTime_fixed f hwf c hc ct hct prev hp hmax fuel hfuel] at h
  exact C02_minimal f hwf c prev hc hp r (ofOutcome_inj _ (.ok r) h)

theorem C06_total_transCron :
    (∃ r, CronTrigger.NextFireTime goTime goClock (locOfZone (fixedZone c)) ct prev fuel = some (r, none) ∧ prev < r) ∨
      CronTrigger.NextFireTime goTime goClock (locOfZone (fixedZone c)) ct prev fuel =
        some (0, some "ErrTriggerExpired") := by
  rw [trans_nextFireTime_fixed f hwf c hc ct hct prev hp hmax fuel hfuel]
  rcases C06_total f hwf c prev hc hp with ⟨r, h, hr⟩ | h
  · exact Or.inl ⟨r, by rw [h]; rfl, hr⟩
  · exact Or.inr (by rw [h]; rfl)

end fixed

/-- the hypotheses are satisfiable: `0 30 * * * ?` in the spring-forward location of `Theorems/C14.lean`, prev = 13:30 local -/
example : WellFormed exHalf = true ∧ (∀ u, -100000 ≤ exSpring.offsetAt u ∧ exSpring.offsetAt u ≤ 100000) ∧
    (mkTrigger "0 30 * * * ?" exHalf 1).fields = mkFields exHalf :=
  ⟨exHalf_wf, exSpring_bounded, rfl⟩

/-- … and there the translated code skips the reading in the gap, as the model does (`exSpring_skip`) -/
example : CronTrigger.NextFireTime goTime goClock (locOfZone exSpring) (mkTrigger "0 30 * * * ?" exHalf 1)
    999000000000000 (csmFuel + 1) = some (1002600000000000, none) := by
  rw [trans_nextFireTime exHalf exHalf_wf exSpring exSpring_bounded _ rfl _ (by decide) (by decide) _ (Nat.le_refl _),
    exSpring_skip]
  rfl

/-- `* * * * * *` as `NewCronTrigger` stores it (full wildcard: seconds 0..59) -/
def exEverySecond : Fields :=
  { sec := ⟨List.range 60, 0⟩, min := ⟨[], 0⟩, hour := ⟨[], 0⟩, dom := ⟨[], 0⟩, month := ⟨[], 0⟩,
    dow := ⟨[], 0⟩, year := ⟨[], 0⟩ }

/-- a negative `prev` (1.5 s before 1970, UTC, every second): the hypotheses of `trans_nextFireTime` hold … -/
example : CronTrigger.NextFireTime goTime goClock (locOfZone (fixedZone 0)) (mkTrigger "* * * * * *" exEverySecond (-1))
    (-1500000000) (csmFuel + 1) = ofOutcome (nextFire {} exEverySecond (fixedZone 0) (-1500000000)) :=
  trans_nextFireTime _ (by decide +kernel) _ (fun _ => (⟨by decide, by decide⟩ : -100000 ≤ (0:Int) ∧ (0:Int) ≤ 100000)) _ rfl _ (by decide) (by decide) _ (Nat.le_refl _)

/-- … and the prev second is the floor `-2`, not the truncation `-1` -/
example : (-1500000000 : Int) / 1000000000 = -2 ∧ Int.tdiv (-1500000000) 1000000000 = -1 := by decide

/-- the transferred theorems at a `prev` before 1970: `0 0 12 * * ?`, UTC, one day and 1 ns before the epoch -/
theorem exNoon_neg_transCron :
    CronTrigger.NextFireTime goTime goClock (locOfZone (fixedZone 0)) (mkTrigger "0 0 12 * * ?" exNoon 0)
      (-86400000000001) (csmFuel + 1) = some (-43200000000000, none) := by
  rw [trans_nextFireTime_fixed exNoon exNoon_wf 0 (by omega) _ rfl _ (by omega) (by omega) _ (Nat.le_refl _),
    exNoon_neg]
  rfl

example : (-43200000000000 : Int) % 1000000000 = 0 ∧ (-86400000000001 : Int) < -43200000000000 ∧
    Matches exNoon (Civil.ofSeconds (-43200000000000 / 1000000000 + 0)) :=
  C01_sound_transCron exNoon exNoon_wf 0 (by omega) _ rfl _ (by omega) (by omega) _ (Nat.le_refl _) _
    exNoon_neg_transCron

example : ∀ u : Int, -86400000000001 < u → u < -43200000000000 → u % 1000000000 = 0 →
    ¬ Matches exNoon (Civil.ofSeconds (u / 1000000000 + 0)) :=
  C02_minimal_transCron exNoon exNoon_wf 0 (by omega) _ rfl _ (by omega) (by omega) _ (Nat.le_refl _) _
    exNoon_neg_transCron

/-- C14 (arbitrary location) at a negative `prev`: the spring-forward location, half an hour and 1 ns before the epoch -/
example : (-1800000000000 : Int) % 1000000000 = 0 ∧ (-1800000000001 : Int) < -1800000000000 ∧
    Matches exHalf (reading exSpring (-1800000000000 / 1000000000)) :=
  C14_sound_transCron exHalf exHalf_wf exSpring exSpring_bounded (mkTrigger "0 30 * * * ?" exHalf 1) rfl
    (-1800000000001) (by omega) (by omega) (csmFuel + 1) (Nat.le_refl _) _
    (by rw [trans_nextFireTime exHalf exHalf_wf exSpring exSpring_bounded _ rfl _ (by omega) (by omega) _
          (Nat.le_refl _), exSpring_neg]; rfl)

/-! ## the integer/slice helpers of the parser

`inScope`, `fillRangeValues`, `fillStepValues` (quartz/util.go), `(*cronField).add` and the boundary table of
`buildCronField` (quartz/cron.go) against `Cron.inScope`, `Cron.fillRange`, `Cron.fillStep`, the `values.map (· - 1)` of
`Cron.buildFields` and the defaults of `Cron.Bounds` (`Cron/Parse.lean`).  The string/regexp code of the parser
(`normalize`, `translateLiteral(s)`, `extract*Values`, `parse*Field`, `trimCronExpression`) is not translated by
`gotolean-cron`: `gotolean-parse` does it (`Generated/TransParse.lean`, `Theorems/TransParse.lean`). -/

/-- `inScope` = `Cron.inScope`, all arguments -/
theorem trans_inScope (v lo hi : Int) : Generated.TransCron.inScope v lo hi = Cron.inScope v lo hi := by
  unfold Generated.TransCron.inScope Cron.inScope
  by_cases h1 : lo ≤ v <;> by_cases h2 : v ≤ hi <;> simp [h1, h2]

/-- the parser, lower and upper bound per field index -/
theorem trans_boundaryTable (bs : Bounds) (h : bs = {}) :
    buildCronField.table =
      [("parseField", (bs.sec.lower : Int), (bs.sec.upper : Int)), ("parseField", (bs.min.lower : Int), (bs.min.upper : Int)),
       ("parseField", (bs.hour.lower : Int), (bs.hour.upper : Int)), ("parseDayOfMonthField", (bs.dom.lower : Int), (bs.dom.upper : Int)),
       ("parseField", (bs.month.lower : Int), (bs.month.upper : Int)), ("parseDayOfWeekField", (bs.dow.lower : Int), (bs.dow.upper : Int)),
       ("parseField", (bs.year.lower : Int), (bs.year.upper : Int))] ∧ buildCronField.adds = [(5, -1)] := by
  subst h; exact ⟨rfl, rfl⟩

/-- `fillRangeValues(from, to)` = `Cron.fillRange` for all naturals (the arguments are in scope of a `boundary`, so ≥ 0),
with fuel for `to - from + 2` loop tests -/
theorem trans_fillRangeValues (frm to : Nat) (fuel : Nat) (hfuel : to + 3 ≤ fuel + frm) :
    fillRangeValues frm to fuel =
      some (match Cron.fillRange frm to with
            | none => ([], some "newCronParseError: fill range values")
            | some l => (ints l, none)) := by
  unfold fillRangeValues Cron.fillRange
  by_cases h : to < frm
  · rw [if_pos h, if_pos (decide_eq_true (Int.ofNat_lt.mpr h))]
  · have hft : frm ≤ to := Nat.le_of_not_lt h
    have hl : (((to : Int) - frm) + 1).toNat = (to - frm) / 1 + 1 := by
      rw [← Int.natCast_sub hft, Nat.div_one]; exact Int.toNat_natCast (to - frm + 1)
    rw [if_neg h, if_neg (fun e => h (Int.ofNat_lt.mp (of_decide_eq_true e)))]
    dsimp only
    rw [hl, fillRange_loop1]
    refine (congrArg (·.bind fun r1 => some (r1, (none : Option String)))
      (fillStep_run frm 1 to fuel Nat.one_pos hft hfuel)).trans ?_
    rw [Nat.div_one, List.range'_eq_map_range, List.map_congr_left (fun j _ => Nat.add_comm frm j)]
    rfl

/-- `fillStepValues(from, step, to)` = `Cron.fillStep` for all naturals (incl. the error case `step = 0`) -/
theorem trans_fillStepValues (frm step to : Nat) (fuel : Nat) (hfuel : to + 3 ≤ fuel + frm) :
    fillStepValues frm step to fuel =
      some (match Cron.fillStep frm step to with
            | none => ([], some "newCronParseError: fill step values")
            | some l => (ints l, none)) := by
  unfold fillStepValues Cron.fillStep
  by_cases h : to < frm ∨ step = 0
  · have h' : (decide ((to : Int) < frm) || decide ((step : Int) = 0)) = true := by
      rw [← Bool.decide_or]; exact decide_eq_true (by omega)
    rw [if_pos h, if_pos h']
  · have h' : (decide ((to : Int) < frm) || decide ((step : Int) = 0)) = false := by
      rw [← Bool.decide_or]; exact decide_eq_false (by omega)
    have hs : 0 < step := Nat.pos_of_ne_zero (fun e => h (Or.inr e))
    have hft : frm ≤ to := Nat.le_of_not_lt (fun e => h (Or.inl e))
    have hl : (Int.tdiv ((to : Int) - frm) step + 1).toNat = (to - frm) / step + 1 := by
      rw [← Int.natCast_sub hft, Int.tdiv_eq_ediv_of_nonneg (Int.natCast_nonneg _), ← Int.natCast_ediv]
      exact Int.toNat_natCast ((to - frm) / step + 1)
    rw [if_neg h, if_neg (by rw [h']; exact Bool.false_ne_true)]
    dsimp only
    rw [hl]
    refine (congrArg (·.bind fun r1 => some (r1, (none : Option String)))
      (fillStep_run frm step to fuel hs hft hfuel)).trans ?_
    rw [range'_eq_map]
    rfl

/-- `(*cronField).add(delta)` adds `delta` to every value (the model's `values.map (· - 1)` in `Cron.buildFields` for `delta = -1`) -/
theorem trans_cronField_add (cf : Generated.Trans.cronField) (delta : Int) :
    cronField.add cf delta = { cf with values := cf.values.map (· + delta) } := by
  obtain ⟨vs, n⟩ := cf
  have := add_loop delta vs [] n 0 rfl
  simp only [List.nil_append] at this
  simp only [cronField.add, idxRange, List.range_eq_range', this]

/-- the day-of-week shift `fields[5].add(-1)` is the model's `values.map (· - 1)` (values ≥ 1: `boundary{1, 7}`) -/
theorem trans_dowShift (fl : Field) (h : ∀ v ∈ fl.values, 1 ≤ v) :
    cronField.add (mkField fl) (-1) = mkField { fl with values := fl.values.map (· - 1) } := by
  rw [trans_cronField_add]
  simp only [mkField, ints, List.map_map]
  congr 1
  apply List.map_congr_left
  intro v hv
  have := h v hv
  simp only [Function.comp, Int.ofNat_eq_natCast]
  omega

example : fillRangeValues 3 7 10 = some ([3, 4, 5, 6, 7], none) := by decide
example : fillRangeValues 7 3 10 = some ([], some "newCronParseError: fill range values") := rfl
example : fillStepValues 5 15 59 100 = some ([5, 20, 35, 50], none) := by decide +kernel
example : cronField.add ⟨[1, 3, 7], 0⟩ (-1) = ⟨[0, 2, 6], 0⟩ := by decide
example : Generated.TransCron.inScope 1970 1970 3940 = true ∧ Generated.TransCron.inScope 0 1 31 = false := by decide

end TransCron

#print axioms TransCron.trans_cron_nothing_missing
#print axioms TransCron.trans_fires
#print axioms TransCron.trans_zoneLoop
#print axioms TransCron.trans_nextFireTime_zoneLoop
#print axioms TransCron.trans_nextFireTime
#print axioms TransCron.C14_sound_transCron
#print axioms TransCron.C14_no_miss_transCron
#print axioms TransCron.C14_expiry_transCron
#print axioms TransCron.C14_terminates_transCron
#print axioms TransCron.C14_total_transCron
#print axioms TransCron.C01_sound_transCron
#print axioms TransCron.C02_minimal_transCron
#print axioms TransCron.C06_total_transCron
#print axioms TransCron.trans_inScope
#print axioms TransCron.trans_boundaryTable
#print axioms TransCron.trans_fillRangeValues
#print axioms TransCron.trans_fillStepValues
#print axioms TransCron.trans_cronField_add
#print axioms TransCron.trans_dowShift
