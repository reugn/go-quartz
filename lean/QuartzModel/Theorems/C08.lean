import QuartzModel.Proofs.SchedLemmas
/-!
# C08 — PauseJob / DeleteJob / Clear stop the consumption of fire times; ResumeJob restarts from now

"Once PauseJob, DeleteJob or Clear has returned successfully the scheduler consumes no further fire
time of the affected job; a paused job stays listed, marked paused, with its trigger intact, and
ResumeJob re-activates it with a fire time computed from the moment of resumption."

"Consumes a fire time" = asks the job's trigger (a `TrigCall` with the job's tag) or dispatches the job.
Steps may happen at any clock reading, in any interleaving (see `Sched/History.lean`).
-/
namespace Sched
open Queue

theorem getJob_mem {s : SState} (h : Inv s.q) {e : Entry} (he : e ∈ s.q.toList) {g n : String}
    (hg : e.group = g) (hn : e.name = n) : getJob s true g n = .ok e := by
  unfold getJob
  simp only [Bool.not_true, Bool.false_eq_true, if_false]
  rw [((C11_get _ h g n).1 e).mpr ⟨he, hg, hn⟩]

theorem jobKeys_suspended {s : SState} {e : Entry} (he : e ∈ s.q.toList) (hs : e.suspended = true)
    {g n : String} (hg : e.group = g) (hn : e.name = n) : (g, n) ∈ jobKeys s [.status true] := by
  subst hg hn
  unfold jobKeys
  rw [List.mem_map]
  refine ⟨e, (C11_list_exact _ _ _).mpr ⟨he, fun m hm => ?_⟩, rfl⟩
  rw [List.mem_singleton] at hm
  subst hm
  show (e.suspended == true) = true
  rw [hs]
  rfl

/-- A successful `PauseJob`: the entry stays in the registry under its key, now marked suspended, with
the sentinel priority `maxInt64`, the same tag (= the same trigger object and job detail), every other
entry and every trigger object untouched; it is listed by `GetJobKeys` with the "suspended" matcher. -/
theorem C08_pause_effect (s : SState) (hk : Bool) (g n : String) (h : Inv s.q)
    (hok : (pause s hk g n).2 = none) :
    ∃ e, e ∈ s.q.toList ∧ e.group = g ∧ e.name = n ∧ e.suspended = false ∧
      getJob (pause s hk g n).1 true g n =
        .ok { e with prio := maxInt64, suspended := true } ∧
      (pause s hk g n).1.q.toList.Perm
        ({ e with prio := maxInt64, suspended := true } :: s.q.toList.erase e) ∧
      (pause s hk g n).1.trigs = s.trigs ∧
      (g, n) ∈ jobKeys (pause s hk g n).1 [.status true] ∧
      Inv (pause s hk g n).1.q := by
  rcases pause_cases s hk g n h with ⟨_, hp⟩ | ⟨_, _, hp⟩ |
    ⟨_, e, he, hg, hn, ⟨_, hp⟩ | ⟨hs, q1, hperm, hinv2, hp⟩⟩ <;> rw [hp] at hok ⊢
  · cases hok
  · cases hok
  · cases hok
  · have hmem : pausedOf e ∈ (hpush q1 (pausedOf e)).toList := (mem_hpush_iff _ _ _).mpr (Or.inl rfl)
    refine ⟨e, he, hg, hn, hs, getJob_mem (e := pausedOf e) hinv2 hmem hg hn,
      (hpush_perm _ _).trans (List.Perm.cons _ (perm_erase_of_cons hperm).symm), rfl,
      jobKeys_suspended (e := pausedOf e) hmem rfl hg hn, hinv2⟩

/-- A successful `ResumeJob` at clock reading `now`: exactly one trigger call, made with `prev = now`;
the entry is active again with the trigger's answer as its fire time; same tag; everything else
untouched. -/
theorem C08_resume_from_now (s : SState) (now : Int) (hk : Bool) (g n : String) (h : Inv s.q)
    (hok : (resume s now hk g n).2.1 = none) :
    ∃ e p, e ∈ s.q.toList ∧ e.group = g ∧ e.name = n ∧ e.suspended = true ∧
      ((s.trig e.tag).fire now).1 = some p ∧
      (resume s now hk g n).2.2 = [⟨e.tag, now, some p⟩] ∧
      getJob (resume s now hk g n).1 true g n = .ok { e with prio := p, suspended := false } ∧
      (resume s now hk g n).1.q.toList.Perm
        ({ e with prio := p, suspended := false } :: s.q.toList.erase e) ∧
      (resume s now hk g n).1.trig e.tag = ((s.trig e.tag).fire now).2 ∧
      (∀ t, t ≠ e.tag → (resume s now hk g n).1.trig t = s.trig t) ∧
      Inv (resume s now hk g n).1.q := by
  rcases resume_cases s now hk g n h with ⟨_, hr⟩ | ⟨_, _, hr⟩ |
    ⟨_, e, he, hg, hn, ⟨_, hr⟩ | ⟨_, _, hr⟩ | ⟨hs, p, q1, hf, hperm, hinv2, hr⟩⟩ <;> rw [hr] at hok ⊢
  · cases hok
  · cases hok
  · cases hok
  · cases hok
  · have hmem : resumedOf e p ∈ (hpush q1 (resumedOf e p)).toList := (mem_hpush_iff _ _ _).mpr (Or.inl rfl)
    exact ⟨e, p, he, hg, hn, hs, hf, rfl, getJob_mem (e := resumedOf e p) hinv2 hmem hg hn,
      (hpush_perm _ _).trans (List.Perm.cons _ (perm_erase_of_cons hperm).symm),
      trig_setTrig_same _ _ _, fun t ht => trig_setTrig_other _ _ _ _ ht, hinv2⟩

/-- After a successful `PauseJob` — for ANY continuation made of loop steps at arbitrary clock readings
and API calls on other keys (`Ev.touches g n = false`; `Clear` counts as touching every key) — the
scheduler never asks the paused job's trigger and never dispatches the job; the entry stays in the
registry exactly as `PauseJob` left it (listed, suspended, same tag) and its trigger object keeps its
state.  `hwf`: the state is well-formed (true of every reachable state, `run_wf`); `FreshTags` /
`FreshFor`: trigger objects handed to later `ScheduleJob` calls are new ones. -/
theorem C08_paused_no_consumption (thr : Int) (s : SState) (hk : Bool) (g n : String) (hwf : WF s)
    (hok : (pause s hk g n).2 = none) :
    ∃ e, e ∈ s.q.toList ∧ e.group = g ∧ e.name = n ∧ e.suspended = false ∧
      ∀ evs : List Ev, (∀ ev ∈ evs, ev.touches g n = false) → FreshTags evs →
        FreshFor (pause s hk g n).1 evs →
        (∀ o ∈ (run thr (pause s hk g n).1 evs).2, o.noConsume e.tag) ∧
        pausedOf e ∈ (run thr (pause s hk g n).1 evs).1.q.toList ∧
        getJob (run thr (pause s hk g n).1 evs).1 true g n = .ok (pausedOf e) ∧
        (g, n) ∈ jobKeys (run thr (pause s hk g n).1 evs).1 [.status true] ∧
        (run thr (pause s hk g n).1 evs).1.trig e.tag = s.trig e.tag := by
  obtain ⟨e, he, hg, hn, hs, _, hperm, htr, _, _⟩ := C08_pause_effect s hk g n hwf.inv hok
  refine ⟨e, he, hg, hn, hs, fun evs hnt hft hff => ?_⟩
  subst hg hn
  -- the pause is an event of the history language
  have hkind : Kind thr s (.pause hk e.group e.name) (pause s hk e.group e.name).1
      { err := (pause s hk e.group e.name).2 } :=
    apply_kind thr s hwf.wf0 (.pause hk e.group e.name)
  have hwf' : WF (pause s hk e.group e.name).1 := kind_wf hwf (fun t ht => by cases ht) hkind
  have hpe : pausedOf e ∈ (pause s hk e.group e.name).1.q.toList := hperm.mem_iff.mpr List.mem_cons_self
  obtain ⟨h1, h2, h3⟩ := run_paused thr evs _ hwf' hft hff (pausedOf e) hpe rfl hnt
  exact ⟨h2, h1, getJob_mem (run_wf thr evs _ hwf' hft hff).inv h1 rfl rfl,
    jobKeys_suspended (e := pausedOf e) h1 rfl rfl rfl,
    h3.trans (by unfold SState.trig; rw [htr]; rfl)⟩

/-- After a successful `DeleteJob` the entry is gone (everything else stays) and for ANY continuation
in which that trigger object is not handed to `ScheduleJob` again, no step ever pops, asks or dispatches
it. -/
theorem C08_delete_effect (thr : Int) (s : SState) (hk : Bool) (g n : String) (hwf : WF s)
    (hok : (delete s hk g n).2 = none) :
    ∃ e, e ∈ s.q.toList ∧ e.group = g ∧ e.name = n ∧
      ¬ hasKey (delete s hk g n).1.q g n ∧
      (delete s hk g n).1.q.toList.Perm (s.q.toList.erase e) ∧
      ∀ evs : List Ev, e.tag ∉ schedTags evs →
        (∀ o ∈ (run thr (delete s hk g n).1 evs).2, o.quiet e.tag ∧ o.noConsume e.tag) ∧
        AbsentTag e.tag (run thr (delete s hk g n).1 evs).1 := by
  rcases delete_cases s hk g n hwf.inv with ⟨_, hd⟩ | ⟨_, _, hd⟩ |
    ⟨_, q1, e, he, hg, hn, hperm, hinv, hnk, hd⟩ <;> rw [hd] at hok ⊢
  · cases hok
  · cases hok
  · refine ⟨e, he, hg, hn, hnk, (perm_erase_of_cons hperm).symm, ?_⟩
    intro evs hns
    have hwf0 : WF0 ({ s with q := q1 } : SState) :=
      ⟨hinv, fun x hx hs => hwf.susp x ((mem_rest_iff hwf.inv hperm x).mp hx).1 hs⟩
    have habs : AbsentTag e.tag ({ s with q := q1 } : SState) := by
      intro x hx hxt
      obtain ⟨h1, h2⟩ := (mem_rest_iff hwf.inv hperm x).mp hx
      exact h2 (hwf.tags x h1 e he hxt)
    obtain ⟨h1, h2⟩ := run_absent thr e.tag evs _ hwf0 habs hns
    exact ⟨fun o ho => ⟨h2 o ho, quiet_noConsume (h2 o ho)⟩, h1⟩

/-- After `Clear` the registry is empty and for ANY continuation no step ever pops, asks or dispatches
any of the jobs that were in it (as long as their trigger objects are not scheduled again). -/
theorem C08_clear_effect (thr : Int) (s : SState) :
    (clear s).q = #[] ∧ jobKeys (clear s) [] = [] ∧
    ∀ e ∈ s.q.toList, ∀ evs : List Ev, e.tag ∉ schedTags evs →
      (∀ o ∈ (run thr (clear s) evs).2, o.quiet e.tag ∧ o.noConsume e.tag) ∧
      AbsentTag e.tag (run thr (clear s) evs).1 := by
  refine ⟨rfl, rfl, ?_⟩
  intro e _ evs hns
  have hwf0 : WF0 (clear s) := ⟨inv_empty, fun x hx => by simp [clear] at hx⟩
  have habs : AbsentTag e.tag (clear s) := fun x hx => by simp [clear] at hx
  obtain ⟨h1, h2⟩ := run_absent thr e.tag evs _ hwf0 habs hns
  exact ⟨fun o ho => ⟨h2 o ho, quiet_noConsume (h2 o ho)⟩, h1⟩

/-! ## the same, for histories from the empty scheduler (`FreshTags` is the only assumption) -/

/-- history `evs1 ++ [PauseJob g n] ++ evs2` from the empty scheduler, the pause succeeds, `evs2` leaves
the key alone: nothing of the job is consumed during `evs2`, and it is still listed as paused after it -/
theorem C08_paused_no_consumption_reachable (thr : Int) (evs1 evs2 : List Ev) (hk : Bool) (g n : String)
    (hft : FreshTags (evs1 ++ .pause hk g n :: evs2))
    (hok : (pause (run thr {} evs1).1 hk g n).2 = none)
    (hnt : ∀ ev ∈ evs2, ev.touches g n = false) :
    ∃ e, e ∈ (run thr {} evs1).1.q.toList ∧ e.group = g ∧ e.name = n ∧ e.suspended = false ∧
      (∀ o ∈ (run thr (pause (run thr {} evs1).1 hk g n).1 evs2).2, o.noConsume e.tag) ∧
      getJob (run thr {} (evs1 ++ .pause hk g n :: evs2)).1 true g n = .ok (pausedOf e) ∧
      (g, n) ∈ jobKeys (run thr {} (evs1 ++ .pause hk g n :: evs2)).1 [.status true] ∧
      (run thr {} (evs1 ++ .pause hk g n :: evs2)).1.trig e.tag = (run thr {} evs1).1.trig e.tag := by
  obtain ⟨hwf, h2, h3, _⟩ := reachable_split thr evs1 (.pause hk g n) evs2 hft
  obtain ⟨e, he, hg, hn, hs, hall⟩ := C08_paused_no_consumption thr _ hk g n hwf hok
  obtain ⟨a1, _, a3, a4, a5⟩ := hall evs2 hnt h2 h3
  rw [run_append, run_cons]
  exact ⟨e, he, hg, hn, hs, a1, a3, a4, a5⟩

theorem C08_delete_effect_reachable (thr : Int) (evs1 evs2 : List Ev) (hk : Bool) (g n : String)
    (hft : FreshTags (evs1 ++ .delete hk g n :: evs2))
    (hok : (delete (run thr {} evs1).1 hk g n).2 = none) :
    ∃ e, e ∈ (run thr {} evs1).1.q.toList ∧ e.group = g ∧ e.name = n ∧
      (∀ o ∈ (run thr (delete (run thr {} evs1).1 hk g n).1 evs2).2, o.quiet e.tag ∧ o.noConsume e.tag) ∧
      AbsentTag e.tag (run thr {} (evs1 ++ .delete hk g n :: evs2)).1 := by
  obtain ⟨hwf, _, _, h4⟩ := reachable_split thr evs1 (.delete hk g n) evs2 hft
  obtain ⟨e, he, hg, hn, _, _, hall⟩ := C08_delete_effect thr _ hk g n hwf hok
  obtain ⟨a1, a2⟩ := hall evs2 (h4 e he)
  rw [run_append, run_cons]
  exact ⟨e, he, hg, hn, a1, a2⟩

theorem C08_clear_effect_reachable (thr : Int) (evs1 evs2 : List Ev)
    (hft : FreshTags (evs1 ++ .clear :: evs2)) :
    ∀ e ∈ (run thr {} evs1).1.q.toList,
      (∀ o ∈ (run thr (clear (run thr {} evs1).1) evs2).2, o.quiet e.tag ∧ o.noConsume e.tag) ∧
      AbsentTag e.tag (run thr {} (evs1 ++ .clear :: evs2)).1 := by
  obtain ⟨_, _, _, h4⟩ := reachable_split thr evs1 .clear evs2 hft
  intro e he
  obtain ⟨a1, a2⟩ := (C08_clear_effect thr (run thr {} evs1).1).2.2 e he evs2 (h4 e he)
  rw [run_append, run_cons]
  exact ⟨a1, a2⟩

/-! ## "ResumeJob re-activates it" at full strength — FALSE for a run-once job paused before its fire time

`C08_resume_from_now` describes every SUCCESSFUL `ResumeJob`. The property's sentence promises more: a paused job
can be re-activated. `ScheduleJob` has already asked a `RunOnceTrigger` for its single fire time; `PauseJob` parks the
entry; `ResumeJob` asks the trigger again "from the moment of resumption" and gets the trigger's own error. The call
fails, the registry is unchanged (C09), and the job stays paused for ever although it never ran. Recorded as known
finding `paused-run-once` (the harness replays the witness on the real code in every run). -/

/-- full strength: whenever a job is listed as paused, `ResumeJob` succeeds -/
def ResumeAlwaysReactivates (s : SState) (now : Int) (g n : String) : Prop :=
  (∃ e ∈ s.q.toList, e.group = g ∧ e.name = n ∧ e.suspended = true) → (resume s now true g n).2.1 = none

def exOnce : SchedArgs := { group := "g", name := "once", tag := 9, trig := some (.runOnce 3600 false) }

/-- schedule a run-once job (fire time 0 + 3600), pause it at once -/
def exPausedOnce : SState := (run 5 {} [.schedule 0 exOnce, .pause true "g" "once"]).1

theorem exPausedOnce_listed : exPausedOnce.q.toList.map (fun e => (e.name, e.prio, e.suspended)) =
    [("once", maxInt64, true)] := by decide +kernel

/-- `ResumeJob` answers the trigger's error and leaves everything as it was -/
theorem exPausedOnce_resume : (resume exPausedOnce 10 true "g" "once").2.1 = some .triggerError ∧
    (resume exPausedOnce 10 true "g" "once").1.q.toList.map (fun e => (e.name, e.prio, e.suspended)) =
      [("once", maxInt64, true)] := by decide +kernel

/-- **the full-strength clause does not hold** (known finding `paused-run-once`) -/
theorem C08_resume_run_once_fails : ¬ ResumeAlwaysReactivates exPausedOnce 10 "g" "once" := by
  intro h
  have hr := exPausedOnce_resume.1
  rw [h (by decide +kernel)] at hr
  cases hr

/-! ## non-vacuity -/
namespace C08Ex

def exA : SchedArgs := { group := "g", name := "a", tag := 1, trig := some (.simple 10) }
def exB : SchedArgs := { group := "g", name := "b", tag := 2, trig := some (.simple 7) }
def exNew : SchedArgs := { group := "g", name := "c", tag := 3, trig := some (.fixed 40) }

def exPre : List Ev := [.schedule 0 exA, .schedule 1 exB]
/-- after pausing `g/a`: steps at assorted (non-monotone) times, a new job, a pause/resume of the other job -/
def exPost : List Ev :=
  [.step 8, .step 50, .step 9, .schedule 20 exNew, .pause true "g" "b", .step 100, .resume 30 true "g" "b",
   .step 37, .delete true "g" "c"]

-- hypotheses of `C08_paused_no_consumption_reachable` / `C08_pause_effect`
example : FreshTags (exPre ++ .pause true "g" "a" :: exPost) := by decide
example : (pause (run 5 {} exPre).1 true "g" "a").2 = none := by decide +kernel
example : ∀ ev ∈ exPost, ev.touches "g" "a" = false := by decide
-- ... and the other job does get consumed meanwhile, so the statement is not trivially true
example : ((run 5 (pause (run 5 {} exPre).1 true "g" "a").1 exPost).2.map (fun o => o.calls.map (·.tag))) =
    [[2], [2], [], [3], [], [3], [2], [2], []] := by decide +kernel
example : ((run 5 {} (exPre ++ .pause true "g" "a" :: exPost)).1.q.toList.map
      (fun e => (e.name, e.prio, e.suspended, e.tag))) =
    [("b", 44, false, 2), ("a", maxInt64, true, 1)] := by decide +kernel
-- `C08_resume_from_now`: resumed at 30, the simple trigger (interval 7) answers 37 = 30 + 7
example : (resume (run 5 {} (exPre ++ [.pause true "g" "b"])).1 30 true "g" "b").2 =
    (none, [⟨2, 30, some 37⟩]) := by decide +kernel
-- `C08_delete_effect_reachable` / `C08_clear_effect_reachable`
example : FreshTags (exPre ++ .delete true "g" "a" :: exPost) ∧
    (delete (run 5 {} exPre).1 true "g" "a").2 = none := ⟨by decide, by decide +kernel⟩
example : FreshTags (exPre ++ .clear :: exPost) ∧ (run 5 {} exPre).1.q.size = 2 :=
  ⟨by decide, by decide +kernel⟩

-- hypotheses of the general-state versions (`C08_paused_no_consumption`, `C08_delete_effect`)
example : WF (run 5 {} exPre).1 := run_wf 5 _ {} wf_empty (by decide) (freshFor_empty _)
example : FreshFor (pause (run 5 {} exPre).1 true "g" "a").1 exPost := by
  unfold FreshFor; decide +kernel
example : (1 : Nat) ∉ schedTags exPost := by decide

end C08Ex

end Sched
