import QuartzModel.Proofs.ParseLemmas
/-!
# C07 — the cron parser accepts the documented format with its documented meaning and rejects the rest

All expression-level statements are about the default `Bounds` (`{}`), i.e. the boundaries
`buildCronField` uses (`Theorems/Facts.lean` ties them to the Go source). Helper lemmas are in
`Proofs/ParseLemmas.lean`.

* accepted ⇒ well-formed: `parse_wellFormed`, `newTrigger_wellFormed`, `parseField_inRange`,
  `parseField_no_special`, `parseDom_shape`, `parseDow_shape`
* rejections: `C07_rejects_field_count`, `C07_rejects_both_days`, `C07_rejects_bad_step`,
  `C07_rejects_bad_step_start`, `C07_rejects_bad_single`, `C07_rejects_bad_range`,
  `C07_rejects_bad_list_member` (+ `C07_list_member_as_field`)
* documented meaning: `C07_macros`, `C07_whitespace` (+ `_between`, `_leading`, `_trailing`),
  `C07_missing_year`, names and case (`normalize_name`, `normalize_glossary`, `normalize_month`,
  `normalize_day`, `C07_name_synonym`, `C07_name_synonym_range`), `atoi_render`, round trips
  (`C07_roundtrip_single/_name/_range/_step/_star_step/_range_step`), `C07_list_meaning`,
  `C07_seven_fields`, `C07_accepts`

Deviations from the requested statements (intent unchanged):
* `normalize_name`, `normalize_month`, `normalize_day`, `atoi_render` write the result as
  `some (i : Int)`; a bare `some i` with `i : Nat` elaborates to a monadic lift
  (`do let a ← some i; pure ↑a`) instead of `some ↑i`.
* the round trips carry `bd.upper ≤ maxInt64`: `strconv.Atoi` fails beyond int64, so without it the
  statement is false for absurd bounds (all real bounds are ≤ 3940).
-/
namespace Cron

/-- semantic form of "out-of-range values anywhere are rejected": the generic field parser's output
    carries no L/W/# marker, is sorted, and every value (single, list member, range end, step
    start/end and everything in between) lies inside the field's range -/
theorem parseField_inRange (fld : Str) (b : Bound) (names : List Str) (f : Field)
    (h : parseField fld b names = some f) :
    f.n = 0 ∧ Sorted f.values = true ∧ allIn b.lower b.upper f.values = true :=
  ⟨(parseField_good h).1, (parseField_good h).2.sorted, (parseField_good h).2.allIn⟩

/-- the fields without special characters (seconds, minutes, hours, month, year) never carry L/W/# -/
theorem parseField_no_special (fld : Str) (b : Bound) (names : List Str) (f : Field)
    (h : parseField fld b names = some f) : f.n = 0 :=
  (parseField_good h).1

/-- day-of-month: `L`, `L-k` (1 ≤ k ≤ 31), `dW` (1 ≤ d ≤ 31), `LW` stand alone — never with lists,
    ranges or steps — and otherwise the field is an ordinary in-range value list -/
theorem parseDom_shape (fld : Str) (f : Field) (h : parseDom fld ⟨1, 31⟩ = some f) : domOK f = true :=
  parseDom_domOK h

/-- day-of-week (after the shift to 0 = Sunday): `L`, `wL`, `w#k` (1 ≤ k ≤ 5) carry exactly one
    in-range weekday — never lists, ranges or steps — and otherwise an ordinary in-range value list -/
theorem parseDow_shape (fld : Str) (f : Field) (h : parseDow fld ⟨1, 7⟩ = some f) :
    dowOK { f with values := f.values.map (· - 1) } = true :=
  parseDow_dowOK h

/-- everything the parser accepts is well-formed: all values (single, list member, range end, step
    start/end) inside the field's range, sorted; L/W/# markers only in the day fields and with
    in-range parameters; at most one day field restricted -/
theorem parse_wellFormed (s : Str) (f : Fields) (h : parse {} s = some f) : WellFormed f = true := by
  unfold parse at h
  rw [parseExpr_eq] at h
  exact parseTokens_wellFormed h

theorem newTrigger_wellFormed (s : Str) (f : Fields) (h : newTrigger {} s = some f) :
    WellFormed f = true := by
  unfold newTrigger at h
  simp only [Option.map_eq_some_iff] at h
  obtain ⟨g, hg, rfl⟩ := h
  exact finish_wellFormed (parse_wellFormed s g hg)

/-- an expression that is not a macro and, once trimmed, has fewer than six or more than seven blank-separated fields is
    rejected, whatever the fields are (Go: "invalid expression length") -/
theorem C07_rejects_field_count (s : Str) (hm : specialTable.lookup (trimExpr s) = none)
    (h : (splitOn ' ' (trimExpr s)).length < 6 ∨ (splitOn ' ' (trimExpr s)).length > 7) :
    parse {} s = none := by
  unfold parse
  rw [parseExpr_eq, tokensOf_of_lookup_none hm]
  unfold parseTokens
  simp [h]

/-- an expression whose day-of-month and day-of-week fields (4th and 6th) are both something other than `?` / `*` is
    rejected before any field is parsed (Go: "day field set twice") -/
theorem C07_rejects_both_days (s : Str) (hm : specialTable.lookup (trimExpr s) = none)
    (h : anyDay ((splitOn ' ' (trimExpr s)).getD 3 []) = false ∧
         anyDay ((splitOn ' ' (trimExpr s)).getD 5 []) = false) :
    parse {} s = none := by
  unfold parse
  rw [parseExpr_eq, tokensOf_of_lookup_none hm]
  generalize splitOn ' ' (trimExpr s) = toks at h
  unfold parseTokens
  -- entries 3 and 5 are those of `toks`, with or without the appended year
  by_cases h6 : toks.length = 6 <;>
  · simp [h6, List.getD_eq_getElem?_getD] at h ⊢
    simp [h]

/-- a step whose increment is not a number in 1..upper is rejected, wherever it occurs -/
theorem C07_rejects_bad_step (t0 t1 : Str) (b : Bound) (names : List Str)
    (hsep : ¬ t1.contains '/') (hsep0 : ¬ t0.contains '/')
    (h : ∀ k, atoi t1 = some k → k < 1 ∨ k > b.upper) :
    parseStep (t0 ++ '/' :: t1) b names = none := by
  rw [parseStep_eq t0 t1 b names hsep0 hsep]
  unfold stepOf
  split
  · rename_i k _ hk
    simp [inScope_eq_false (h k hk)]
  · rfl

/-- `@yearly`, `@monthly`, `@weekly`, `@daily`, `@hourly` parse to exactly what the six-field expression next to them in
    the table parses to -/
theorem C07_macros : ∀ p ∈ specialTable, parse {} p.1 = parse {} p.2 := by decide +kernel

/-- whitespace is insignificant: the parse depends only on the normalised text -/
theorem C07_whitespace (s s' : Str) (h : trimExpr s = trimExpr s') : parse {} s = parse {} s' := by
  unfold parse; rw [h]

/-- a missing year means every year -/
theorem C07_missing_year (s : Str) (hm : specialTable.lookup (trimExpr s) = none)
    (h6 : (splitOn ' ' (trimExpr s)).length = 6) :
    parse {} s = parseExpr {} (trimExpr s ++ " *".toList) := by
  have e : " *".toList = [' ', '*'] := rfl
  unfold parse
  rw [e, parseExpr_eq, parseExpr_eq, tokensOf_of_lookup_none hm,
    tokensOf_of_lookup_none (lookup_with_space _ _), splitOn_append_sep, parseTokens_six _ _ h6]
  rfl

/-! ## names and case (tier 2) -/

set_option linter.unusedVariables false in
/-- a glossary name, in any mix of upper and lower case, normalises to its index -/
theorem normalize_name (names : List Str) (i : Nat) (nm : Str) (h : names[i]? = some nm) (hpos : 0 < i)
    (hnodup : names.Nodup) (hup : nm.map upperChar = nm) (hnotnum : atoi nm = none) (v : Str)
    (hv : v.map upperChar = nm) (hvn : atoi v = none) : normalize names v = some (i : Int) := by
  unfold normalize translateLiteral
  rw [hvn, hv, indexOf?_of_nodup names i nm h hnodup]
  rfl

/-- the same without the `atoi` side conditions, for glossaries whose entries (from index 1) are
    words of ASCII capitals: they follow from the shape of the name -/
theorem normalize_glossary (names : List Str) (hok : glossaryOK names = true) (hnodup : names.Nodup)
    (i : Nat) (nm : Str) (h : names[i]? = some nm) (hpos : 0 < i) (v : Str)
    (hv : v.map upperChar = nm) : normalize names v = some (i : Int) := by
  have hw : Wordy v := wordy_of_map_upper v nm hv (glossaryOK_get hok hpos h).1
  unfold normalize translateLiteral
  rw [atoi_wordy v hw, hv, indexOf?_of_nodup names i nm h hnodup]
  rfl

theorem monthNames_ok : glossaryOK monthNames = true := by decide +kernel
theorem monthNames_nodup : monthNames.Nodup := by decide +kernel
theorem dayNames_ok : glossaryOK dayNames = true := by decide +kernel
theorem dayNames_nodup : dayNames.Nodup := by decide +kernel

/-- "jan", "Jan", "JAN", … all mean 1; … ; "dec", "DEC", … all mean 12 -/
theorem normalize_month (i : Nat) (nm : Str) (h : monthNames[i]? = some nm) (hpos : 0 < i) (v : Str)
    (hv : v.map upperChar = nm) : normalize monthNames v = some (i : Int) :=
  normalize_glossary monthNames monthNames_ok monthNames_nodup i nm h hpos v hv

/-- "sun", "Sun", "SUN", … all mean 1; … ; "sat", … all mean 7 -/
theorem normalize_day (i : Nat) (nm : Str) (h : dayNames[i]? = some nm) (hpos : 0 < i) (v : Str)
    (hv : v.map upperChar = nm) : normalize dayNames v = some (i : Int) :=
  normalize_glossary dayNames dayNames_ok dayNames_nodup i nm h hpos v hv

/-- `strconv.Atoi` inverts decimal rendering -/
theorem atoi_render (n : Nat) (h : n ≤ maxInt64) : atoi (Nat.toDigits 10 n) = some (n : Int) :=
  atoi_renderNat n h

/-- names are case-insensitive synonyms of numbers: as a field on its own, a glossary name in any
    case parses exactly like its index written in decimal -/
theorem C07_name_synonym (names : List Str) (hok : glossaryOK names = true) (hnodup : names.Nodup)
    (i : Nat) (nm : Str) (h : names[i]? = some nm) (hpos : 0 < i) (hi : i ≤ maxInt64) (v : Str)
    (hv : v.map upperChar = nm) (b : Bound) :
    parseField v b names = parseField (renderNat i) b names := by
  have hw : Wordy v := wordy_of_map_upper v nm hv (glossaryOK_get hok hpos h).1
  rw [parseField_single v b names hw.not_wild hw.noSep,
    parseField_single (renderNat i) b names (not_wild_of_all_digit _ (renderNat_all_digit i))
      (noSep_renderNat i),
    normalize_glossary names hok hnodup i nm h hpos v hv, normalize_renderNat names i hi]

/-- … and likewise as either end of a range -/
theorem C07_name_synonym_range (names : List Str) (hok : glossaryOK names = true) (hnodup : names.Nodup)
    (i j : Nat) (ni nj : Str) (hi : names[i]? = some ni) (hj : names[j]? = some nj)
    (hipos : 0 < i) (hjpos : 0 < j) (himax : i ≤ maxInt64) (hjmax : j ≤ maxInt64) (v w : Str)
    (hv : v.map upperChar = ni) (hw : w.map upperChar = nj) (b : Bound) :
    parseField (v ++ '-' :: w) b names = parseField (renderNat i ++ '-' :: renderNat j) b names := by
  have wv : Wordy v := wordy_of_map_upper v ni hv (glossaryOK_get hok hipos hi).1
  have ww : Wordy w := wordy_of_map_upper w nj hw (glossaryOK_get hok hjpos hj).1
  rw [parseField_range v w b names wv.noSep ww.noSep,
    parseField_range _ _ b names (noSep_renderNat i) (noSep_renderNat j),
    normalize_glossary names hok hnodup i ni hi hipos v hv,
    normalize_glossary names hok hnodup j nj hj hjpos w hw,
    normalize_renderNat names i himax, normalize_renderNat names j hjmax]

/-! ## round trips: the documented forms are accepted with their documented meaning (tier 2)

`bd.upper ≤ maxInt64` is needed because `strconv.Atoi` fails beyond int64 (all real bounds are tiny). -/

/-- a single in-range number -/
theorem C07_roundtrip_single (a : Nat) (bd : Bound) (names : List Str) (hmax : bd.upper ≤ maxInt64)
    (h1 : bd.lower ≤ a) (h2 : a ≤ bd.upper) :
    parseField (renderNat a) bd names = some { values := [a] } := by
  rw [parseField_single _ bd names (not_wild_of_all_digit _ (renderNat_all_digit a)) (noSep_renderNat a),
    normalize_renderNat names a (by omega)]
  simp [singleOf, inScope_natCast h1 h2]

/-- a glossary name in any case -/
theorem C07_roundtrip_name (names : List Str) (hok : glossaryOK names = true) (hnodup : names.Nodup)
    (i : Nat) (nm : Str) (h : names[i]? = some nm) (hpos : 0 < i) (v : Str)
    (hv : v.map upperChar = nm) (bd : Bound) (h1 : bd.lower ≤ i) (h2 : i ≤ bd.upper) :
    parseField v bd names = some { values := [i] } := by
  have hw : Wordy v := wordy_of_map_upper v nm hv (glossaryOK_get hok hpos h).1
  rw [parseField_single v bd names hw.not_wild hw.noSep,
    normalize_glossary names hok hnodup i nm h hpos v hv]
  simp [singleOf, inScope_natCast h1 h2]

/-- `a-z` means a, a+1, …, z -/
theorem C07_roundtrip_range (a z : Nat) (bd : Bound) (names : List Str) (hmax : bd.upper ≤ maxInt64)
    (h1 : bd.lower ≤ a) (h2 : a ≤ z) (h3 : z ≤ bd.upper) :
    parseField (renderNat a ++ '-' :: renderNat z) bd names =
      some { values := (List.range (z - a + 1)).map (· + a) } := by
  rw [parseField_range _ _ bd names (noSep_renderNat a) (noSep_renderNat z),
    normalize_renderNat names a (by omega), normalize_renderNat names z (by omega)]
  have ia := inScope_natCast h1 (Nat.le_trans h2 h3)
  have iz := inScope_natCast (Nat.le_trans h1 h2) h3
  have : ¬ z < a := by omega
  simp [rangeOf, ia, iz, fillRange, this]

theorem not_contains_renderNat (n : Nat) (c : Char) (hc : isDigit c = false) :
    ¬ ((renderNat n).contains c = true) :=
  not_contains_of_all_digit _ (renderNat_all_digit n) c hc

/-- `a/s` means a, a+s, a+2s, … up to the field's upper bound -/
theorem C07_roundtrip_step (a s : Nat) (bd : Bound) (names : List Str) (hmax : bd.upper ≤ maxInt64)
    (h1 : bd.lower ≤ a) (h2 : a ≤ bd.upper) (hs1 : 1 ≤ s) (hs2 : s ≤ bd.upper) :
    parseField (renderNat a ++ '/' :: renderNat s) bd names =
      some { values := (List.range ((bd.upper - a) / s + 1)).map (fun j => a + j * s) } := by
  rw [parseField_step _ _ bd names (not_contains_renderNat a _ (by decide))
      (not_contains_renderNat s _ (by decide)) (not_contains_renderNat a _ (by decide))
      (not_contains_renderNat s _ (by decide)),
    stepFromTo_from bd names _ (not_wild_of_all_digit _ (renderNat_all_digit a)).1
      (not_contains_renderNat a _ (by decide)),
    normalize_renderNat names a (by omega), atoi_renderNat s (by omega)]
  exact congrArg (Option.map _) (stepOf_natCast h1 h2 (Nat.le_refl _) hs1 hs2)

/-- `*/s` means lower, lower+s, … up to the field's upper bound -/
theorem C07_roundtrip_star_step (s : Nat) (bd : Bound) (names : List Str) (hmax : bd.upper ≤ maxInt64)
    (hb : bd.lower ≤ bd.upper) (hs1 : 1 ≤ s) (hs2 : s ≤ bd.upper) :
    parseField ('*' :: '/' :: renderNat s) bd names =
      some { values := (List.range ((bd.upper - bd.lower) / s + 1)).map (fun j => bd.lower + j * s) } := by
  have e : ('*' :: '/' :: renderNat s) = ['*'] ++ '/' :: renderNat s := rfl
  rw [e, parseField_step _ _ bd names (by decide) (not_contains_renderNat s _ (by decide)) (by decide)
      (not_contains_renderNat s _ (by decide)),
    stepFromTo_star, atoi_renderNat s (by omega)]
  exact congrArg (Option.map _) (stepOf_natCast (Nat.le_refl _) hb (Nat.le_refl _) hs1 hs2)

/-- `a-z/s` means a, a+s, a+2s, … up to z -/
theorem C07_roundtrip_range_step (a z s : Nat) (bd : Bound) (names : List Str)
    (hmax : bd.upper ≤ maxInt64) (h1 : bd.lower ≤ a) (h2 : a ≤ z) (h3 : z ≤ bd.upper)
    (hs1 : 1 ≤ s) (hs2 : s ≤ bd.upper) :
    parseField (renderNat a ++ '-' :: renderNat z ++ '/' :: renderNat s) bd names =
      some { values := (List.range ((z - a) / s + 1)).map (fun j => a + j * s) } := by
  have e : renderNat a ++ '-' :: renderNat z ++ '/' :: renderNat s =
      (renderNat a ++ '-' :: renderNat z) ++ '/' :: renderNat s := by simp
  have nc : ∀ c, isDigit c = false → c ≠ '-' → ¬ ((renderNat a ++ '-' :: renderNat z).contains c = true) :=
    fun c hc hne => not_contains_append_sep (not_contains_renderNat a c hc) hne (not_contains_renderNat z c hc)
  rw [e, parseField_step _ _ bd names (nc _ (by decide) (by decide))
      (not_contains_renderNat s _ (by decide)) (nc _ (by decide) (by decide))
      (not_contains_renderNat s _ (by decide)),
    stepFromTo_range bd names _ _ (not_contains_renderNat a _ (by decide))
      (not_contains_renderNat z _ (by decide)),
    normalize_renderNat names a (by omega), normalize_renderNat names z (by omega),
    atoi_renderNat s (by omega)]
  exact congrArg (Option.map _) (stepOf_natCast h1 h2 h3 hs1 hs2)

/-! ## syntactic rejections: unknown / out-of-range values in every position (tier 2) -/

/-- a single value that is neither a number nor a known name, or is out of range, is rejected -/
theorem C07_rejects_bad_single (v : Str) (b : Bound) (names : List Str) (hw : v ≠ ['*'] ∧ v ≠ ['?'])
    (hs : noSep v = true)
    (h : ∀ x, normalize names v = some x → x < b.lower ∨ x > b.upper) :
    parseField v b names = none := by
  rw [parseField_single v b names hw hs]
  cases hn : normalize names v with
  | none => rfl
  | some x => simp [singleOf, inScope_eq_false (h x hn)]

/-- a range with an unknown or out-of-range end, or with its ends reversed, is rejected -/
theorem C07_rejects_bad_range (a z : Str) (b : Bound) (names : List Str)
    (ha : noSep a = true) (hz : noSep z = true)
    (h : ∀ x y, normalize names a = some x → normalize names z = some y →
      x < b.lower ∨ x > b.upper ∨ y < b.lower ∨ y > b.upper ∨ y < x) :
    parseField (a ++ '-' :: z) b names = none := by
  rw [parseField_range a z b names ha hz]
  cases hx : normalize names a with
  | none => simp [rangeOf]
  | some x =>
    cases hy : normalize names z with
    | none => simp [rangeOf]
    | some y =>
      simp only [rangeOf, Option.map_eq_none_iff]
      split
      · rename_i hsc
        simp only [Bool.and_eq_true, inScope_iff] at hsc
        have := h x y hx hy
        unfold fillRange
        have : y.toNat < x.toNat := by omega
        simp [this]
      · rfl

/-- a step with an unknown or out-of-range start (or range end) is rejected, whatever the increment -/
theorem C07_rejects_bad_step_start (t0 t1 : Str) (b : Bound) (names : List Str)
    (h0 : ¬ t0.contains '/') (h1 : ¬ t1.contains '/')
    (h : ∀ frm to, stepFromTo b names t0 = some (frm, to) →
      frm < b.lower ∨ frm > b.upper ∨ to < b.lower ∨ to > b.upper ∨ to < frm) :
    parseStep (t0 ++ '/' :: t1) b names = none := by
  rw [parseStep_eq t0 t1 b names h0 h1]
  unfold stepOf
  split
  · rename_i frm to step hft _
    split
    · rename_i hsc
      simp only [Bool.and_eq_true, inScope_iff] at hsc
      have := h frm to hft
      unfold fillStep
      have : to.toNat < frm.toNat := by omega
      simp [this]
    · rfl
  · rfl

/-- a list is rejected as soon as one member — plain value, range or step — would be rejected -/
theorem C07_rejects_bad_list_member (fld : Str) (b : Bound) (names : List Str) (t : Str)
    (ht : t ∈ splitOn ',' fld) (hbad : parseMember t b names = none) :
    parseList fld b names = none := by
  cases hp : parseList fld b names with
  | none => rfl
  | some l =>
    have := parseList_members hp t ht
    rw [hbad] at this; cases this

/-- … where a member that is not a wildcard is judged exactly like a field on its own -/
theorem C07_list_member_as_field (fld : Str) (b : Bound) (names : List Str) (t : Str)
    (ht : t ∈ splitOn ',' fld) (hw : t ≠ ['*'] ∧ t ≠ ['?']) :
    parseField t b names = (parseMember t b names).map (fun v => { values := v }) := by
  apply parseField_eq_member t b names hw
  intro hc
  exact splitOn_no_sep_mem ',' fld t ht ',' (by simpa using hc) rfl

/-! ## whitespace, concretely (extra)

`C07_whitespace` says the parse depends only on `trimExpr s`; these three say what `trimExpr`
ignores: how much and which RE2 white space (`\t \n \f \r` blank) separates two parts, and any white
space at either end. -/

/-- any non-empty run of white space between two parts can be replaced by any other -/
theorem C07_whitespace_between (x y w1 w2 : Str) (h1 : w1 ≠ []) (h2 : w2 ≠ [])
    (a1 : ∀ c ∈ w1, isReSpace c = true) (a2 : ∀ c ∈ w2, isReSpace c = true) :
    parse {} (x ++ w1 ++ y) = parse {} (x ++ w2 ++ y) :=
  C07_whitespace _ _ (trimExpr_between x y w1 w2 h1 h2 a1 a2)

/-- any run of `\s` characters (tabs, newlines, … not only blanks) before the expression changes nothing -/
theorem C07_whitespace_leading (w x : Str) (hw : ∀ c ∈ w, isReSpace c = true) :
    parse {} (w ++ x) = parse {} x :=
  C07_whitespace _ _ (trimExpr_leading w x hw)

/-- … nor after it -/
theorem C07_whitespace_trailing (x w : Str) (hw : ∀ c ∈ w, isReSpace c = true) :
    parse {} (x ++ w) = parse {} x :=
  C07_whitespace _ _ (trimExpr_trailing x w hw)

/-! ## the list field, exactly (extra) -/

/-- a list means the sorted union of its members, each parsed on its own as a step, a range or a
    single value (`parseMember`); it is accepted iff every member is -/
theorem C07_list_meaning (fld : Str) (b : Bound) (names : List Str) (hc : fld.contains ',' = true) :
    parseField fld b names =
      (mapM' (fun t => parseMember t b names) (splitOn ',' fld)).map
        (fun vs => { values := sortNat vs.flatten }) := by
  obtain ⟨w1, w2⟩ := not_wild_of_contains hc (by decide) (by decide)
  unfold parseField
  simp only [w1, w2, or_self, if_false, hc, if_true, parseList_eq, Option.map_map]
  rfl

/-! ## the expression level, exactly (extra) -/

/-- a seven-field expression is accepted iff at least one day field is unrestricted and every field
    is accepted by its own parser; the result is assembled field by field (`buildFields`) -/
theorem C07_seven_fields (s : Str) (hm : specialTable.lookup (trimExpr s) = none)
    (t0 t1 t2 t3 t4 t5 t6 : Str) (hs : splitOn ' ' (trimExpr s) = [t0, t1, t2, t3, t4, t5, t6]) :
    parse {} s =
      if anyDay t3 || anyDay t5 then buildFields {} [t0, t1, t2, t3, t4, t5, t6] else none := by
  unfold parse
  rw [parseExpr_eq, tokensOf_of_lookup_none hm, hs]
  unfold parseTokens
  cases h3 : anyDay t3 <;> cases h5 : anyDay t5 <;> simp [h3, h5]

/-- every expression made of seven individually accepted fields, one day field unrestricted, is
    accepted, with exactly the field-wise meaning -/
theorem C07_accepts (s : Str) (hm : specialTable.lookup (trimExpr s) = none)
    (t0 t1 t2 t3 t4 t5 t6 : Str) (hs : splitOn ' ' (trimExpr s) = [t0, t1, t2, t3, t4, t5, t6])
    (hd : anyDay t3 = true ∨ anyDay t5 = true) (f0 f1 f2 f3 f4 f5 f6 : Field)
    (h0 : parseField t0 ⟨0, 59⟩ [] = some f0) (h1 : parseField t1 ⟨0, 59⟩ [] = some f1)
    (h2 : parseField t2 ⟨0, 23⟩ [] = some f2) (h3 : parseDom t3 ⟨1, 31⟩ = some f3)
    (h4 : parseField t4 ⟨1, 12⟩ monthNames = some f4) (h5 : parseDow t5 ⟨1, 7⟩ = some f5)
    (h6 : parseField t6 ⟨1970, 3940⟩ [] = some f6) :
    parse {} s = some { sec := f0, min := f1, hour := f2, dom := f3, month := f4,
                        dow := { f5 with values := f5.values.map (· - 1) }, year := f6 } := by
  rw [C07_seven_fields s hm t0 t1 t2 t3 t4 t5 t6 hs]
  have : (anyDay t3 || anyDay t5) = true := by rcases hd with h | h <;> simp [h]
  rw [this]
  show buildFields {} [t0, t1, t2, t3, t4, t5, t6] = _
  unfold buildFields
  simp only
  rw [h0, h1, h2, h3, h4, h5, h6]

/-! ## non-vacuity: the hypotheses are satisfiable on concrete, non-trivial inputs -/

section NonVacuity

def exAccepted : Str := "0 0/5 14,18 * JAN-mar ?".toList
def exAcceptedFields : Fields :=
  { sec := { values := [0] }, min := { values := [0, 5, 10, 15, 20, 25, 30, 35, 40, 45, 50, 55] },
    hour := { values := [14, 18] }, dom := { values := [] }, month := { values := [1, 2, 3] },
    dow := { values := [] }, year := { values := [] } }

theorem parse_exAccepted : parse {} exAccepted = some exAcceptedFields := by unfold exAccepted; decide_parse

/-- `parse_wellFormed` / `newTrigger_wellFormed` apply to a non-trivial accepted expression -/
example : parse {} exAccepted = some exAcceptedFields := parse_exAccepted
example : newTrigger {} exAccepted = some exAcceptedFields := congrArg (Option.map finish) parse_exAccepted
example : WellFormed exAcceptedFields = true := parse_wellFormed _ _ parse_exAccepted
/-- the all-wildcard expression: `finish` fills in the seconds -/
example : (newTrigger {} "* * * * * ?".toList).map (·.sec.values) = some (List.range 60) := by
  unfold newTrigger; decide_parse
/-- the special day rules are accepted in their own field … -/
example : (parse {} "0 15 10 L-2 * ?".toList).map (·.dom) = some { values := [], n := -2 } := by decide_parse
example : (parse {} "0 15 10 15W * ?".toList).map (·.dom) = some { values := [15], n := 2 } := by decide_parse
example : (parse {} "0 15 10 LW * ?".toList).map (·.dom) = some { values := [0], n := 3 } := by decide_parse
example : (parse {} "0 15 10 ? * 6L".toList).map (·.dow) = some { values := [5], n := -1 } := by decide_parse
example : (parse {} "0 15 10 ? * fri#3".toList).map (·.dow) = some { values := [5], n := 3 } := by decide_parse
/-- … and rejected when misplaced, combined or out of range -/
example : parse {} "L 15 10 ? * ?".toList = none := by decide_parse
example : parse {} "0 15 10 ? L ?".toList = none := by decide_parse
example : parse {} "0 15 10 L,15 * ?".toList = none := by decide_parse
example : parse {} "0 15 10 1-15W * ?".toList = none := by decide_parse
example : parse {} "0 15 10 L-32 * ?".toList = none := by decide_parse
example : parse {} "0 15 10 32W * ?".toList = none := by decide_parse
example : parse {} "0 15 10 ? * 6#6".toList = none := by decide_parse
example : parse {} "0 15 10 ? * 2,6L".toList = none := by decide_parse
example : parse {} "0 15 10 ? * 6L#2".toList = none := by decide_parse
example : parse {} "0 15 10 15 * 6#3".toList = none := by decide_parse
/-- out-of-range / unknown values inside lists, ranges and steps -/
example : parse {} "0 15,60 10 * * ?".toList = none := by decide_parse
example : parse {} "0 15 10-24 * * ?".toList = none := by decide_parse
example : parse {} "0 15 10 * 0-3 ?".toList = none := by decide_parse
example : parse {} "0 15 10 * JAN,FOO ?".toList = none := by decide_parse
example : parse {} "0 60/5 10 * * ?".toList = none := by decide_parse
example : parse {} "0 5-61/5 10 * * ?".toList = none := by decide_parse
example : parse {} "0 15 10 * * ? 1969".toList = none := by decide_parse

/-- `C07_rejects_field_count`: five and eight fields -/
example : parse {} "0 0 0 * *".toList = none :=
  C07_rejects_field_count _ (by decide_text) (Or.inl (by decide_text))
example : parse {} " 0 0 0 * * ? * * ".toList = none :=
  C07_rejects_field_count _ (by decide_text) (Or.inr (by decide_text))

example : parse {} "0 0 0 1 * 2".toList = none :=
  C07_rejects_both_days _ (by decide_text) ⟨by decide_text, by decide_text⟩

/-- `C07_rejects_bad_step`: zero, non-numeric, too large -/
example : parseStep "0/0".toList ⟨0, 59⟩ [] = none :=
  C07_rejects_bad_step "0".toList "0".toList ⟨0, 59⟩ [] (by decide) (by decide)
    (fun k hk => by
      rw [show atoi "0".toList = some 0 by decide_text] at hk; cases hk; decide)
example : parseStep "1-5/x".toList ⟨0, 59⟩ [] = none :=
  C07_rejects_bad_step "1-5".toList "x".toList ⟨0, 59⟩ [] (by decide) (by decide)
    (fun k hk => by
      rw [show atoi "x".toList = none by decide_text] at hk; cases hk)
example : parseStep "*/60".toList ⟨0, 59⟩ [] = none :=
  C07_rejects_bad_step "*".toList "60".toList ⟨0, 59⟩ [] (by decide) (by decide)
    (fun k hk => by
      rw [show atoi "60".toList = some 60 by decide_text] at hk; cases hk; decide)
/-- … and the rejection propagates to the whole expression, also from inside a list -/
example : parse {} "0 0/0 * * * ?".toList = none := by decide_parse
example : parse {} "0 1,0/0 * * * ?".toList = none := by decide_parse
example : parse {} "0 1,2/x * * * ?".toList = none := by decide_parse

/-- `parseField_inRange`: list with a step, a range and a name, lower/upper case -/
example : parseField "dec,1-3,2/5,Jun".toList ⟨1, 12⟩ monthNames =
    some { values := [1, 2, 2, 3, 6, 7, 12, 12] } := by decide_text

/-- `C07_whitespace`: tabs, newlines, runs of blanks, leading/trailing blanks -/
example : parse {} "  0\t 0/5  14,18\n*   JAN-mar ? \r\n".toList = parse {} exAccepted :=
  C07_whitespace _ _ (by unfold exAccepted; rw [String.toList_ofList]; decide_text)

example : parse {} exAccepted = parseExpr {} "0 0/5 14,18 * JAN-mar ? *".toList :=
  (C07_missing_year exAccepted (by unfold exAccepted; decide_text) (by unfold exAccepted; decide_text)).trans
    (congrArg _ (by unfold exAccepted; rw [String.toList_ofList, String.toList_ofList]; decide_text))
example : parse {} "0 0 0 1 1 ? *".toList = parse {} "0 0 0 1 1 ?".toList := by
  rw [String.toList_ofList, String.toList_ofList, parse_eq_match, parse_eq_match]; decide +kernel

example : parse {} "@yearly".toList = parse {} "0 0 0 1 1 *".toList := C07_macros (_, _) (by decide +kernel)
example : (parse {} "@hourly".toList).isSome = true := by decide_parse

/-- `normalize_name` / `normalize_month` / `normalize_day`: any mix of cases -/
example : normalize monthNames "mAr".toList = some 3 :=
  normalize_name monthNames 3 "MAR".toList (by decide_text) (by decide) monthNames_nodup (by decide_text)
    (by decide_text) "mAr".toList (by decide_text) (by decide_text)
example : normalize monthNames "jan".toList = some 1 := normalize_month 1 "JAN".toList (by decide) (by decide) _ (by decide)
example : normalize monthNames "Jan".toList = some 1 := normalize_month 1 "JAN".toList (by decide) (by decide) _ (by decide)
example : normalize monthNames "JAN".toList = some 1 := normalize_month 1 "JAN".toList (by decide) (by decide) _ (by decide)
example : normalize monthNames "dEC".toList = some 12 := normalize_month 12 "DEC".toList (by decide) (by decide) _ (by decide)
example : normalize dayNames "sat".toList = some 7 := normalize_day 7 "SAT".toList (by decide) (by decide) _ (by decide)
example : normalize dayNames "Sun".toList = some 1 := normalize_day 1 "SUN".toList (by decide) (by decide) _ (by decide)
/-- … whereas a name of the other glossary, or a misspelt one, is unknown -/
example : normalize monthNames "mon".toList = none := by decide_text
example : normalize dayNames "sunday".toList = none := by decide_text

example : atoi "1970".toList = some 1970 := atoi_render 1970 (by decide)

example : parseField "oct".toList ⟨1, 12⟩ monthNames = parseField "10".toList ⟨1, 12⟩ monthNames :=
  C07_name_synonym monthNames monthNames_ok monthNames_nodup 10 "OCT".toList (by decide_text) (by decide) (by decide) _
    (by decide_text) _
example : parseField "mon-Fri".toList ⟨1, 7⟩ dayNames = parseField "2-6".toList ⟨1, 7⟩ dayNames :=
  C07_name_synonym_range dayNames dayNames_ok dayNames_nodup 2 6 "MON".toList "FRI".toList (by decide_text)
    (by decide_text) (by decide) (by decide) (by decide) (by decide) "mon".toList "Fri".toList (by decide_text)
    (by decide_text) _
example : parse {} "0 0 0 ? jan,MAR-may,Oct/1 mon-Fri".toList = parse {} "0 0 0 ? 1,3-5,10/1 2-6".toList := by
  rw [String.toList_ofList, String.toList_ofList, parse_eq_match, parse_eq_match]; decide +kernel

example : parseField "17".toList ⟨0, 23⟩ [] = some { values := [17] } :=
  C07_roundtrip_single 17 ⟨0, 23⟩ [] (by decide) (by decide) (by decide)
example : parseField "wEd".toList ⟨1, 7⟩ dayNames = some { values := [4] } :=
  C07_roundtrip_name dayNames dayNames_ok dayNames_nodup 4 "WED".toList (by decide_text) (by decide) _
    (by decide_text) _ (by decide) (by decide)
example : parseField "10-12".toList ⟨0, 23⟩ [] = some { values := [10, 11, 12] } :=
  C07_roundtrip_range 10 12 ⟨0, 23⟩ [] (by decide) (by decide) (by decide) (by decide)
example : parseField "0/15".toList ⟨0, 59⟩ [] = some { values := [0, 15, 30, 45] } :=
  C07_roundtrip_step 0 15 ⟨0, 59⟩ [] (by decide) (by decide) (by decide) (by decide) (by decide)
example : parseField "*/4".toList ⟨1, 12⟩ monthNames = some { values := [1, 5, 9] } :=
  C07_roundtrip_star_step 4 ⟨1, 12⟩ monthNames (by decide) (by decide) (by decide) (by decide)
example : parseField "10-20/5".toList ⟨0, 59⟩ [] = some { values := [10, 15, 20] } :=
  C07_roundtrip_range_step 10 20 5 ⟨0, 59⟩ [] (by decide) (by decide) (by decide) (by decide)
    (by decide) (by decide)

example : parseField "60".toList ⟨0, 59⟩ [] = none :=
  C07_rejects_bad_single _ _ _ (by decide) (by decide) (fun x hx => by
    rw [show normalize [] "60".toList = some 60 by decide_text] at hx; cases hx; decide)
example : parseField "FOO".toList ⟨1, 12⟩ monthNames = none :=
  C07_rejects_bad_single _ _ _ (by decide) (by decide) (fun x hx => by
    rw [show normalize monthNames "FOO".toList = none by decide_text] at hx; cases hx)
example : parseField "5-2".toList ⟨0, 59⟩ [] = none :=
  C07_rejects_bad_range "5".toList "2".toList _ _ (by decide) (by decide) (fun x y hx hy => by
    rw [show normalize [] "5".toList = some 5 by decide_text] at hx
    rw [show normalize [] "2".toList = some 2 by decide_text] at hy
    cases hx; cases hy; decide)
example : parseStep "61/5".toList ⟨0, 59⟩ [] = none :=
  C07_rejects_bad_step_start "61".toList "5".toList _ _ (by decide) (by decide) (fun frm to h => by
    rw [show stepFromTo ⟨0, 59⟩ [] "61".toList = some (61, 59) by decide_text] at h; cases h; decide)
example : parseList "1,60,3".toList ⟨0, 59⟩ [] = none :=
  C07_rejects_bad_list_member _ _ _ "60".toList (by decide) (by decide)
example : parseList "1,2-x,3".toList ⟨0, 59⟩ [] = none :=
  C07_rejects_bad_list_member _ _ _ "2-x".toList (by decide) (by decide)
example : parseList "1,*,3".toList ⟨0, 59⟩ [] = none :=
  C07_rejects_bad_list_member _ _ _ "*".toList (by decide) (by decide)

example : parse {} "0 0\t\n 12 * * ?".toList = parse {} "0 0 12 * * ?".toList :=
  (congrArg (parse {}) (by decide_text)).trans <|
    (C07_whitespace_between "0 0".toList "12 * * ?".toList "\t\n ".toList " ".toList (by decide) (by decide)
      (by decide_text) (by decide_text)).trans (congrArg (parse {}) (by decide_text))
example : parse {} " \n0 0 12 * * ?".toList = parse {} "0 0 12 * * ?".toList :=
  (congrArg (parse {}) (by decide_text)).trans
    (C07_whitespace_leading " \n".toList "0 0 12 * * ?".toList (by decide_text))
example : parse {} "0 0 12 * * ?\r\n".toList = parse {} "0 0 12 * * ?".toList :=
  (congrArg (parse {}) (by decide_text)).trans
    (C07_whitespace_trailing "0 0 12 * * ?".toList "\r\n".toList (by decide_text))
/-- white space is a separator, though: removing it altogether changes the field count -/
example : parse {} "0 012 * * ?".toList = none := by decide_parse

example : parseField "dec,1-3,2/5,Jun".toList ⟨1, 12⟩ monthNames =
    some { values := sortNat ([[12], [1, 2, 3], [2, 7, 12], [6]] : List (List Nat)).flatten } :=
  (C07_list_meaning _ _ _ (by decide_text)).trans (by decide_text)

example : parse {} "0 0/5 14,18 * JAN-mar ? 2030".toList =
    some { exAcceptedFields with year := { values := [2030] } } :=
  C07_accepts _ (by decide_text) "0".toList "0/5".toList "14,18".toList "*".toList "JAN-mar".toList
    "?".toList "2030".toList (by decide_text) (Or.inl (by decide_text)) _ _ _ _ _ _ _
    (by decide_text : _ = some { values := [0] })
    (by decide_text : _ = some { values := [0, 5, 10, 15, 20, 25, 30, 35, 40, 45, 50, 55] })
    (by decide_text : _ = some { values := [14, 18] }) (by decide_text : _ = some { values := [] })
    (by decide_text : _ = some { values := [1, 2, 3] }) (by decide_text : _ = some { values := [] })
    (by decide_text : _ = some { values := [2030] })

end NonVacuity

end Cron
