import QuartzModel.Generated.Facts
import QuartzModel.Theorems.C10Locks
/-! # The lock discipline of the code as it is (C10; also the atomic-step argument of C09)

`Generated.Mtx.shapes` is regenerated on every run from `/repo/quartz/scheduler.go`: for every method of
`StdScheduler`, the lock operations it performs in order (calls of other methods expanded in place,
deferred unlocks at the end). Every one of them is a program of the lock hierarchy `Bl` (inside the queue
lock the lifecycle mutex may be taken and released again, in either mode, any number of times; nothing else nests), hence — by
`C10_lock_order_reachable` — goroutines that call these methods in any order and any interleaving never
deadlock on the scheduler's own locks. A method that re-enters the RWMutex (`C10_recursive_rlock_deadlocks`)
or inverts the order (`C10_reverse_order_deadlocks`) makes `C10_lock_shapes_good` fail. -/
namespace LockOrder

def opOfTok : String → Option Op
  | "acqA" => some .acqA
  | "relA" => some .relA
  | "acqBr" => some (.acqB .r)
  | "relBr" => some (.relB .r)
  | "acqBw" => some (.acqB .w)
  | "relBw" => some (.relB .w)
  | _ => none

def opsOfToks (l : List String) : Option (List Op) := l.mapM opOfTok

/-- the program of a method of the code as it is (`none`: an operation the extractor could not classify) -/
def codeProg (m : String) : Option (List Op) :=
  (Generated.Mtx.shapes.lookup m).bind opsOfToks

/-- the regenerated programs, decoded -/
def codeProgs : List (Option (List Op)) := Generated.Mtx.shapes.map (fun p => opsOfToks p.2)

/-- every method's lock operations were recognised and form a program of the hierarchy -/
theorem C10_lock_shapes_good :
    codeProgs.all (fun o => match o with | some p => blCheck p | none => false) = true := by decide +kernel

/-- the methods that run as threads of their own or are called by users are among them -/
theorem C10_lock_shapes_cover :
    ["ScheduleJob", "DeleteJob", "PauseJob", "ResumeJob", "Clear", "GetJobKeys", "GetScheduledJob", "IsStarted",
     "Start", "Stop", "stopRun", "startExecutionLoop"].all
      (fun m => (Generated.Mtx.shapes.lookup m).isSome) = true := by decide +kernel

theorem codeProg_good {m : String} {p : List Op} (h : codeProg m = some p) : Bl p := by
  obtain ⟨toks, hl, h⟩ := Option.bind_eq_some_iff.1 h
  obtain ⟨l1, l2, hh, _⟩ := List.lookup_eq_some_iff.1 hl
  have hmem : opsOfToks toks ∈ codeProgs := List.mem_map.2 ⟨(m, toks), by rw [hh]; simp, rfl⟩
  have hc := List.all_eq_true.1 C10_lock_shapes_good _ hmem
  rw [h] at hc
  exact blCheck_sound hc

/-- **No deadlock on the scheduler's locks, for the code as it is.** Any number of goroutines, each
calling any sequence of `StdScheduler` methods (API calls, the execution loop, the context watcher's
`stopRun`), any interleaving, with Go's writer-preferring `RWMutex`: no reachable state is deadlocked. -/
theorem C10_no_lock_deadlock_code (threads : List (List String))
    (progs : List (List (List Op)))
    (hlen : progs.length = threads.length)
    (h : ∀ i (hi : i < threads.length), (threads[i]).map codeProg = (progs[i]'(hlen ▸ hi)).map some)
    {s : State} (hr : Reach (initState (progs.map List.flatten)) s) : deadlocked s = false := by
  refine C10_lock_order_reachable _ (fun p hp => ?_) hr
  obtain ⟨ps, hps, rfl⟩ := List.mem_map.1 hp
  obtain ⟨i, hi, rfl⟩ := List.getElem_of_mem hps
  -- every block of `progs[i]` is the program of a real method
  refine Bl_flatten (fun q hq => ?_)
  have : some q ∈ (threads[i]'(hlen ▸ hi)).map codeProg := h i (hlen ▸ hi) ▸ List.mem_map_of_mem hq
  obtain ⟨m, -, hmq⟩ := List.mem_map.1 this
  exact codeProg_good hmq

/-- non-vacuity: ScheduleJob takes the queue lock and, inside it, the lifecycle mutex for reading -/
example : codeProg "ScheduleJob" = some [.acqA, .acqB .r, .relB .r, .relA] ∧
    codeProg "Stop" = some [.acqB .w, .relB .w] ∧ codeProg "IsStarted" = some [.acqB .r, .relB .r] := by decide +kernel

end LockOrder
