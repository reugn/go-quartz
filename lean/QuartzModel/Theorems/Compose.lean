import QuartzModel.Proofs.ComposeLemmas
import QuartzModel.Theorems.C03
import QuartzModel.Theorems.C07
/-!
# Composition: the scheduler (C03 / C04) with a cron trigger (C01 / C02 / C07)

`Trig.cron f c` is `quartz.CronTrigger` with parsed fields `f` in a fixed-offset location `c` seconds
east of UTC; its `fire prev` is `Cron.nextFire {} f (Cron.fixedZone c) prev` (`cronNext f c prev`,
`none` = the trigger's error) and it has no state.  Times are Unix nanoseconds.

* `cron_job_runs_only_at_matching_instants` (C03 ∘ C01): in every history from the empty scheduler the
  job is handed to a worker only for instants that are whole seconds whose civil reading in the job's
  location satisfies the expression; `parsed_cron_job_runs_only_at_matching_instants` is the same for a
  job built from an accepted expression string (C07 discharges well-formedness).
* `cron_job_dispatch_is_first_match`: that instant is moreover the FIRST matching instant after the
  argument of an earlier call on the job's own trigger.
* `cron_job_never_early`: the step that dispatches it reads a clock `now` with
  `d.time ≤ now ≤ d.time + thr`.
* `cron_job_no_skip_while_on_time` (C04 no-drift ∘ C02): under loop steps only, never more than `thr`
  late, the dispatched fire times are exactly the first `k` matching instants after the clock reading
  of `ScheduleJob`, none skipped (`NoSkip`); `cron_job_runs_exactly_the_first_matches` reads this as a
  set equation (`ExactlyFirst`), `cron_job_no_skip_from_empty` states both for whole histories from
  the empty scheduler.
* `cron_job_leaves_when_expired` / `cron_job_stays_iff_match_left` (C04 ∘ C02): the job leaves the
  registry exactly when no matching instant is left.
-/
namespace Sched
open Queue

/-! ## 1. a cron job runs only at matching instants -/

/-- (extra, C03 ∘ C01 ∘ C02) the dispatched instant answers an EARLIER call `k` on the job's own
trigger, whose argument `pv` is `≥ 0`, and it is the first matching whole second after `pv`: it lies
after `pv` and no matching whole second lies strictly between -/
theorem cron_job_dispatch_is_first_match (thr : Int) (evs : List Ev) (hft : FreshTags evs)
    (hclk : NonnegClock evs) (now0 : Int) (a : SchedArgs) (f : Cron.Fields) (c : Int)
    (hsch : Ev.schedule now0 a ∈ evs) (ha : a.trig = some (.cron f c))
    (hwff : Cron.WellFormed f = true) (hc : -100000 ≤ c ∧ c ≤ 100000)
    (d : Disp) (hd : d ∈ dispatches (run thr {} evs).2) (hdt : d.tag = a.tag) :
    ∃ k pv, k < d.pos ∧ (callLog (run thr {} evs).2)[k]? = some ⟨a.tag, pv, some d.time⟩ ∧
      0 ≤ pv ∧ pv < d.time ∧ cronNext f c pv = some d.time ∧
      ∀ u : Int, pv < u → u < d.time → u % 1000000000 = 0 →
        ¬ Cron.Matches f (Cal.Civil.ofSeconds (u / 1000000000 + c)) := by
  obtain ⟨k, pv, hlt, hk⟩ := C03_dispatch_answers_own_trigger thr evs hft d hd
  obtain ⟨(h0 : 0 ≤ pv), hres⟩ :=
    cron_calls thr evs hft hclk now0 a f c hsch ha hwff hc _ (List.mem_of_getElem? hk) hdt
  have hres' : cronNext f c pv = some d.time := hres.symm
  rw [hdt] at hk
  exact ⟨k, pv, hlt, hk, h0, (cronNext_sound f hwff c pv hc (by omega) d.time hres').2.1, hres',
    cronNext_minimal f hwff c pv hc (by omega) d.time hres'⟩

/-- **C03 ∘ C01.**  Any history `evs` from the empty scheduler — API calls and loop steps in any order,
clock readings arbitrary (also non-monotone) but not before the epoch, every `ScheduleJob` with its own
trigger object.  If one of its `ScheduleJob` events brought the job with tag `a.tag` and a cron trigger
with well-formed fields `f` in the fixed-offset location `c`, then every dispatch of that job is for an
instant `d.time` that is a whole second whose civil reading at offset `c` satisfies the expression. -/
theorem cron_job_runs_only_at_matching_instants (thr : Int) (evs : List Ev) (hft : FreshTags evs)
    (hclk : NonnegClock evs) (now0 : Int) (a : SchedArgs) (f : Cron.Fields) (c : Int)
    (hsch : Ev.schedule now0 a ∈ evs) (ha : a.trig = some (.cron f c))
    (hwff : Cron.WellFormed f = true) (hc : -100000 ≤ c ∧ c ≤ 100000)
    (d : Disp) (hd : d ∈ dispatches (run thr {} evs).2) (hdt : d.tag = a.tag) :
    d.time % 1000000000 = 0 ∧ Cron.Matches f (Cal.Civil.ofSeconds (d.time / 1000000000 + c)) := by
  obtain ⟨_, pv, _, _, h0, _, hres, _⟩ :=
    cron_job_dispatch_is_first_match thr evs hft hclk now0 a f c hsch ha hwff hc d hd hdt
  obtain ⟨h1, _, h3⟩ := cronNext_sound f hwff c pv hc (by omega) d.time hres
  exact ⟨h1, h3⟩

/-! ## 2. ... and never early -/

/-- **C03 (never early) ∘ C01.**  Every dispatch of the cron job was made by a loop step of the history
(`evs = evs1 ++ .step now :: evs2`, the dispatch is the one that step's observation shows); the clock
reading `now` of that step is not before the dispatched instant and at most `thr` after it; and the
instant satisfies the expression.  So whenever the job runs, a matching instant lies in
`[now - thr, now]`. -/
theorem cron_job_never_early (thr : Int) (evs : List Ev) (hft : FreshTags evs)
    (hclk : NonnegClock evs) (now0 : Int) (a : SchedArgs) (f : Cron.Fields) (c : Int)
    (hsch : Ev.schedule now0 a ∈ evs) (ha : a.trig = some (.cron f c))
    (hwff : Cron.WellFormed f = true) (hc : -100000 ≤ c ∧ c ≤ 100000)
    (d : Disp) (hd : d ∈ dispatches (run thr {} evs).2) (hdt : d.tag = a.tag) :
    ∃ (evs1 : List Ev) (now : Int) (evs2 : List Ev), evs = evs1 ++ .step now :: evs2 ∧
      (apply thr (run thr {} evs1).1 (.step now)).2.disp? (callLog (run thr {} evs1).2).length = some d ∧
      d.time ≤ now ∧ now - thr ≤ d.time ∧
      d.time % 1000000000 = 0 ∧ Cron.Matches f (Cal.Civil.ofSeconds (d.time / 1000000000 + c)) := by
  obtain ⟨evs1, now, evs2, h1, h2, h3, h4⟩ := dispatch_at_step thr {} wf0_empty evs d hd
  obtain ⟨h5, h6⟩ :=
    cron_job_runs_only_at_matching_instants thr evs hft hclk now0 a f c hsch ha hwff hc d hd hdt
  exact ⟨evs1, now, evs2, h1, h2, h3, h4, h5, h6⟩

/-- the same, one step: a step at clock reading `now` from ANY state that hands entry `e` to a worker
has `e.prio ≤ now` (restated from `C03_never_early` for reference) -/
theorem cron_job_never_early_step (s : SState) (now thr : Int) (e : Entry)
    (hd : (step s now thr).2.dispatched = true) (hp : (step s now thr).2.popped = some e) :
    e.prio ≤ now ∧ now - thr ≤ e.prio :=
  have ⟨h1, h2, _⟩ := C03_never_early s now thr e hd hp
  ⟨h1, h2⟩

/-! ## 3. no matching instant is skipped while the loop is on time -/

/-- **C04 (no drift) ∘ C02.**  `ScheduleJob` at clock reading `now0` (any int64 value, `now0 ≥ -2^63`,
also before 1970) registers an active cron job (new trigger object) in a reachable state `s`; then ANY history of loop steps follows — at arbitrary
clock readings, spurious, out of order, interleaved with steps that serve other jobs — in which no step
finds the job more than `thr` late.  Then, with `k` the number of its dispatches:
* the dispatched fire times are `chain f c now0 k = [r₁, …, r_k]`, `r₁ = next(now0)`, `rᵢ₊₁ = next(rᵢ)`
  (all `k` exist), whatever the clock readings were;
* (`NoSkip`) each is a whole second after its predecessor (`now0` for the first) that satisfies the
  expression, and NO matching whole second lies strictly between two consecutive ones, nor between
  `now0` and the first;
* the calls on its trigger during these steps were made with exactly these scheduled fire times (not
  the clock) as arguments;
* afterwards the job sits in the registry with fire time `next(r_k)` (`next(now0)` if `k = 0`), or has
  left it if the trigger reports that nothing is left. -/
theorem cron_job_no_skip_while_on_time (thr : Int) (s s1 : SState) (calls : List TrigCall) (hwf : WF s)
    (now0 : Int) (h0 : -9223372036854775808 ≤ now0) (a : SchedArgs) (f : Cron.Fields) (c : Int)
    (ha : a.trig = some (.cron f c)) (hs : a.suspended = false)
    (hwff : Cron.WellFormed f = true) (hc : -100000 ≤ c ∧ c ≤ 100000)
    (hfresh : AbsentTag a.tag s) (hsched : schedule s now0 a = (s1, none, calls))
    (evs : List Ev) (hos : OnlySteps evs) (hno : NeverOutdated a.tag (run thr s1 evs).2) :
    ∃ k : Nat,
      dispatchTimes a.tag (run thr s1 evs).2 = chain f c now0 k ∧
      (chain f c now0 k).length = k ∧
      NoSkip f c now0 (dispatchTimes a.tag (run thr s1 evs).2) ∧
      (callLog (run thr s1 evs).2).filter (fun cl => cl.tag == a.tag) =
        (chain f c now0 k).map (fun p => (⟨a.tag, p, cronNext f c p⟩ : TrigCall)) ∧
      (∀ r, cronNext f c (lastOr now0 (chain f c now0 k)) = some r →
        a.entry r ∈ (run thr s1 evs).1.q.toList ∧ (run thr s1 evs).1.trig a.tag = .cron f c) ∧
      (cronNext f c (lastOr now0 (chain f c now0 k)) = none → AbsentTag a.tag (run thr s1 evs).1) := by
  have hs1 : (schedule s now0 a).1 = s1 := by rw [hsched]
  have hok : (schedule s now0 a).2.1 = none := by rw [hsched]
  obtain ⟨hwf1, hI1, p, hmem, hp⟩ := schedule_cron s hwf now0 a f c ha hfresh hok
  rw [hs1] at hwf1 hI1 hmem
  obtain ⟨k, i1, i2, i3, i4⟩ := cron_drift_aux thr f c (a.entry p) evs s1 now0 hwf1
    (.inl ⟨p, hp hs, hmem, hI1⟩) hos hno
  refine ⟨k, i1, i2, ?_, i3, ?_⟩
  · rw [show dispatchTimes a.tag _ = _ from i1]
    exact chain_noSkip f hwff c hc k now0 h0
  · rcases i4 with ⟨r, hr, h⟩ | ⟨hn, habs⟩
    · rw [hr]
      exact ⟨fun r' hr' => Option.some.inj hr' ▸ h, nofun⟩
    · rw [hn]
      exact ⟨nofun, fun _ => habs⟩

/-- the same conclusion read as a set equation: the dispatched fire times are increasing, all after
`now0`, and a whole second `u` with `now0 < u ≤` (the last dispatched fire time) was dispatched IF AND
ONLY IF its civil reading satisfies the expression — exactly the first `k` matching instants -/
theorem cron_job_runs_exactly_the_first_matches (thr : Int) (s s1 : SState) (calls : List TrigCall)
    (hwf : WF s) (now0 : Int) (h0 : -9223372036854775808 ≤ now0) (a : SchedArgs) (f : Cron.Fields) (c : Int)
    (ha : a.trig = some (.cron f c)) (hs : a.suspended = false)
    (hwff : Cron.WellFormed f = true) (hc : -100000 ≤ c ∧ c ≤ 100000)
    (hfresh : AbsentTag a.tag s) (hsched : schedule s now0 a = (s1, none, calls))
    (evs : List Ev) (hos : OnlySteps evs) (hno : NeverOutdated a.tag (run thr s1 evs).2) :
    ExactlyFirst f c now0 (dispatchTimes a.tag (run thr s1 evs).2) := by
  obtain ⟨k, _, _, h3, _⟩ := cron_job_no_skip_while_on_time thr s s1 calls hwf now0 h0 a f c ha hs hwff hc
    hfresh hsched evs hos hno
  exact noSkip_exactlyFirst f c _ now0 h3

/-- the state hypotheses of `cron_job_no_skip_while_on_time` hold at every `ScheduleJob` event of every
fresh history from the empty scheduler (from `C04_hyps_reachable`) -/
theorem cron_job_no_skip_hyps_reachable (thr : Int) (evs0 : List Ev) (now0 : Int) (a : SchedArgs)
    (evs : List Ev) (hft : FreshTags (evs0 ++ .schedule now0 a :: evs)) :
    WF (run thr {} evs0).1 ∧ AbsentTag a.tag (run thr {} evs0).1 :=
  have ⟨h1, h2, _⟩ := C04_hyps_reachable thr evs0 now0 a evs hft
  ⟨h1, h2⟩

/-- **the same from the empty scheduler**: any fresh history `evs0`, then a successful `ScheduleJob` of
an active cron job at clock reading `now0` (any int64 value), then loop steps only, the job never
found more than `thr` late.  The fire times dispatched for the job in the WHOLE history are the first `k` answers of
the trigger iterated from `now0`, i.e. exactly the first `k` matching instants after `now0`. -/
theorem cron_job_no_skip_from_empty (thr : Int) (evs0 : List Ev) (now0 : Int) (a : SchedArgs)
    (steps : List Ev) (hft : FreshTags (evs0 ++ .schedule now0 a :: steps)) (h0 : -9223372036854775808 ≤ now0)
    (f : Cron.Fields) (c : Int) (ha : a.trig = some (.cron f c)) (hs : a.suspended = false)
    (hwff : Cron.WellFormed f = true) (hc : -100000 ≤ c ∧ c ≤ 100000)
    (hok : (schedule (run thr {} evs0).1 now0 a).2.1 = none) (hos : OnlySteps steps)
    (hno : NeverOutdated a.tag (run thr {} (evs0 ++ .schedule now0 a :: steps)).2) :
    ∃ k : Nat,
      dispatchTimes a.tag (run thr {} (evs0 ++ .schedule now0 a :: steps)).2 = chain f c now0 k ∧
      (chain f c now0 k).length = k ∧
      NoSkip f c now0 (dispatchTimes a.tag (run thr {} (evs0 ++ .schedule now0 a :: steps)).2) ∧
      ExactlyFirst f c now0
        (dispatchTimes a.tag (run thr {} (evs0 ++ .schedule now0 a :: steps)).2) := by
  obtain ⟨hwf0, habs0, _, _⟩ := C04_hyps_reachable thr evs0 now0 a steps hft
  have hq1 := (run_absent thr a.tag evs0 {} wf0_empty (fun e he => by simp at he) (fresh_schedule_split hft).1).2
  simp only [run_append, run_cons] at hno ⊢
  obtain ⟨k, h1, h2, h3, _⟩ := cron_job_no_skip_while_on_time thr _ _ _ hwf0 now0 h0 a f c ha hs hwff hc
    habs0 (schedule_ok_eta _ now0 a hok) steps hos
    (fun o ho => hno o (List.mem_append_right _ (List.mem_cons_of_mem _ ho)))
  -- nothing of the job is dispatched before its `ScheduleJob`, nor by it
  rw [dispatchTimes_append, dispatchTimes_cons, (quiet_nothing a.tag _ hq1).1]
  exact ⟨k, h1, h2, h3, noSkip_exactlyFirst f c _ now0 h3⟩

/-! ## 4. an expired cron job leaves the registry -/

/-- **C04 (leaves the registry) ∘ C02 (expiry).**  A loop step pops the due, active entry `e` of a cron
job.  `fetchAndReschedule` asks the trigger with the scheduled fire time `e.prio` if the loop is at most
`thr` late, with the clock reading `now` otherwise.  If no whole second after that argument satisfies
the expression (before the year 2262, `Cron.Matches` is bounded by `lastYear`), the job leaves the
registry — nothing else changes — and its last fire time has still been handed to a worker if the
loop was on time (reported as misfired otherwise). -/
theorem cron_job_leaves_when_expired (s : SState) (now thr : Int) (h : Inv s.q) (e : Entry)
    (f : Cron.Fields) (c : Int) (hwff : Cron.WellFormed f = true) (hc : -100000 ≤ c ∧ c ≤ 100000)
    (hp : (step s now thr).2.popped = some e) (hs : e.suspended = false)
    (htr : s.trig e.tag = .cron f c) (h0 : -9223372036854775808 ≤ e.prio) (hdue : e.prio ≤ now)
    (hexp : ¬ ∃ u : Int, (if now - thr ≤ e.prio then e.prio else now) < u ∧ u % 1000000000 = 0 ∧
      Cron.Matches f (Cal.Civil.ofSeconds (u / 1000000000 + c))) :
    ¬ hasKey (step s now thr).1.q e.group e.name ∧ (step s now thr).2.pushed = none ∧
    (step s now thr).1.q.toList.Perm (s.q.toList.erase e) ∧
    (now - thr ≤ e.prio → (step s now thr).2.dispatched = true) ∧
    (e.prio < now - thr → (step s now thr).2.misfired = true) := by
  obtain ⟨hcs, _, hd, hm⟩ := cron_step_asked s now thr h e f c hp hs htr hdue
  have hpv0 : -9223372036854775808 ≤ (if now - thr ≤ e.prio then e.prio else now) := by split <;> omega
  rw [(cronNext_none_iff_no_match f hwff c _ hc hpv0).mpr hexp] at hcs
  obtain ⟨l1, l2, l3, _⟩ := C04_leaves_registry s now thr h e hp ⟨_, hcs⟩
  exact ⟨l1, l2, l3, hd, hm⟩

/-- ... and only then: the job is still registered after the step iff a matching instant is left; it
is then registered with the FIRST such instant as its next fire time. -/
theorem cron_job_stays_iff_match_left (s : SState) (now thr : Int) (h : Inv s.q) (e : Entry)
    (f : Cron.Fields) (c : Int) (hwff : Cron.WellFormed f = true) (hc : -100000 ≤ c ∧ c ≤ 100000)
    (hp : (step s now thr).2.popped = some e) (hs : e.suspended = false)
    (htr : s.trig e.tag = .cron f c) (h0 : -9223372036854775808 ≤ e.prio) (hdue : e.prio ≤ now) :
    (hasKey (step s now thr).1.q e.group e.name ↔
      ∃ u : Int, (if now - thr ≤ e.prio then e.prio else now) < u ∧ u % 1000000000 = 0 ∧
        Cron.Matches f (Cal.Civil.ofSeconds (u / 1000000000 + c))) ∧
    ∀ r, cronNext f c (if now - thr ≤ e.prio then e.prio else now) = some r →
      ({ e with prio := r } : Entry) ∈ (step s now thr).1.q.toList := by
  have hpv0 : -9223372036854775808 ≤ (if now - thr ≤ e.prio then e.prio else now) := by split <;> omega
  obtain ⟨⟨rest, _, hperm⟩, _⟩ := C04_accounted s now thr h e hp hs
  obtain ⟨_, hpushed, _⟩ := cron_step_asked s now thr h e f c hp hs htr hdue
  have hstay : ∀ r, cronNext f c (if now - thr ≤ e.prio then e.prio else now) = some r →
      ({ e with prio := r } : Entry) ∈ (step s now thr).1.q.toList := by
    intro r hr
    rw [hpushed, hr] at hperm
    exact hperm.mem_iff.mpr (by simp)
  refine ⟨?_, hstay⟩
  constructor
  · exact fun hk => Classical.byContradiction fun hno =>
      (cron_job_leaves_when_expired s now thr h e f c hwff hc hp hs htr h0 hdue hno).1 hk
  · intro hex
    cases hr : cronNext f c (if now - thr ≤ e.prio then e.prio else now) with
    | none => exact absurd hex ((cronNext_none_iff_no_match f hwff c _ hc hpv0).mp hr)
    | some r => exact ⟨_, hstay r hr, rfl, rfl⟩

/-! ## 5. the same for a job built from an expression string -/

/-- **C03 ∘ C01 ∘ C07.**  `cron_job_runs_only_at_matching_instants` for a trigger obtained from
`NewCronTrigger(s)` (`Cron.newTrigger {} s = some f`): no well-formedness hypothesis is left. -/
theorem parsed_cron_job_runs_only_at_matching_instants (thr : Int) (evs : List Ev)
    (hft : FreshTags evs) (hclk : NonnegClock evs) (now0 : Int) (a : SchedArgs) (expr : Cron.Str)
    (f : Cron.Fields) (c : Int) (hparse : Cron.newTrigger {} expr = some f)
    (hsch : Ev.schedule now0 a ∈ evs) (ha : a.trig = some (.cron f c))
    (hc : -100000 ≤ c ∧ c ≤ 100000)
    (d : Disp) (hd : d ∈ dispatches (run thr {} evs).2) (hdt : d.tag = a.tag) :
    d.time % 1000000000 = 0 ∧ Cron.Matches f (Cal.Civil.ofSeconds (d.time / 1000000000 + c)) :=
  cron_job_runs_only_at_matching_instants thr evs hft hclk now0 a f c hsch ha
    (Cron.newTrigger_wellFormed expr f hparse) hc d hd hdt

/-- likewise for "never early" -/
theorem parsed_cron_job_never_early (thr : Int) (evs : List Ev)
    (hft : FreshTags evs) (hclk : NonnegClock evs) (now0 : Int) (a : SchedArgs) (expr : Cron.Str)
    (f : Cron.Fields) (c : Int) (hparse : Cron.newTrigger {} expr = some f)
    (hsch : Ev.schedule now0 a ∈ evs) (ha : a.trig = some (.cron f c))
    (hc : -100000 ≤ c ∧ c ≤ 100000)
    (d : Disp) (hd : d ∈ dispatches (run thr {} evs).2) (hdt : d.tag = a.tag) :
    ∃ (evs1 : List Ev) (now : Int) (evs2 : List Ev), evs = evs1 ++ .step now :: evs2 ∧
      (apply thr (run thr {} evs1).1 (.step now)).2.disp? (callLog (run thr {} evs1).2).length = some d ∧
      d.time ≤ now ∧ now - thr ≤ d.time ∧
      d.time % 1000000000 = 0 ∧ Cron.Matches f (Cal.Civil.ofSeconds (d.time / 1000000000 + c)) :=
  cron_job_never_early thr evs hft hclk now0 a f c hsch ha
    (Cron.newTrigger_wellFormed expr f hparse) hc d hd hdt

/-! ## non-vacuity -/
namespace ComposeEx

/-- `OutdatedThreshold`: 100 ms -/
def thr : Int := 100000000

/-- a job with the cron trigger `0 0 12 * * ?` (every day at noon) in UTC -/
def exJob : SchedArgs :=
  { group := "g", name := "noon", tag := 7, trig := some (.cron Cron.exNoon 0) }

/-- `ScheduleJob` at the epoch, then loop steps at 1970-01-01T12:00:00Z and 1970-01-02T12:00:00Z -/
def exHist : List Ev := [.schedule 0 exJob, .step 43200000000000, .step 129600000000000]

/-- the expression string parses to the fields of the trigger -/
theorem exNoon_parsed : Cron.newTrigger {} "0 0 12 * * ?".toList = some Cron.exNoon := by decide +kernel

example : FreshTags exHist := by decide
example : NonnegClock exHist := by decide

/-- two dispatches, at exactly those instants -/
theorem exHist_dispatches : dispatches (run thr {} exHist).2 =
    [⟨1, 7, 43200000000000⟩, ⟨2, 7, 129600000000000⟩] := by decide +kernel

/-- ... each answering the call before it; three calls on the trigger in all -/
example : callLog (run thr {} exHist).2 =
    [⟨7, 0, some 43200000000000⟩, ⟨7, 43200000000000, some 129600000000000⟩,
     ⟨7, 129600000000000, some 216000000000000⟩] := by decide +kernel

/-- theorem 1 instantiated on the concrete history: noon of day 2 satisfies `0 0 12 * * ?` -/
example : (129600000000000 : Int) % 1000000000 = 0 ∧
    Cron.Matches Cron.exNoon (Cal.Civil.ofSeconds (129600000000000 / 1000000000 + 0)) :=
  cron_job_runs_only_at_matching_instants thr exHist (by decide) (by decide) 0 exJob Cron.exNoon 0
    List.mem_cons_self rfl Cron.exNoon_wf (by omega) ⟨2, 7, 129600000000000⟩
    (by rw [exHist_dispatches]; simp) rfl

/-- ... and theorem 5 with the expression string -/
example : (43200000000000 : Int) % 1000000000 = 0 ∧
    Cron.Matches Cron.exNoon (Cal.Civil.ofSeconds (43200000000000 / 1000000000 + 0)) :=
  parsed_cron_job_runs_only_at_matching_instants thr exHist (by decide) (by decide) 0 exJob
    "0 0 12 * * ?".toList Cron.exNoon 0 exNoon_parsed List.mem_cons_self rfl (by omega)
    ⟨1, 7, 43200000000000⟩ (by rw [exHist_dispatches]; simp) rfl

/-- theorem 2 on the concrete history: the first dispatch was made by a step that read a clock not
before noon of day 1 -/
example : ∃ (evs1 : List Ev) (now : Int) (evs2 : List Ev), exHist = evs1 ++ .step now :: evs2 ∧
    (apply thr (run thr {} evs1).1 (.step now)).2.disp? (callLog (run thr {} evs1).2).length =
      some ⟨1, 7, 43200000000000⟩ ∧ (43200000000000 : Int) ≤ now := by
  obtain ⟨evs1, now, evs2, h1, h2, h3, _⟩ :=
    cron_job_never_early thr exHist (by decide) (by decide) 0 exJob Cron.exNoon 0
      List.mem_cons_self rfl Cron.exNoon_wf (by omega) ⟨1, 7, 43200000000000⟩
      (by rw [exHist_dispatches]; simp) rfl
  exact ⟨evs1, now, evs2, h1, h2, h3⟩

/-- a location east of UTC (+02:00): noon local time is 10:00 UTC -/
def exJobEast : SchedArgs :=
  { group := "g", name := "noonEast", tag := 11, trig := some (.cron Cron.exNoon 7200) }

theorem exEast_dispatches :
    dispatches (run thr {} [.schedule 0 exJobEast, .step 36000000000000]).2 =
      [⟨1, 11, 36000000000000⟩] := by decide +kernel

example : Cron.Matches Cron.exNoon (Cal.Civil.ofSeconds (36000000000000 / 1000000000 + 7200)) :=
  (cron_job_runs_only_at_matching_instants thr [.schedule 0 exJobEast, .step 36000000000000]
    (by decide) (by decide) 0 exJobEast Cron.exNoon 7200 List.mem_cons_self rfl Cron.exNoon_wf
    (by omega) ⟨1, 11, 36000000000000⟩ (by rw [exEast_dispatches]; simp) rfl).2

/-- a richer history for theorem 3: a second (simple-trigger) job; a spurious early step; a step 50 ms
late (within the threshold); a step that goes back in time; a step that serves the other job -/
def exOther : SchedArgs :=
  { group := "g", name := "other", tag := 8, trig := some (.simple 100000000000000) }

def exS0 : SState := (run thr {} [.schedule 5 exOther]).1
def exS1 : SState := (schedule exS0 0 exJob).1

def exSteps : List Ev :=
  [.step 1000000000, .step 43200050000000, .step 43200000000000, .step 100000000000005,
   .step 129600000000000, .step 129600000000001]

theorem exS0_wf : WF exS0 := run_wf thr _ {} wf_empty (by decide) (freshFor_empty _)

theorem exSched : schedule exS0 0 exJob = (exS1, none, (schedule exS0 0 exJob).2.2) :=
  schedule_ok_eta exS0 0 exJob (by decide +kernel)

theorem exAbsent : AbsentTag exJob.tag exS0 := by unfold AbsentTag; decide +kernel

theorem exOnly : OnlySteps exSteps := onlyStepsB_sound _ (by decide)

theorem exNever : NeverOutdated exJob.tag (run thr exS1 exSteps).2 :=
  neverOutdatedB_sound _ _ (by decide +kernel)

/-- fire times dispatched for the cron job: noon of day 1 and noon of day 2, although the steps ran at
other clock readings; in between a step served the other job -/
example : dispatchTimes 7 (run thr exS1 exSteps).2 = [43200000000000, 129600000000000] := by
  decide +kernel
example : dispatchTimes 8 (run thr exS1 exSteps).2 = [100000000000005] := by decide +kernel

/-- theorem 3 instantiated: the conclusion holds for this history (`exJob.tag = 7`; here `k = 2`) -/
example : ∃ k : Nat,
    dispatchTimes exJob.tag (run thr exS1 exSteps).2 = chain Cron.exNoon 0 0 k ∧
    (chain Cron.exNoon 0 0 k).length = k ∧
    NoSkip Cron.exNoon 0 0 (dispatchTimes exJob.tag (run thr exS1 exSteps).2) := by
  obtain ⟨k, h⟩ := cron_job_no_skip_while_on_time thr exS0 exS1 _ exS0_wf 0 (by omega) exJob
    Cron.exNoon 0 rfl rfl Cron.exNoon_wf (by omega) exAbsent exSched exSteps exOnly exNever
  exact ⟨k, h.1, h.2.1, h.2.2.1⟩

/-- ... and read as a set equation -/
example : ExactlyFirst Cron.exNoon 0 0 (dispatchTimes exJob.tag (run thr exS1 exSteps).2) :=
  cron_job_runs_exactly_the_first_matches thr exS0 exS1 _ exS0_wf 0 (by omega) exJob
    Cron.exNoon 0 rfl rfl Cron.exNoon_wf (by omega) exAbsent exSched exSteps exOnly exNever

/-- the same from the empty scheduler: the hypotheses of `cron_job_no_skip_from_empty` hold -/
example : FreshTags ([.schedule 5 exOther] ++ .schedule 0 exJob :: exSteps) ∧
    (schedule (run thr {} [.schedule 5 exOther]).1 0 exJob).2.1 = none ∧
    neverOutdatedB exJob.tag (run thr {} ([.schedule 5 exOther] ++ .schedule 0 exJob :: exSteps)).2 = true :=
  ⟨by decide, by decide +kernel, by decide +kernel⟩

/-- the chain itself, evaluated: the first two noons -/
example : chain Cron.exNoon 0 0 2 = [43200000000000, 129600000000000] := by decide +kernel

/-- theorem 4: `0 0 12 * * ? 1970`, scheduled on 1970-12-31 shortly before noon; the step at noon
dispatches the last fire time of 1970, the trigger has nothing left, the job leaves the registry -/
def exJob70 : SchedArgs :=
  { group := "g", name := "y1970", tag := 9, trig := some (.cron Cron.exNoon1970 0) }

def exS70 : SState := (run thr {} [.schedule 31490000000000000 exJob70]).1

def exE70 : Entry := { group := "g", name := "y1970", prio := 31492800000000000, tag := 9 }

theorem exS70_popped : (step exS70 31492800000000000 thr).2.popped = some exE70 := by decide +kernel

theorem exS70_expired :
    Cron.nextFire {} Cron.exNoon1970 (Cron.fixedZone 0) 31492800000000000 = .expired := by
  decide +kernel

theorem exS70_inv : Inv exS70.q := by rw [exS70]; exact (run_wf0 thr _ {} wf0_empty).inv

theorem exS70_trig : exS70.trig exE70.tag = .cron Cron.exNoon1970 0 := by decide +kernel

/-- the hypotheses of `cron_job_leaves_when_expired` hold on the instance, and so does its conclusion
(`exE70.group = "g"`, `exE70.name = "y1970"`) -/
example : ¬ hasKey (step exS70 31492800000000000 thr).1.q exE70.group exE70.name ∧
    (step exS70 31492800000000000 thr).2.dispatched = true := by
  obtain ⟨h1, _, _, h4, _⟩ := cron_job_leaves_when_expired exS70 31492800000000000 thr
    exS70_inv exE70 Cron.exNoon1970 0 Cron.exNoon1970_wf (by omega) exS70_popped rfl exS70_trig
    (by decide) (by decide)
    ((Cron.C02_expired_iff Cron.exNoon1970 Cron.exNoon1970_wf 0 31492800000000000 (by omega) (by omega)).mp
      exS70_expired)
  exact ⟨h1, h4 (by decide)⟩

example : (step exS70 31492800000000000 thr).1.q.toList = [] := by decide +kernel

/-! ### clock readings and fire times before 1970 (negative) -/

/-- `ScheduleJob` one day and 1 ns before the epoch (a clock before 1970) -/
def exS1neg : SState := (schedule {} (-86400000000001) exJob).1

def exStepsNeg : List Ev := [.step (-50000000000000), .step (-43200000000000), .step 43200000000001]

theorem exSchedNeg : schedule {} (-86400000000001) exJob =
    (exS1neg, none, (schedule {} (-86400000000001) exJob).2.2) :=
  schedule_ok_eta {} _ exJob (by decide +kernel)

theorem exAbsentNeg : AbsentTag exJob.tag {} := by unfold AbsentTag; decide +kernel

theorem exOnlyNeg : OnlySteps exStepsNeg := onlyStepsB_sound _ (by decide)

theorem exNeverNeg : NeverOutdated exJob.tag (run thr exS1neg exStepsNeg).2 :=
  neverOutdatedB_sound _ _ (by decide +kernel)

example : dispatchTimes 7 (run thr exS1neg exStepsNeg).2 = [-43200000000000, 43200000000000] := by
  decide +kernel

example : ∃ k : Nat,
    dispatchTimes exJob.tag (run thr exS1neg exStepsNeg).2 = chain Cron.exNoon 0 (-86400000000001) k ∧
    (chain Cron.exNoon 0 (-86400000000001) k).length = k ∧
    NoSkip Cron.exNoon 0 (-86400000000001) (dispatchTimes exJob.tag (run thr exS1neg exStepsNeg).2) := by
  obtain ⟨k, h⟩ := cron_job_no_skip_while_on_time thr {} exS1neg _ wf_empty (-86400000000001) (by omega) exJob
    Cron.exNoon 0 rfl rfl Cron.exNoon_wf (by omega) exAbsentNeg exSchedNeg exStepsNeg exOnlyNeg exNeverNeg
  exact ⟨k, h.1, h.2.1, h.2.2.1⟩

example : ExactlyFirst Cron.exNoon 0 (-86400000000001)
    (dispatchTimes exJob.tag (run thr exS1neg exStepsNeg).2) :=
  cron_job_runs_exactly_the_first_matches thr {} exS1neg _ wf_empty (-86400000000001) (by omega) exJob
    Cron.exNoon 0 rfl rfl Cron.exNoon_wf (by omega) exAbsentNeg exSchedNeg exStepsNeg exOnlyNeg exNeverNeg

def exSneg : SState := (run thr {} [.schedule (-86400000000001) exJob]).1

def exEneg : Entry := { group := "g", name := "noon", prio := -43200000000000, tag := 7 }

theorem exSneg_popped : (step exSneg (-43200000000000) thr).2.popped = some exEneg := by decide +kernel

theorem exSneg_inv : Inv exSneg.q := by rw [exSneg]; exact (run_wf0 thr _ {} wf0_empty).inv

theorem exSneg_trig : exSneg.trig exEneg.tag = .cron Cron.exNoon 0 := by decide +kernel

/-- `cron_job_stays_iff_match_left` / `cron_job_leaves_when_expired` take a fire time before 1970
(`e.prio < 0`): the job popped at 1969-12-31T12:00:00Z stays, registered with the first matching instant after it -/
example : hasKey (step exSneg (-43200000000000) thr).1.q exEneg.group exEneg.name ∧
    ({ exEneg with prio := 43200000000000 } : Entry) ∈ (step exSneg (-43200000000000) thr).1.q.toList := by
  obtain ⟨h1, h2⟩ := cron_job_stays_iff_match_left exSneg (-43200000000000) thr exSneg_inv exEneg
    Cron.exNoon 0 Cron.exNoon_wf (by omega) exSneg_popped rfl exSneg_trig (by decide) (by decide)
  have hr : cronNext Cron.exNoon 0
      (if (-43200000000000 : Int) - thr ≤ exEneg.prio then exEneg.prio else -43200000000000) =
      some 43200000000000 := by decide +kernel
  refine ⟨h1.mpr ?_, h2 _ hr⟩
  exact ⟨43200000000000, by decide, by decide,
    (cronNext_sound Cron.exNoon Cron.exNoon_wf 0 _ (by omega) (by decide) _ hr).2.2⟩

end ComposeEx

end Sched
