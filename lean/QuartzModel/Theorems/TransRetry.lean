import QuartzModel.Proofs.TransRetryLemmas
import QuartzModel.Theorems.C13
import QuartzModel.Proofs.PoolLemmas
/-!
# The translated job-execution control flow IS the hand-written model (area `retry`)

`Generated.TransRetry` is regenerated from quartz/scheduler.go by `harness/cmd/gotolean-retry` on every run
(`executeWithRetries`, the dispatch switch of `executeAndReschedule`, `startWorkers` and the goroutine bodies).

* `trans_executeWithRetries`: in every scripted environment (`Scripted`: the `j`-th `Execute` returns the `j`-th
  outcome of the script, the context ends before the `cancelAt`-th retry wait completes, and when both the timer and
  `ctx.Done()` are ready the `select` takes ANY case) the recorded events of the translated `executeWithRetries`,
  abstracted by `absResult`, are exactly `Sched.Retry.executeWithRetries MaxRetries script cancelAt`.
  `C13_attempts`, `C13_cancel_stops`, `C13_panic_ends_sequence` (and `C13_interval`) are transferred.
* `trans_executeWithRetries_any`: in EVERY environment the abstracted run is the model's run for some script and
  cancel point; `C13_*_any` are what the model says of all of them.
* `dispatch_eq`, `trans_dispatch_*`: for EVERY environment the arm of the translated dispatch switch is
  `Pool.Code.std.arm`; `trans_startWorkers`: the worker goroutines started are `Pool.Code.std.workers`;
  `trans_dispatchCap`; `trans_worker_rounds`: a worker goroutine alternates one receive with one complete
  `executeWithRetries` and leaves only through `<-ctx.Done()`, calling `wg.Done()` last.
-/
set_option autoImplicit false

namespace TransRetry
open Generated.TransRetry
open Sched.Retry (Outcome End Exit Normal ctxDone retryLoop)

theorem trans_retry_nothing_missing : Generated.TransRetry.missing = [] := rfl

/-- `Job.Execute` is called only inside `executeWithRetries` (twice: first attempt and retry), and
`executeWithRetries` only from the worker goroutine and the two executing arms of the dispatch switch -/
theorem trans_retry_callers :
    Generated.TransRetry.executeCallers = ["executeWithRetries", "executeWithRetries"] ∧
    Generated.TransRetry.executeWithRetriesCallers = ["startWorkers", "executeAndReschedule", "executeAndReschedule"] :=
  ⟨rfl, rfl⟩

/-! ## `executeWithRetries`

First in ANY environment, no assumption on the externals: whatever `Execute`, the `select`s and `ctx.Err()` answer
(consistent or not), the run of the translated function is a run of the model — for the script of outcomes it was
given and the retry wait at which it first saw the context ended. So everything the model satisfies for all scripts
and cancel points holds for the code in every environment. Then in the scripted environment, where script and cancel
point are those of the environment. Both share the three ways the function ends after its first `Execute`. -/

section
variable {W SJ : Type}

private theorem finish_ok (X : Ext W SJ) (env : Env) (σ : St W SJ) (jd : JobDetail) (h0 : absTrace σ.out = [])
    (hp0 : panicLogged σ.out = false) (ht0 : termLogged σ.out = false) (w1 : W)
    (hex : X.Execute σ.world jd.job = (w1, CallResult.returned none)) :
    absResult (executeWithRetries X env σ (some jd)).out = ⟨[.attempt .ok], .succeeded⟩ := by
  have hout : (executeWithRetries X env σ (some jd)).out = σ.out ++ [Event.execute jd.job (.returned none)] := by
    simp only [executeWithRetries, executeWithRetries.body, St.execute, deref_some, hex]
    rfl
  rw [hout, absResult_quiet _ (by rw [panicLogged_append, hp0]; rfl) (by rw [termLogged_append, ht0]; rfl),
    absTrace_append, h0]
  rfl

private theorem finish_panic (X : Ext W SJ) (env : Env) (σ : St W SJ) (jd : JobDetail) (h0 : absTrace σ.out = [])
    (w1 : W)
    (hex : X.Execute σ.world jd.job = (w1, CallResult.panicked)) :
    absResult (executeWithRetries X env σ (some jd)).out = ⟨[.attempt .panic], .recovered⟩ := by
  have hout : (executeWithRetries X env σ (some jd)).out =
      σ.out ++ [Event.execute jd.job .panicked] ++ [Event.log "Error" "Job panicked"] := by
    simp only [executeWithRetries, executeWithRetries.body, St.execute, deref_some, hex]
    rfl
  rw [hout, absResult_panicked, absTrace_append, h0]
  rfl

private theorem finish_err (X : Ext W SJ) (env : Env) (σ : St W SJ) (jd : JobDetail) (o : JobDetailOptions)
    (hjd : jd.opts = some o) (h0 : absTrace σ.out = []) (hp0 : panicLogged σ.out = false)
    (ht0 : termLogged σ.out = false) (w1 : W) (a : Err)
    (hex : X.Execute σ.world jd.job = (w1, CallResult.returned (some a))) (rest : List Outcome) (c : Option Nat)
    (hsim : LoopSim { world := w1, out := σ.out ++ [Event.execute jd.job (CallResult.returned (some a))] }
      (executeWithRetries.loop1 X env (some jd) (o.MaxRetries + 1 - 1).toNat 1
        { world := w1, out := σ.out ++ [Event.execute jd.job (CallResult.returned (some a))] } (some a))
      (retryLoop o.MaxRetries c 1 rest)) :
    absResult (executeWithRetries X env σ (some jd)).out = Sched.Retry.executeWithRetries o.MaxRetries (.err :: rest) c := by
  rw [Sched.Retry.exec_eq]
  simp only [executeWithRetries, executeWithRetries.body, St.execute, deref_some, hex, hjd]
  generalize executeWithRetries.loop1 X env (some jd) (o.MaxRetries + 1 - 1).toNat 1
    { world := w1, out := σ.out ++ [Event.execute jd.job (CallResult.returned (some a))] } (some a) = r at hsim ⊢
  obtain ⟨σ', err', fl⟩ := r
  have hwc := Sched.Retry.loop_wc o.MaxRetries c 1 rest
  generalize retryLoop o.MaxRetries c 1 rest = m at hsim hwc ⊢
  obtain ⟨mt, mx⟩ := m
  obtain ⟨⟨hA, hP, hT⟩, hC⟩ := hsim
  simp only at hA hP hT hC
  have hA' : absTrace σ'.out = .attempt .err :: mt := hA.trans (by rw [absTrace_append, h0]; rfl)
  have hP' : panicLogged σ'.out = false := hP.trans (by rw [panicLogged_append, hp0]; rfl)
  have hT' : termLogged σ'.out = false := hT.trans (by rw [termLogged_append, ht0]; rfl)
  cases mx with
  | panicking =>
    obtain rfl : fl = Flow.panic := hC
    exact (absResult_panicked σ'.out).trans (by rw [hA']; rfl)
  | returned nrm =>
    cases nrm with
    | succeeded =>
      obtain ⟨rfl, rfl⟩ : fl = Flow.next ∧ err' = none := hC
      exact (absResult_quiet σ'.out hP' hT').trans (by rw [hA']; rfl)
    | gaveUp | cancelled =>
      obtain ⟨rfl, he⟩ : fl = Flow.next ∧ err'.isSome = true := hC
      obtain ⟨e', rfl⟩ := Option.isSome_iff_exists.mp he
      refine (absResult_terminated σ'.out hP').trans ?_
      simp at hwc
      simp [hA', hwc, Sched.Retry.recoverDeferred]

/-- REFINEMENT, no hypothesis on the environment: every run of the translated `executeWithRetries` is the model's run
for some script and cancel point. -/
theorem trans_executeWithRetries_any (X : Ext W SJ) (env : Env) (σ : St W SJ) (jd : JobDetail) (o : JobDetailOptions)
    (hjd : jd.opts = some o) (h0 : absTrace σ.out = []) (hp0 : panicLogged σ.out = false)
    (ht0 : termLogged σ.out = false) :
    ∃ (script : List Outcome) (cancelAt : Option Nat),
      absResult (executeWithRetries X env σ (some jd)).out
        = Sched.Retry.executeWithRetries o.MaxRetries script cancelAt := by
  rcases hex : X.Execute σ.world jd.job with ⟨w1, (_ | a) | _⟩
  · exact ⟨[], none, finish_ok X env σ jd h0 hp0 ht0 w1 hex⟩
  · obtain ⟨rest, c, _, hsim⟩ := loop1_any X env jd o hjd (o.MaxRetries + 1 - 1).toNat 1
      { world := w1, out := σ.out ++ [Event.execute jd.job (CallResult.returned (some a))] } (some a) 0 a rfl
      (Int.self_le_toNat _) rfl
    exact ⟨.err :: rest, c, finish_err X env σ jd o hjd h0 hp0 ht0 w1 a hex rest c hsim⟩
  · exact ⟨[.panic], none, finish_panic X env σ jd h0 w1 hex⟩

/-- in every environment: at most `1 + max 0 MaxRetries` calls of `Execute` -/
theorem C13_attempts_bound_any (X : Ext W SJ) (env : Env) (σ : St W SJ) (jd : JobDetail) (o : JobDetailOptions)
    (hjd : jd.opts = some o) (h0 : absTrace σ.out = []) (hp0 : panicLogged σ.out = false)
    (ht0 : termLogged σ.out = false) :
    ((executes (executeWithRetries X env σ (some jd)).out).length : Int) ≤ 1 + max 0 o.MaxRetries := by
  obtain ⟨script, c, h⟩ := trans_executeWithRetries_any X env σ jd o hjd h0 hp0 ht0
  have hW := Sched.Retry.waitsLeft_le_none o.MaxRetries c 1
  have hN := Sched.Retry.waitsLeft_none_one o.MaxRetries
  rw [← attempts_eq_executes, h, Sched.Retry.exec_count]
  omega

/-- in every environment: at least one call of `Execute`, and every call except the last one returned an error (so a
success or a panic is always the last call) -/
theorem C13_attempts_structure_any (X : Ext W SJ) (env : Env) (σ : St W SJ) (jd : JobDetail) (o : JobDetailOptions)
    (hjd : jd.opts = some o) (h0 : absTrace σ.out = []) (hp0 : panicLogged σ.out = false)
    (ht0 : termLogged σ.out = false) :
    executes (executeWithRetries X env σ (some jd)).out ≠ [] ∧
    ∀ j, j + 1 < (executes (executeWithRetries X env σ (some jd)).out).length →
      (executes (executeWithRetries X env σ (some jd)).out)[j]? = some Outcome.err := by
  obtain ⟨script, c, h⟩ := trans_executeWithRetries_any X env σ jd o hjd h0 hp0 ht0
  have hs := Sched.Retry.C13_attempts_structure o.MaxRetries script c
  simp only [← h, attempts_eq_executes] at hs
  exact ⟨hs.1, hs.2.2⟩

/-- in every environment: a panicking `Execute` is the last call, the deferred function logs it and the function returns -/
theorem C13_panic_ends_sequence_any (X : Ext W SJ) (env : Env) (σ : St W SJ) (jd : JobDetail) (o : JobDetailOptions)
    (hjd : jd.opts = some o) (h0 : absTrace σ.out = []) (hp0 : panicLogged σ.out = false)
    (ht0 : termLogged σ.out = false) (j : Nat)
    (hj : (executes (executeWithRetries X env σ (some jd)).out)[j]? = some Outcome.panic) :
    (executes (executeWithRetries X env σ (some jd)).out).length = j + 1 ∧
      absEnd (executeWithRetries X env σ (some jd)).out = End.recovered := by
  obtain ⟨script, c, h⟩ := trans_executeWithRetries_any X env σ jd o hjd h0 hp0 ht0
  have hs := Sched.Retry.C13_panic_ends_sequence o.MaxRetries script c j
  simp only [← h, attempts_eq_executes] at hs
  exact hs hj

/-- in every environment: consecutive calls of `Execute` are separated by exactly one completed wait, and after a
cancelled wait (`<-ctx.Done()` won, or `ctx.Err() != nil` after the timer) nothing more is executed -/
theorem C13_interval_any (X : Ext W SJ) (env : Env) (σ : St W SJ) (jd : JobDetail) (o : JobDetailOptions)
    (hjd : jd.opts = some o) (h0 : absTrace σ.out = []) (hp0 : panicLogged σ.out = false)
    (ht0 : termLogged σ.out = false) :
    absTrace (executeWithRetries X env σ (some jd)).out =
      Sched.Retry.spaced (executes (executeWithRetries X env σ (some jd)).out) ++
        (if absEnd (executeWithRetries X env σ (some jd)).out = End.cancelled
          then [Sched.Retry.Event.waitCancelled] else []) := by
  obtain ⟨script, c, h⟩ := trans_executeWithRetries_any X env σ jd o hjd h0 hp0 ht0
  have hs := (Sched.Retry.C13_interval o.MaxRetries script c).1
  simp only [← h, attempts_eq_executes] at hs
  exact hs

/-- The translated `executeWithRetries` computes the hand-written model `Sched.Retry.executeWithRetries`:
for every scripted environment, every job detail with options `o`, every script and cancel point. `out0` (what was
recorded before the call) must hold no event the abstraction looks at. -/
theorem trans_executeWithRetries (X : Ext MW SJ) (c : Option Nat) (pick : Nat → Nat) (hX : Scripted X c pick)
    (env : Env) (jd : JobDetail) (o : JobDetailOptions) (hjd : jd.opts = some o) (script : List Outcome)
    (out0 : List (Event SJ)) (h0 : absTrace out0 = []) (hp0 : panicLogged out0 = false)
    (ht0 : termLogged out0 = false) :
    absResult (executeWithRetries X env ⟨⟨script, 0⟩, out0⟩ (some jd)).out
      = Sched.Retry.executeWithRetries o.MaxRetries script c := by
  have hex : X.Execute ⟨script, 0⟩ jd.job = scriptExecute ⟨script, 0⟩ jd.job := by rw [hX.execute]
  rw [Sched.Retry.exec_eq]
  split
  case h_1 => exact finish_ok X env ⟨⟨[], 0⟩, out0⟩ jd h0 hp0 ht0 _ hex
  case h_2 t => exact finish_ok X env ⟨⟨.ok :: t, 0⟩, out0⟩ jd h0 hp0 ht0 _ hex
  case h_3 t => exact finish_panic X env ⟨⟨.panic :: t, 0⟩, out0⟩ jd h0 _ hex
  case h_4 t =>
    exact finish_err X env ⟨⟨.err :: t, 0⟩, out0⟩ jd o hjd h0 hp0 ht0 _ _ hex t c
      (loop1_spec hX env jd o hjd _ 1 ⟨⟨t, 0⟩, _⟩ _ {} rfl (Int.self_le_toNat _) rfl)

/-- what the translated function records when called with nothing recorded before and no wait made yet: the record
the `C13_*_trans` theorems and the `example`s below speak of -/
def runRetries (X : Ext MW SJ) (env : Env) (jd : JobDetail) (script : List Outcome) : List (Event SJ) :=
  (executeWithRetries X env ⟨⟨script, 0⟩, []⟩ (some jd)).out

theorem trans_runRetries (X : Ext MW SJ) (c : Option Nat) (pick : Nat → Nat) (hX : Scripted X c pick)
    (env : Env) (jd : JobDetail) (o : JobDetailOptions) (hjd : jd.opts = some o) (script : List Outcome) :
    absResult (runRetries X env jd script) = Sched.Retry.executeWithRetries o.MaxRetries script c :=
  trans_executeWithRetries X c pick hX env jd o hjd script [] rfl rfl rfl

/-! ### C13 transferred to the translated code

`(absResult es).attempts = executes es` (`attempts_eq_executes`): the attempts spoken of are literally the recorded
`Execute` calls; `ending = recovered` means the deferred function logged "Job panicked", `gaveUp`/`cancelled` mean the
function logged "Job terminated" (with / without a cancelled wait), `succeeded` that it logged neither. -/

/-- C13_attempts for the translated code (context never ends, no panic) -/
theorem C13_attempts_trans (X : Ext MW SJ) (pick : Nat → Nat) (hX : Scripted X none pick) (env : Env)
    (jd : JobDetail) (o : JobDetailOptions) (hjd : jd.opts = some o) (script : List Outcome)
    (hp : Outcome.panic ∉ script) :
    let es := runRetries X env jd script
    ((executes es).length : Int) = 1 + min (max 0 o.MaxRetries) (Sched.Retry.failuresBefore script) ∧
    executes es = (script ++ [Outcome.ok]).take (executes es).length ∧
    (absResult es).waits + 1 = (executes es).length ∧
    (absResult es).ending = (if (Sched.Retry.failuresBefore script : Int) ≤ max 0 o.MaxRetries
      then End.succeeded else End.gaveUp) := by
  have h := Sched.Retry.C13_attempts o.MaxRetries script hp
  simp only [← trans_runRetries X none pick hX env jd o hjd script, attempts_eq_executes] at h
  exact h

/-- C13_cancel_stops for the translated code: the context ends during the `k`-th retry wait -/
theorem C13_cancel_stops_trans (X : Ext MW SJ) (pick : Nat → Nat) (k : Nat) (hX : Scripted X (some k) pick)
    (env : Env) (jd : JobDetail) (o : JobDetailOptions) (hjd : jd.opts = some o) (script : List Outcome)
    (hk1 : 1 ≤ k) (hkm : (k : Int) ≤ o.MaxRetries) (hfail : ∀ j, j < k → script[j]? = some Outcome.err) :
    let es := runRetries X env jd script
    executes es = List.replicate k Outcome.err ∧ (absResult es).ending = End.cancelled ∧
      (absTrace es).getLast? = some Sched.Retry.Event.waitCancelled ∧ (absResult es).waits = k - 1 := by
  have h := Sched.Retry.C13_cancel_stops o.MaxRetries script k hk1 hkm hfail
  simp only [← trans_runRetries X (some k) pick hX env jd o hjd script, attempts_eq_executes] at h
  exact h

/-- C13_panic_ends_sequence for the translated code: a panicking `Execute` is the last one, and the function
returns normally having logged the recovered panic -/
theorem C13_panic_ends_sequence_trans (X : Ext MW SJ) (c : Option Nat) (pick : Nat → Nat) (hX : Scripted X c pick)
    (env : Env) (jd : JobDetail) (o : JobDetailOptions) (hjd : jd.opts = some o) (script : List Outcome) (j : Nat)
    (hj : (executes (runRetries X env jd script))[j]? = some Outcome.panic) :
    (executes (runRetries X env jd script)).length = j + 1 ∧
      (absResult (runRetries X env jd script)).ending = End.recovered ∧
      panicLogged (runRetries X env jd script) = true := by
  obtain ⟨h1, h2⟩ := C13_panic_ends_sequence_any X env ⟨⟨script, 0⟩, []⟩ jd o hjd rfl rfl rfl j hj
  exact ⟨h1, h2, absEnd_recovered h2⟩

/-- C13_interval for the translated code: consecutive `Execute` calls are separated by exactly one completed wait -/
theorem C13_interval_trans (X : Ext MW SJ) (c : Option Nat) (pick : Nat → Nat) (hX : Scripted X c pick)
    (env : Env) (jd : JobDetail) (o : JobDetailOptions) (hjd : jd.opts = some o) (script : List Outcome) :
    let es := runRetries X env jd script
    absTrace es = Sched.Retry.spaced (executes es) ++
      (if (absResult es).ending = End.cancelled then [Sched.Retry.Event.waitCancelled] else []) := by
  exact C13_interval_any X env ⟨⟨script, 0⟩, []⟩ jd o hjd rfl rfl rfl

end

/-! ## the dispatch switch and the workers against `Pool` -/

section
variable {W SJ : Type}

/-- the configuration the Pool model reads off `sched.opts` -/
def cfgOf (env : Env) : Pool.Cfg := ⟨env.opts.BlockingExecution, env.opts.WorkerLimit.toNat⟩

/-- what an event says about the arm of the dispatch switch that produced it -/
def armOfEvent : Event SJ → Pool.Arm
  | .execute _ _ => .inline
  | .select (Chan.send _ :: _) _ => .handoff
  | .wgAdd _ => .spawn
  | _ => .skip

/-- the arm taken by one call of `executeAndReschedule` that started with `pre` recorded and ended with `post`: what
the first event after `fetch`, `log "Job is about to be executed"` shows -/
def armOf (pre post : List (Event SJ)) : Pool.Arm :=
  match post.drop (pre.length + 2) with
  | e :: _ => armOfEvent e
  | [] => .skip

/-- `b` extends the record of `a` -/
def St.le (a b : St W SJ) : Prop := ∃ evs, b.out = a.out ++ evs

theorem St.le_refl (a : St W SJ) : St.le a a := ⟨[], by simp⟩

theorem St.le_trans {a b c : St W SJ} (h1 : St.le a b) (h2 : St.le b c) : St.le a c := by
  obtain ⟨e1, h1⟩ := h1; obtain ⟨e2, h2⟩ := h2
  exact ⟨e1 ++ e2, by rw [h2, h1, List.append_assoc]⟩

theorem St.le_emit_of {a b : St W SJ} (e : Event SJ) (h : St.le a b) : St.le a (b.emit e) :=
  St.le_trans h ⟨[e], rfl⟩

theorem St.le_select_of {a b : St W SJ} (X : Ext W SJ) (cs : List Chan) (h : St.le a b) :
    St.le a (b.select X cs).1 := St.le_trans h ⟨[_], rfl⟩

theorem St.le_ctxErr_of {a b : St W SJ} (X : Ext W SJ) (h : St.le a b) : St.le a (b.ctxErr X).1 :=
  St.le_trans h ⟨[_], rfl⟩

theorem St.le_execute_of {a b : St W SJ} (X : Ext W SJ) (j : Ref) (h : St.le a b) : St.le a (b.execute X j).1 :=
  St.le_trans h ⟨[_], rfl⟩

theorem loop1_le (X : Ext W SJ) (env : Env) (jd : Option JobDetail) (n : Nat) (i : Int) (σ : St W SJ)
    (err : Option Err) : St.le σ (executeWithRetries.loop1 X env jd n i σ err).1 := by
  have hx (a : St W SJ) (d : Int) (cs : List Chan) (j : Ref) : St.le a ((a.waited X d cs).execute X j).1 :=
    St.le_execute_of X j (St.le_emit_of _ (St.le_ctxErr_of X (St.le_select_of X cs (St.le_emit_of _ (St.le_refl a)))))
  -- the cases are the paths through `executeWithRetries.loop1`, numbered as in `loop1_any` (`Proofs/TransRetryLemmas.lean`)
  fun_induction executeWithRetries.loop1 X env jd n i σ err
  case case1 | case7 => exact St.le_refl _
  case case2 => exact St.le_ctxErr_of X (St.le_select_of X _ (St.le_emit_of _ (St.le_refl _)))
  case case3 | case4 => exact hx ..
  case case5 ih => exact St.le_trans (hx ..) ih
  case case6 => exact St.le_emit_of _ (St.le_select_of X _ (St.le_emit_of _ (St.le_refl _)))

theorem body_le (X : Ext W SJ) (env : Env) (σ : St W SJ) (jd : Option JobDetail) :
    St.le (σ.execute X (deref jd).job).1 (executeWithRetries.body X env σ jd).1 := by
  -- the paths through `executeWithRetries.body`: the first `Execute` panicked (case1) or returned nil (case2); after the
  -- loop: a panic (case3), `err != nil` and "Job terminated" logged (case4), `err == nil` (case5)
  fun_cases executeWithRetries.body X env σ jd
  case case4 => exact St.le_emit_of _ (loop1_le ..)
  case case3 | case5 => exact loop1_le ..
  all_goals exact St.le_refl _

theorem executeWithRetries_starts (X : Ext W SJ) (env : Env) (σ : St W SJ) (jd : Option JobDetail) :
    ∃ evs, (executeWithRetries X env σ jd).out
      = σ.out ++ Event.execute (deref jd).job (X.Execute σ.world (deref jd).job).2 :: evs := by
  have h : St.le (σ.execute X (deref jd).job).1 (executeWithRetries X env σ jd) := by
    fun_cases executeWithRetries X env σ jd
    · exact St.le_emit_of _ (body_le X env σ jd)
    · exact body_le X env σ jd
  obtain ⟨evs, h⟩ := h
  exact ⟨evs, by rw [h]; simp [St.execute]⟩

/-- THE DISPATCH SWITCH: for a valid job the translated `switch` takes the case `Pool.Code.std.arm` picks (first
`BlockingExecution`: inline; then `WorkerLimit > 0`: hand-off; default: spawn) -/
theorem dispatch_eq (X : Ext W SJ) (env : Env) (σ : St W SJ) (hv : (X.fetchAndReschedule σ.world).2.2.1 = true) :
    let σ' := (σ.fetch X).1.emit (Event.log "Debug" "Job is about to be executed")
    executeAndReschedule X env σ =
      (match Pool.Code.std.arm (cfgOf env) with
       | .inline => executeWithRetries X env σ' (X.JobDetail (σ.fetch X).2.1)
       | .handoff =>
         if (σ'.select X [Chan.send "dispatch", Chan.recv "ctx.Done()"]).2 = 0
         then (σ'.select X [Chan.send "dispatch", Chan.recv "ctx.Done()"]).1.emit (Event.send "dispatch" (σ.fetch X).2.1)
         else (σ'.select X [Chan.send "dispatch", Chan.recv "ctx.Done()"]).1
       | .spawn => (σ'.emit (Event.wgAdd 1)).emit (Event.go (Closure.executeAndReschedule_lit1 (σ.fetch X).2.1))
       | .skip => σ', (σ.fetch X).2.2.2) := by
  intro σ'
  have hv' : (σ.fetch X).2.2.1 = true := hv
  cases hb : env.opts.BlockingExecution
  · by_cases hw : env.opts.WorkerLimit > 0
    · rw [Pool.arm_std_pool (cfgOf env) hb (Int.lt_toNat.mpr hw)]
      simp only [executeAndReschedule, hb, hv', hw, if_true, decide_true, Bool.false_eq_true, if_false]
      generalize σ'.select X [Chan.send "dispatch", Chan.recv "ctx.Done()"] = s
      obtain ⟨s1, n⟩ := s
      cases n <;> simp
    · rw [Pool.arm_std_unbounded (cfgOf env) hb (Int.toNat_eq_zero.mpr (Int.not_lt.mp hw))]
      simp [executeAndReschedule, hb, hv', hw, σ']
  · rw [Pool.arm_std_blocking (cfgOf env) hb]
    simp [executeAndReschedule, hb, hv', σ']

/-- The dispatch switch of `executeAndReschedule` (quartz/scheduler.go) takes, for a valid job, the arm the model's
`Pool.Code.std.arm` picks, and the arm is visible in the record: it is what the first event after `fetch` and the
"about to be executed" line shows. -/
theorem trans_dispatch_arm (X : Ext W SJ) (env : Env) (σ : St W SJ)
    (hv : (X.fetchAndReschedule σ.world).2.2.1 = true) :
    armOf σ.out (executeAndReschedule X env σ).1.out = Pool.Code.std.arm (cfgOf env) := by
  rw [dispatch_eq X env σ hv]
  cases Pool.Code.std.arm (cfgOf env) with
  | inline =>
    obtain ⟨evs, h⟩ := executeWithRetries_starts X env
      ((σ.fetch X).1.emit (Event.log "Debug" "Job is about to be executed")) (X.JobDetail (σ.fetch X).2.1)
    show armOf σ.out (executeWithRetries X env _ _).out = _
    rw [h]
    simp [St.fetch, St.emit, armOf, armOfEvent]
  | handoff =>
    simp only
    split <;> simp [St.fetch, St.emit, St.select, armOf, armOfEvent]
  | spawn => simp [St.fetch, St.emit, armOf, armOfEvent]
  | skip => simp [St.fetch, St.emit, armOf]

/-- inline arm: the job is executed by the loop goroutine itself, before `executeAndReschedule` returns -/
theorem trans_dispatch_inline (X : Ext W SJ) (env : Env) (σ : St W SJ)
    (hv : (X.fetchAndReschedule σ.world).2.2.1 = true) (hb : env.opts.BlockingExecution = true) :
    executeAndReschedule X env σ =
      (executeWithRetries X env ((σ.fetch X).1.emit (Event.log "Debug" "Job is about to be executed"))
        (X.JobDetail (σ.fetch X).2.1), (σ.fetch X).2.2.2) := by
  rw [dispatch_eq X env σ hv, Pool.arm_std_blocking (cfgOf env) hb]

/-- hand-off arm: nothing is executed or started; the job is offered on `dispatch` in a `select` with `ctx.Done()`,
and it is sent iff the send case wins -/
theorem trans_dispatch_handoff (X : Ext W SJ) (env : Env) (σ : St W SJ)
    (hv : (X.fetchAndReschedule σ.world).2.2.1 = true) (hb : env.opts.BlockingExecution = false)
    (hw : env.opts.WorkerLimit > 0) :
    executeAndReschedule X env σ =
      (if (((σ.fetch X).1.emit (Event.log "Debug" "Job is about to be executed")).select X
            [Chan.send "dispatch", Chan.recv "ctx.Done()"]).2 = 0
       then (((σ.fetch X).1.emit (Event.log "Debug" "Job is about to be executed")).select X
            [Chan.send "dispatch", Chan.recv "ctx.Done()"]).1.emit (Event.send "dispatch" (σ.fetch X).2.1)
       else (((σ.fetch X).1.emit (Event.log "Debug" "Job is about to be executed")).select X
            [Chan.send "dispatch", Chan.recv "ctx.Done()"]).1, (σ.fetch X).2.2.2) := by
  rw [dispatch_eq X env σ hv, Pool.arm_std_pool (cfgOf env) hb (Int.lt_toNat.mpr hw)]

/-- default arm: the counter is incremented and one goroutine running `executeWithRetries` for that job is started;
`executeAndReschedule` does not wait for it -/
theorem trans_dispatch_spawn (X : Ext W SJ) (env : Env) (σ : St W SJ)
    (hv : (X.fetchAndReschedule σ.world).2.2.1 = true) (hb : env.opts.BlockingExecution = false)
    (hw : ¬ env.opts.WorkerLimit > 0) :
    (executeAndReschedule X env σ).1.out = σ.out ++ [Event.fetch true, Event.log "Debug" "Job is about to be executed",
      Event.wgAdd 1, Event.go (Closure.executeAndReschedule_lit1 (X.fetchAndReschedule σ.world).2.1)] ∧
    (executeAndReschedule X env σ).1.world = (X.fetchAndReschedule σ.world).1 := by
  simp [executeAndReschedule, St.fetch, St.emit, hb, hv, hw]

/-- …and that goroutine is one `executeWithRetries` followed by `wg.Done()` -/
theorem trans_spawned_body (X : Ext W SJ) (env : Env) (σ : St W SJ) (scheduled : SJ) :
    executeAndReschedule.lit1 X env σ scheduled =
      (executeWithRetries X env σ (X.JobDetail scheduled)).emit Event.wgDone := by
  simp [executeAndReschedule.lit1, executeAndReschedule.lit1.body]

/-- no valid job: nothing is dispatched -/
theorem trans_dispatch_invalid (X : Ext W SJ) (env : Env) (σ : St W SJ)
    (hv : (X.fetchAndReschedule σ.world).2.2.1 = false) :
    (executeAndReschedule X env σ).1.out = σ.out ++ [Event.fetch false] := by
  simp [executeAndReschedule, St.fetch, hv]

/-- `n` times `sched.wg.Add(1); go worker` -/
def spawnEvents : Nat → List (Event SJ)
  | 0 => []
  | n + 1 => Event.wgAdd 1 :: Event.go Closure.startWorkers_lit1 :: spawnEvents n

theorem workers_loop (X : Ext W SJ) (env : Env) : ∀ (n : Nat) (i : Int) (σ : St W SJ),
    i + n = env.opts.WorkerLimit →
    startWorkers.loop1 X env n i σ = { σ with out := σ.out ++ spawnEvents n } := by
  intro n
  induction n with
  | zero => intro i σ _; simp [startWorkers.loop1, spawnEvents]
  | succ k ih =>
    intro i σ hn
    have hlt : i < env.opts.WorkerLimit := by omega
    rw [startWorkers.loop1, if_pos (decide_eq_true hlt), ih (i + 1) _ (by omega)]
    simp [St.emit, spawnEvents]

/-- THE WORKER GUARD AND COUNT: `startWorkers` starts exactly `Pool.Code.std.workers` goroutines (none under
`BlockingExecution` or with `WorkerLimit ≤ 0`, else `WorkerLimit`), each counted by `wg.Add(1)` before its `go`, and
touches nothing else. -/
theorem trans_startWorkers (X : Ext W SJ) (env : Env) (σ : St W SJ) :
    startWorkers X env σ = { σ with out := σ.out ++
      (if Pool.Code.std.workers (cfgOf env) = 0 then []
       else Event.log "Debug" "Starting scheduler workers" :: spawnEvents (Pool.Code.std.workers (cfgOf env))) } := by
  cases hb : env.opts.BlockingExecution
  · by_cases hw : env.opts.WorkerLimit > 0
    · have hn : (0 : Int) + env.opts.WorkerLimit.toNat = env.opts.WorkerLimit := by
        rw [Int.zero_add, Int.toNat_of_nonneg (Int.le_of_lt hw)]
      have hpos : 0 < (cfgOf env).workerLimit := Int.lt_toNat.mpr hw
      rw [Pool.workers_std_pool (cfgOf env) hb hpos, if_neg (Nat.ne_of_gt hpos)]
      simp only [startWorkers, hb, hw, Bool.not_false, decide_true, Bool.and_self, if_true]
      rw [Int.sub_zero, workers_loop X env _ 0 _ hn]
      simp only [St.emit, List.append_assoc, List.singleton_append]
      rfl
    · rw [Pool.workers_std_unbounded (cfgOf env) (Int.toNat_eq_zero.mpr (Int.not_lt.mp hw))]
      simp [startWorkers, hb, hw]
  · rw [Pool.workers_std_blocking (cfgOf env) hb]
    simp [startWorkers, hb]

/-- the channel the hand-off goes through is unbuffered, as in `Pool.Code.std` -/
theorem trans_dispatchCap : Generated.TransRetry.dispatchCap = Pool.Code.std.dispatchCap := rfl

/-- The sequential behaviour of one worker goroutine: a sequence of rounds, each ONE receive from `dispatch` followed by
ONE complete `executeWithRetries` for the received job (the next `select` is reached only after it returned), left only
through the `<-ctx.Done()` case, with `wg.Done()` as the last thing done. -/
inductive WorkerRun (X : Ext W SJ) (env : Env) : St W SJ → St W SJ → Prop where
  | exit (σ : St W SJ) (h : (σ.select X [Chan.recv "ctx.Done()", Chan.recv "dispatch"]).2 = 0) :
      WorkerRun X env σ ((σ.select X [Chan.recv "ctx.Done()", Chan.recv "dispatch"]).1.emit Event.wgDone)
  | round (σ σ' : St W SJ) (h : (σ.select X [Chan.recv "ctx.Done()", Chan.recv "dispatch"]).2 ≠ 0)
      (rest : WorkerRun X env
        (executeWithRetries X env ((σ.select X [Chan.recv "ctx.Done()", Chan.recv "dispatch"]).1.recv X "dispatch").1
          (X.JobDetail ((σ.select X [Chan.recv "ctx.Done()", Chan.recv "dispatch"]).1.recv X "dispatch").2)) σ') :
      WorkerRun X env σ σ'

theorem worker_loop_rounds (X : Ext W SJ) (env : Env) : ∀ (fuel : Nat) (σ : St W SJ) (r : St W SJ × Flow),
    startWorkers.lit1.loop1 X env fuel σ = some r → r.2 = Flow.ret ∧ WorkerRun X env σ (r.1.emit Event.wgDone) := by
  intro fuel
  induction fuel with
  | zero => intro σ r h; simp [startWorkers.lit1.loop1] at h
  | succ k ih =>
    intro σ r h
    rw [startWorkers.lit1.loop1] at h
    cases hs : (σ.select X [Chan.recv "ctx.Done()", Chan.recv "dispatch"]).2 with
    | zero =>
      simp only [hs] at h
      cases h
      exact ⟨rfl, WorkerRun.exit σ hs⟩
    | succ n =>
      simp only [hs] at h
      obtain ⟨h1, h2⟩ := ih _ r h
      exact ⟨h1, WorkerRun.round σ _ (by rw [hs]; exact Nat.succ_ne_zero n) h2⟩

/-- every terminating run of the translated worker goroutine is a `WorkerRun` -/
theorem trans_worker_rounds (X : Ext W SJ) (env : Env) (fuel : Nat) (σ σ' : St W SJ)
    (h : startWorkers.lit1 X env fuel σ = some σ') : WorkerRun X env σ σ' := by
  simp only [startWorkers.lit1, startWorkers.lit1.body] at h
  cases hl : startWorkers.lit1.loop1 X env fuel σ with
  | none => rw [hl] at h; cases h
  | some r =>
    obtain ⟨hf, hr⟩ := worker_loop_rounds X env fuel σ r hl
    simp only [hl, hf] at h
    cases h
    exact hr

end

/-! ## the hypotheses are satisfiable, the definitions compute (non-vacuity) -/

/-- a concrete environment: everything not scripted is trivial -/
def baseX : Ext MW Unit where
  Execute w _ := (w, .returned none)
  select w _ := (w, 0)
  ctxErr w := (w, none)
  recv w _ := (w, ())
  fetchAndReschedule w := (w, ((), true, none))
  JobDetail _ := some { opts := some { MaxRetries := 3, RetryInterval := 10 } }

def jd3 : JobDetail := { opts := some { MaxRetries := 3, RetryInterval := 10 } }

example : runRetries (scriptedOn baseX none (fun _ => 0)) ⟨{}⟩ jd3 [.err, .ok] =
    [Event.execute 0 (.returned (some {})), Event.newTimer 10,
     Event.select [Chan.recv "timer.C", Chan.recv "ctx.Done()"] 0, Event.ctxErr none, Event.log "Trace" "Job retry",
     Event.execute 0 (.returned none)] := by decide +kernel
example : absResult (runRetries (scriptedOn baseX (some 2) (fun _ => 1)) ⟨{}⟩ jd3 [.err, .err, .ok]) =
    ⟨[.attempt .err, .wait, .attempt .err, .waitCancelled], .cancelled⟩ := by decide +kernel
/-- the timer and the context ready at the same time, the select takes the timer: the re-check of `ctx.Err()` stops -/
example : absResult (runRetries (scriptedOn baseX (some 2) (fun _ => 0)) ⟨{}⟩ jd3 [.err, .err, .ok]) =
    ⟨[.attempt .err, .wait, .attempt .err, .waitCancelled], .cancelled⟩ := by decide +kernel
example : absResult (runRetries (scriptedOn baseX none (fun _ => 0)) ⟨{}⟩ jd3 [.err, .panic, .ok]) =
    ⟨[.attempt .err, .wait, .attempt .panic], .recovered⟩ := by decide +kernel
example := trans_runRetries (scriptedOn baseX (some 2) (fun _ => 1)) (some 2) (fun _ => 1)
  (scriptedOn_scripted _ _ _) ⟨{}⟩ jd3 _ rfl [.err, .err, .ok]
example := C13_attempts_trans (scriptedOn baseX none (fun _ => 0)) (fun _ => 0) (scriptedOn_scripted _ _ _) ⟨{}⟩ jd3 _ rfl
  [.err, .err, .ok, .err] (by decide)
example := C13_cancel_stops_trans (scriptedOn baseX (some 2) (fun _ => 1)) (fun _ => 1) 2 (scriptedOn_scripted _ _ _)
  ⟨{}⟩ jd3 _ rfl [.err, .err, .err, .ok] (by decide) (by decide) (fun j hj => match j, hj with | 0, _ => rfl | 1, _ => rfl)
example := C13_panic_ends_sequence_trans (scriptedOn baseX none (fun _ => 0)) none (fun _ => 0)
  (scriptedOn_scripted _ _ _) ⟨{}⟩ jd3 _ rfl [.err, .panic, .ok] 1 (by decide)
example : armOf [] (executeAndReschedule baseX ⟨{ BlockingExecution := true, WorkerLimit := 2 }⟩ ⟨⟨[], 0⟩, []⟩).1.out
    = .inline := by decide +kernel
example : armOf [] (executeAndReschedule baseX ⟨{ WorkerLimit := 2 }⟩ ⟨⟨[], 0⟩, []⟩).1.out = .handoff := by decide +kernel
example : armOf [] (executeAndReschedule baseX ⟨{}⟩ ⟨⟨[], 0⟩, []⟩).1.out = .spawn := by decide +kernel
example : (startWorkers baseX ⟨{ WorkerLimit := 2 }⟩ ⟨⟨[], 0⟩, []⟩).out =
    [Event.log "Debug" "Starting scheduler workers", Event.wgAdd 1, Event.go Closure.startWorkers_lit1,
     Event.wgAdd 1, Event.go Closure.startWorkers_lit1] := by decide +kernel
example : (startWorkers baseX ⟨{ BlockingExecution := true, WorkerLimit := 2 }⟩ ⟨⟨[], 0⟩, []⟩).out = [] := by decide +kernel
example : (startWorkers.lit1 baseX ⟨{}⟩ 5 ⟨⟨[], 0⟩, []⟩).map (·.out) =
    some [Event.select [Chan.recv "ctx.Done()", Chan.recv "dispatch"] 0, Event.wgDone] := by decide +kernel

end TransRetry
