import QuartzModel.Proofs.TransLoggerLemmas
import QuartzModel.Theorems.C18
/-!
# The translated loggers (`Generated.TransLogger`, regenerated from /repo by `harness/cmd/gotolean-logger`)
# compute what the hand-written models compute

Model side: `Logger` (Logger/Simple.lean: `enabled`, `formatMessage`, `simpleLog`, the level/prefix table, `lstep`/`lrun`, `slogLevel`,
`slogLog`, `noopLog`).  The isolated job of the same generated file is in `Theorems/TransIsolated.lean`.

## SimpleLogger
* `trans_level_table`, `trans_enabled`, `trans_NewSimpleLogger` — constants, prefixes, the filter, the constructor
* `trans_formatMessage` : `formatMessage F msg args = Logger.formatMessage msg (renderArgs F args)` for EVERY rendering `F` of `any`
* `trans_simpleCall` : the events of one call of a level method, in closed form (lock, SetPrefix own label, Output depth 3 of the formatted
  message, unlock — also when `Output` panics; nothing when filtered out)
* `trans_simpleLog` : the bytes written per call (`linesOf`, the contract of `log.Logger.Output` with flags 0) = `Logger.simpleLog`
* `trans_erun` : EVERY interleaving of the recorded events of any number of goroutines = the hand model's `lrun` (step for step)
* transfers: `C18_filter_trans`, `C18_filter_line_trans`, `C18_off_silences_all_trans`, `C18_format_trans`, `C18_label_trans`,
  `C18_mutex_trans`

## SlogLogger, NoOpLogger
* `log_spec`, `trans_slogCall` : `log` in closed form (Enabled guard, Callers(3), one record, Handle); a level method = `log` with `Logger.slogLevel lv`
* `trans_slogLog` : the records handed to the handler = `Logger.slogLog`; `trans_NewSlogLogger`
* transfers: `C18_slog_level_map_trans`, `C18_noop_trans` (+ `trans_noop_bodies`)
-/
set_option autoImplicit false

namespace TransLogger
open Generated.TransLogger

variable {W A : Type}

theorem trans_logger_nothing_missing : Generated.TransLogger.missing = [] := rfl

/-- the part of `missing` that concerns package logger (an untranslatable change of job/isolated_job.go does not touch this one) -/
theorem trans_logger_area_nothing_missing : Generated.TransLogger.missingLogger = [] := rfl

/-- the `Level*` constants and the prefixes read from the source are the model's table -/
theorem trans_level_table :
    LevelTrace = Logger.levelTrace ∧ LevelDebug = Logger.levelDebug ∧ LevelInfo = Logger.levelInfo ∧
    LevelWarn = Logger.levelWarn ∧ LevelError = Logger.levelError ∧ LevelOff = Logger.levelOff ∧
    tracePrefix = Logger.Lvl.trace.label ∧ debugPrefix = Logger.Lvl.debug.label ∧ infoPrefix = Logger.Lvl.info.label ∧
    warnPrefix = Logger.Lvl.warn.label ∧ errorPrefix = Logger.Lvl.error.label :=
  ⟨rfl, rfl, rfl, rfl, rfl, rfl, rfl, rfl, rfl, rfl, rfl⟩

theorem trans_enabled (l : SimpleLogger) (level : Int) : SimpleLogger.enabled l level = Logger.enabled l.level level := rfl

/-- the constructor stores the threshold and the `*log.Logger` it was handed -/
theorem trans_NewSimpleLogger (lg : Option Ref) (level : Int) :
    NewSimpleLogger lg level = { logger := lg, level := level } := rfl

/-- **`formatMessage` = `Logger.formatMessage`** on the rendered arguments, for every message, every argument list (any length,
any values) and every rendering of `any` under `%s` / `%v` -/
theorem trans_formatMessage [Inhabited A] (F : Fmt A) (msg : String) (args : List A) :
    formatMessage F msg args = Logger.formatMessage msg (renderArgs F args) :=
  (loop1_spec F args args.length 0 _ (by omega)).trans (by simp [Logger.formatMessage])

/-- the hand model's reading "arguments are already rendered strings, `%s` and `%v` are the identity" is the instance `A := String` -/
def idFmt : Fmt String := { fmtS := id, fmtV := id }

theorem trans_formatMessage_strings (msg : String) (args : List String) :
    formatMessage idFmt msg args = Logger.formatMessage msg args := by
  rw [trans_formatMessage, renderArgs_map idFmt rfl]
  simp [idFmt]

/-- the events a call adds to the record -/
def newEvents [Inhabited A] (lv : Logger.Lvl) (F : Fmt A) (X : Ext W A) (σ : St W A) (l : SimpleLogger) (msg : String) (args : List A) :
    List (Event A) :=
  (simpleCall lv F X σ l msg args).1.out.drop σ.out.length

/-- **the events of one call**: filtered out ⇒ nothing at all; otherwise exactly `Lock`, `SetPrefix(<own label>)`,
`Output(3, formatMessage …)`, `Unlock` in this order — the `Unlock` also when `Output` panics (it is deferred) — and the panic,
not the error, of `Output` reaches the caller. -/
theorem trans_simpleCall [Inhabited A] (lv : Logger.Lvl) (F : Fmt A) (X : Ext W A) (σ : St W A) (l : SimpleLogger) (msg : String)
    (args : List A) :
    let m := Logger.formatMessage msg (renderArgs F args)
    let o := X.output σ.world l.logger 3 m
    (Logger.enabled l.level lv.value = true →
      newEvents lv F X σ l msg args = [.lock "l.mtx", .setPrefix l.logger lv.label, .output l.logger 3 m o.2, .unlock "l.mtx"] ∧
      (simpleCall lv F X σ l msg args).1.world = o.1 ∧ (simpleCall lv F X σ l msg args).2 = resultOf o.2) ∧
    (Logger.enabled l.level lv.value = false →
      newEvents lv F X σ l msg args = [] ∧ simpleCall lv F X σ l msg args = (σ, .returned ())) := by
  intro m o
  unfold newEvents
  rw [simpleCall_spec, output_spec, trans_formatMessage]
  constructor
  · intro h
    simp [h, callEvents, m, o]
  · intro h
    simp [h]

/-- what a `log.Logger` with flags 0 writes for a sequence of events: `Output` writes the CURRENT prefix, the text, and a newline unless
the text ends with one (`Logger.outputLine`, the contract of `log.Logger.Output`); `p` = the prefix before the first event -/
def linesOf : String → List (Event A) → List String
  | _, [] => []
  | _, .setPrefix _ q :: es => linesOf q es
  | p, .output _ _ s _ :: es => Logger.outputLine p s :: linesOf p es
  | p, _ :: es => linesOf p es

/-- **the line written per call = `Logger.simpleLog`**, whatever prefix the shared `log.Logger` had before -/
theorem trans_simpleLog [Inhabited A] (lv : Logger.Lvl) (F : Fmt A) (X : Ext W A) (σ : St W A) (l : SimpleLogger) (msg : String)
    (args : List A) (p0 : String) :
    linesOf p0 (newEvents lv F X σ l msg args) = (Logger.simpleLog l.level lv msg (renderArgs F args)).toList := by
  have h := trans_simpleCall lv F X σ l msg args
  simp only at h
  unfold Logger.simpleLog
  cases he : Logger.enabled l.level lv.value with
  | true => rw [(h.1 he).1]; simp [linesOf]
  | false => rw [(h.2 he).1]; simp [linesOf]

/-- `C18_filter` for the translated methods: a line is written iff the level is at or above the threshold -/
theorem C18_filter_trans [Inhabited A] (lv : Logger.Lvl) (F : Fmt A) (X : Ext W A) (σ : St W A) (l : SimpleLogger) (msg : String)
    (args : List A) (p0 : String) :
    (∃ line, linesOf p0 (newEvents lv F X σ l msg args) = [line]) ↔ l.level ≤ lv.value := by
  rw [trans_simpleLog, ← Logger.C18_filter l.level lv msg (renderArgs F args)]
  cases Logger.simpleLog l.level lv msg (renderArgs F args) <;> simp

/-- `C18_filter_line`: what is written is the level's own prefix and the formatted message -/
theorem C18_filter_line_trans [Inhabited A] (lv : Logger.Lvl) (F : Fmt A) (X : Ext W A) (σ : St W A) (l : SimpleLogger)
    (msg : String) (args : List A) (p0 line : String) (h : linesOf p0 (newEvents lv F X σ l msg args) = [line]) :
    line = Logger.outputLine lv.label (formatMessage F msg args) ∧ l.level ≤ lv.value := by
  rw [trans_simpleLog, Option.toList_eq_singleton_iff] at h
  rw [trans_formatMessage]
  exact Logger.C18_filter_line l.level lv msg (renderArgs F args) line h

/-- `C18_off_silences_all`: a threshold of `LevelOff` or above records nothing — no lock, no prefix change, no output -/
theorem C18_off_silences_all_trans [Inhabited A] (lv : Logger.Lvl) (F : Fmt A) (X : Ext W A) (σ : St W A) (l : SimpleLogger)
    (msg : String) (args : List A) (h : LevelOff ≤ l.level) :
    newEvents lv F X σ l msg args = [] := by
  have hx := Logger.C18_off_silences_all l.level h lv msg (renderArgs F args)
  unfold Logger.simpleLog at hx
  exact ((trans_simpleCall lv F X σ l msg args).2 (by simpa using hx)).1

/-- `C18_format` for the translated `formatMessage`: the text is `msg=<msg>` followed by the rendered arguments in order; nothing is dropped
or reordered; `n / 2` pairs and a lone item iff `n` is odd (`n` = the number of Go arguments) -/
theorem C18_format_trans [Inhabited A] (F : Fmt A) (msg : String) (args : List A) :
    formatMessage F msg args = Logger.expectedMessage msg (renderArgs F args) ∧
    (Logger.structured (renderArgs F args)).flat = renderArgs F args ∧ (renderArgs F args).length = args.length ∧
    (Logger.structured (renderArgs F args)).pairs.length = args.length / 2 ∧
    ((Logger.structured (renderArgs F args)).tail.isSome ↔ args.length % 2 = 1) := by
  have h := Logger.C18_format msg (renderArgs F args)
  rw [renderArgs_length] at h
  exact ⟨by rw [trans_formatMessage]; exact h.1, h.2.1, renderArgs_length F args, h.2.2.1, h.2.2.2⟩

/-- **every interleaving of the translated programs is the hand model's run, step for step**: goroutine `i` makes the calls `cwork i` on one
shared translated `SimpleLogger`; `sched` picks who takes the next atomic step (one recorded event; a filtered-out call takes one silent
step).  The shared prefix variable, the mutex holder and the written lines evolve exactly as in `Logger.lrun` with the mutex. -/
theorem trans_erun [Inhabited A] (F : Fmt A) (X : Ext W A) (w : W) (l : SimpleLogger) (cwork : Nat → List (Call A))
    (sched : List Nat) :
    absS (erun (callProg F X w l) (einit cwork) sched) =
      Logger.lrun true l.level (Logger.linit (fun i => (cwork i).map Call.toRec)) sched :=
  (erun_sim l.level (callProg F X w l) (callProg_isProg F X w l) sched (einit cwork) (fun _ => .inl rfl)).1

/-- `C18_label` for the translated code: in EVERY interleaving of any number of goroutines every written line carries the prefix of the
level it was logged at, and passed the filter -/
theorem C18_label_trans [Inhabited A] (F : Fmt A) (X : Ext W A) (w : W) (l : SimpleLogger) (cwork : Nat → List (Call A))
    (sched : List Nat) :
    ∀ e ∈ (erun (callProg F X w l) (einit cwork) sched).out, e.label = e.lvl.label ∧ l.level ≤ e.lvl.value := by
  intro e he
  exact Logger.C18_label l.level _ sched e (by rw [← trans_erun F X w l cwork sched]; exact he)

/-- `C18_mutex`: two goroutines are never both between `Lock` and `Unlock` -/
theorem C18_mutex_trans [Inhabited A] (F : Fmt A) (X : Ext W A) (w : W) (l : SimpleLogger) (cwork : Nat → List (Call A))
    (sched : List Nat) (i j : Nat) :
    let s := erun (callProg F X w l) (einit cwork) sched
    pcOf (s.th i).k ≠ .start → pcOf (s.th j).k ≠ .start → i = j := by
  have := Logger.C18_mutex l.level (fun i => (cwork i).map Call.toRec) sched i j
  rwa [← trans_erun F X w l cwork sched] at this

/-- a concrete environment: `Output` succeeds -/
def okExt : Ext Unit String :=
  { output := fun w _ _ _ => (w, .returned none), enabled := fun w _ _ _ => (w, true), handle := fun w _ _ _ => (w, .returned none),
    swap := fun w _ _ => (w, false), store := fun w _ _ => w, execute := fun w _ _ => (w, .returned none) }

/-- … and one whose writer panics -/
def panicExt : Ext Unit String := { okExt with output := fun w _ _ _ => (w, .panicked) }

example : formatMessage idFmt "job done" ["key", "a/b", "took"] = "msg=job done, key=a/b, took" := by decide +kernel

example : linesOf "x" (newEvents .warn idFmt okExt { world := () } (NewSimpleLogger (some 1) LevelInfo) "job done" ["key", "a/b", "took"]) =
    ["WARN msg=job done, key=a/b, took\n"] := by decide +kernel

example : newEvents .info idFmt okExt { world := () } (NewSimpleLogger (some 1) LevelWarn) "x" [] = [] := by decide +kernel

/-- the mutex is released although `Output` panicked, and the panic reaches the caller -/
example :
    let r := SimpleLogger.Error idFmt panicExt { world := () } (NewSimpleLogger (some 1) LevelInfo) "m" []
    r.1.out = [.lock "l.mtx", .setPrefix (some 1) "ERROR ", .output (some 1) 3 "msg=m" .panicked, .unlock "l.mtx"] ∧
    r.2 = .panicked := by decide +kernel

/-- two goroutines, an interleaving in which goroutine 1 blocks on the mutex: both lines carry their own label -/
example :
    let cwork : Nat → List (Call String) := fun i =>
      if i = 0 then [⟨.warn, "a", []⟩] else if i = 1 then [⟨.error, "c", ["k"]⟩, ⟨.debug, "d", []⟩] else []
    (erun (callProg idFmt okExt () (NewSimpleLogger none LevelInfo)) (einit cwork) [0, 1, 0, 1, 0, 0, 1, 1, 1, 1, 1]).out.map
        (fun e => (e.label, e.msg)) = [("ERROR ", "c"), ("WARN ", "a")] := by
  decide +kernel

/-- the translated method of each level -/
def slogCall [Inhabited A] (lv : Logger.Lvl) (X : Ext W A) (σ : St W A) (l : SlogLogger) (msg : String) (args : List A) :
    St W A × CallResult Unit :=
  match lv with
  | .trace => SlogLogger.Trace X σ l msg args
  | .debug => SlogLogger.Debug X σ l msg args
  | .info => SlogLogger.Info X σ l msg args
  | .warn => SlogLogger.Warn X σ l msg args
  | .error => SlogLogger.Error X σ l msg args

/-- `SlogLogger.log` in closed form: it asks `Enabled(ctx, level)` on the stored logger and context; if the answer is no, nothing else
happens; otherwise `runtime.Callers(3, …)`, then ONE record with that level, the message and ALL arguments in order goes to
`Handler().Handle` with the stored context; a panic of the handler, not its error, reaches the caller. -/
theorem log_spec [Inhabited A] (X : Ext W A) (σ : St W A) (l : SlogLogger) (level : Int) (msg : String) (args : List A) :
    SlogLogger.log X σ l level msg args =
      if (X.enabled σ.world l.logger l.ctx level).2 = true then
        ({ world := (X.handle (X.enabled σ.world l.logger l.ctx level).1 l.logger l.ctx ⟨level, msg, args⟩).1,
           out := σ.out ++ [.enabled l.logger l.ctx level true, .callers 3,
             .handle l.logger l.ctx ⟨level, msg, args⟩
               (X.handle (X.enabled σ.world l.logger l.ctx level).1 l.logger l.ctx ⟨level, msg, args⟩).2] },
         resultOf (X.handle (X.enabled σ.world l.logger l.ctx level).1 l.logger l.ctx ⟨level, msg, args⟩).2)
      else
        ({ world := (X.enabled σ.world l.logger l.ctx level).1, out := σ.out ++ [.enabled l.logger l.ctx level false] },
         .returned ()) := by
  unfold SlogLogger.log
  simp only [St.enabled, St.emit, St.handle, Record.new, Record.add, List.nil_append]
  by_cases he : (X.enabled σ.world l.logger l.ctx level).2 = true
  · simp only [he, Bool.not_true, Bool.false_eq_true, if_false, if_true, resultOf]
    cases (X.handle (X.enabled σ.world l.logger l.ctx level).1 l.logger l.ctx ⟨level, msg, args⟩).2 <;> simp
  · simp [he]

/-- **one call of a SlogLogger method** is `log` with `<level> = Logger.slogLevel lv` (Trace = Debug − 4 = −8); what `log` does is
`log_spec` -/
theorem trans_slogCall [Inhabited A] (lv : Logger.Lvl) (X : Ext W A) (σ : St W A) (l : SlogLogger) (msg : String) (args : List A) :
    slogCall lv X σ l msg args = SlogLogger.log X σ l (Logger.slogLevel lv) msg args := by
  cases lv <;>
  · simp only [slogCall, SlogLogger.Trace, SlogLogger.Debug, SlogLogger.Info, SlogLogger.Warn, SlogLogger.Error, Logger.slogLevel,
      LevelTrace]
    exact passOn_eq _

/-- the records handed to the handler -/
def handled : List (Event A) → List (Record A)
  | [] => []
  | .handle _ _ r _ :: es => r :: handled es
  | _ :: es => handled es

theorem handled_append (a b : List (Event A)) : handled (a ++ b) = handled a ++ handled b := by
  induction a with
  | nil => rfl
  | cons e es ih => cases e <;> simp [handled, ih]

/-- the hand model's record: attributes are `slog.Record.Add`'s pairing (contract of log/slog, `Logger.slogAttrs`) of the rendered arguments -/
def absRecord (render : A → String) (r : Record A) : Logger.SlogRecord :=
  { level := r.level, msg := r.msg, attrs := Logger.slogAttrs (r.args.map render) }

/-- **`SlogLogger.<Level>` = `Logger.slogLog`**: with `en level` = the handler's answer to `Enabled(ctx, level)` in the current world, the
records a call adds to what the handler has received are exactly the model's -/
theorem trans_slogLog [Inhabited A] (lv : Logger.Lvl) (X : Ext W A) (σ : St W A) (l : SlogLogger) (msg : String) (args : List A)
    (render : A → String) :
    (handled (slogCall lv X σ l msg args).1.out).map (absRecord render) =
      (handled σ.out).map (absRecord render) ++
        (Logger.slogLog (fun level => (X.enabled σ.world l.logger l.ctx level).2) lv msg (args.map render)).toList := by
  rw [trans_slogCall lv X σ l msg args, log_spec]
  unfold Logger.slogLog
  cases he : (X.enabled σ.world l.logger l.ctx (Logger.slogLevel lv)).2 <;> simp [handled_append, handled, absRecord, he]

/-- `C18_slog_level_map` for the translated methods: the level each method asks about and puts into the record is the numeric value of the
corresponding `logger.Level` (−8, −4, 0, 4, 8); a record reaches the handler iff the handler is enabled for that level; it carries that
level, the message and all arguments in order -/
theorem C18_slog_level_map_trans [Inhabited A] (lv : Logger.Lvl) (X : Ext W A) (σ : St W A) (l : SlogLogger) (msg : String)
    (args : List A) :
    let lvl := Logger.slogLevel lv
    let en := (X.enabled σ.world l.logger l.ctx lvl).2
    lvl = lv.value ∧
    (∃ rest, (slogCall lv X σ l msg args).1.out = σ.out ++ .enabled l.logger l.ctx lvl en :: rest ∧
      (en = false → rest = []) ∧
      (en = true → ∃ res, rest = [.callers 3, .handle l.logger l.ctx ⟨lvl, msg, args⟩ res])) := by
  refine ⟨by cases lv <;> rfl, ?_⟩
  rw [trans_slogCall lv X σ l msg args, log_spec]
  cases (X.enabled σ.world l.logger l.ctx (Logger.slogLevel lv)).2 <;> simp

/-- `NewSlogLogger`: panics on a nil logger; a nil context becomes `context.Background()`; otherwise both are stored as given -/
theorem trans_NewSlogLogger (ctx lg : Option Ref) :
    NewSlogLogger ctx lg =
      (match lg with
       | none => .panicked
       | some g => .returned { ctx := some (ctx.getD Ref.background), logger := some g }) := by
  unfold NewSlogLogger
  cases lg <;> cases ctx <;> rfl

/-- the translated method of each level: no externals, no state — the type alone says it cannot record anything -/
def noopCall (lv : Logger.Lvl) (n : NoOpLogger) (msg : String) (args : List A) [Inhabited A] : Unit :=
  match lv with
  | .trace => NoOpLogger.Trace n msg args
  | .debug => NoOpLogger.Debug n msg args
  | .info => NoOpLogger.Info n msg args
  | .warn => NoOpLogger.Warn n msg args
  | .error => NoOpLogger.Error n msg args

/-- `C18_noop`: every NoOpLogger method is translated as a function WITHOUT externals and state argument, of result type `Unit`.  The
equation `… = ()` holds of any term of type `Unit`: the content is that `noopCall` type-checks, i.e. that the five translated methods
have this type — a body with a statement would take `σ`.  The model's `noopLog` is `none`. -/
theorem C18_noop_trans [Inhabited A] (lv : Logger.Lvl) (n : NoOpLogger) (msg : String) (args : List A) (render : A → String) :
    noopCall lv n msg args = () ∧ Logger.noopLog lv msg (args.map render) = none :=
  ⟨rfl, rfl⟩

/-- the five methods applied to a receiver, a message and arguments only: again the content is that these applications type-check
(a body with a statement makes the definition take `σ`, and this stops compiling); `… = ()` itself holds of any `Unit` -/
theorem trans_noop_bodies [Inhabited A] (n : NoOpLogger) (msg : String) (args : List A) :
    NoOpLogger.Trace n msg args = () ∧ NoOpLogger.Debug n msg args = () ∧ NoOpLogger.Info n msg args = () ∧
    NoOpLogger.Warn n msg args = () ∧ NoOpLogger.Error n msg args = () := ⟨rfl, rfl, rfl, rfl, rfl⟩

/-- a handler enabled from Debug upwards: Trace is dropped after the `Enabled` question, Debug goes through with both arguments -/
def debugExt : Ext Unit String := { okExt with enabled := fun w _ _ lvl => (w, decide (lvl ≥ -4)) }

example :
    (slogCall .trace debugExt { world := () } ⟨some 0, some 5⟩ "m" ["k", "v"]).1.out = [.enabled (some 5) (some 0) (-8) false] ∧
    (slogCall .debug debugExt { world := () } ⟨some 0, some 5⟩ "m" ["k", "v", "z"]).1.out =
      [.enabled (some 5) (some 0) (-4) true, .callers 3, .handle (some 5) (some 0) ⟨-4, "m", ["k", "v", "z"]⟩ (.returned none)] := by
  decide +kernel

example : (handled (slogCall .debug debugExt { world := () } ⟨some 0, some 5⟩ "m" ["k", "v", "z"]).1.out).map (absRecord id) =
    [⟨-4, "m", [("k", "v"), ("!BADKEY", "z")]⟩] := by decide +kernel

example : NewSlogLogger none (some 7) = .returned ⟨some Ref.background, some 7⟩ ∧ NewSlogLogger (some 3) none = .panicked := by decide +kernel

end TransLogger
