import QuartzModel.Proofs.ZoneLemmas
/-!
# C14 — `NextFireTime` in a location with daylight-saving transitions

The location is an arbitrary `Zone` (`offsetAt`: offset in force at a UTC instant, `date`: the instant
`time.Date` picks for a wall-clock reading). Nothing is assumed about `date`, nothing relates `offsetAt` at
different instants — the theorems hold however `time.Date` resolves gaps and overlaps.

Bounded offsets (`hz`, |offset| ≤ 100000 s) are needed by `C14_terminates`, `C14_total` and
`C14_exact_away_from_transitions` only: there the start wall clock must be a valid civil time.
`C14_sound`, `C14_no_miss`, `C14_expiry`, `C14_exact_is_least` carry `hz` for a uniform signature and do not
use it, `C14_chain_increasing` only hands it to `C14_sound`; the remaining theorems do not mention it.
The lower bound `hp` on `prev` serves the same purpose and is used by the same three theorems only.
-/
namespace Cron
open Cal Odo

/-- wall-clock reading of the UTC instant u (seconds) in zone z -/
def reading (z : Zone) (u : Int) : Civil := Civil.ofSeconds (u + z.offsetAt u)
/-- the instants the code can name for a wall-clock reading w (seconds-as-if-UTC), given prev -/
def cands (z : Zone) (prevSec w : Int) : List Int := [z.date w, w - z.offsetAt prevSec]
/-- a candidate shows the reading and lies after prev -/
def Fires (z : Zone) (prevSec w u : Int) : Prop := u + z.offsetAt u = w ∧ prevSec < u

instance (z : Zone) (prevSec w u : Int) : Decidable (Fires z prevSec w u) := by
  unfold Fires; infer_instance

theorem fires_eq_true_iff (z : Zone) (u w prevSec : Int) :
    fires z u w prevSec = true ↔ Fires z prevSec w u := fires_iff z u w prevSec

theorem not_fires_of_rejected (z : Zone) (prevSec w : Int)
    (h : ZoneRejected z prevSec (z.offsetAt prevSec) w) :
    ∀ u ∈ cands z prevSec w, ¬ Fires z prevSec w u := by
  intro u hu
  simp only [cands, List.mem_cons, List.not_mem_nil, or_false] at hu
  rcases hu with rfl | rfl
  · exact h.1
  · exact h.2

/-- an accepted result is a whole second after prev; its reading `nw` matches, lies above prev's reading, is
shown by the result, which is one of the two candidates for it; every matching reading in between was rejected -/
theorem ok_reading (f : Fields) (hwf : WellFormed f = true) (z : Zone) (prev r : Int)
    (h : nextFire {} f z prev = .ok r) :
    ∃ nw, Matches f nw ∧ reading z (r / 1000000000) = nw ∧ Civil.lexLt (reading z (prev / 1000000000)) nw ∧
      r % 1000000000 = 0 ∧ prev < r ∧ r / 1000000000 ∈ cands z (prev / 1000000000) nw.toSeconds ∧
      Fires z (prev / 1000000000) nw.toSeconds (r / 1000000000) ∧
      ∀ L, Matches f L → Civil.lexLt (reading z (prev / 1000000000)) L → Civil.lexLt L nw →
        ∀ u ∈ cands z (prev / 1000000000) L.toSeconds, ¬ Fires z (prev / 1000000000) L.toSeconds u := by
  obtain ⟨nw, next, hm, hlt, hcand, e1, e2, hr, hrej⟩ := nextFire_ok_spec f hwf z prev r h
  subst hr
  rw [Int.mul_ediv_cancel next (by decide)]
  refine ⟨nw, hm, ?_, hlt, by omega, by omega, ?_, ⟨e1, e2⟩,
    fun L hL h1 h2 => not_fires_of_rejected z _ _ (hrej L hL h1 h2)⟩
  · unfold reading
    rw [e1, Civil.ofSeconds_toSeconds nw (matches_valid f nw hm)]
  · simp only [cands, List.mem_cons, List.not_mem_nil, or_false]
    exact hcand

set_option linter.unusedVariables false in
/-- the reading returned for an `.ok` result is the matching reading the loop accepted -/
theorem C14_result_reading (f : Fields) (hwf : WellFormed f = true) (z : Zone) (prev : Int)
    (hp : -9223372036854775808 ≤ prev) (r : Int) (h : nextFire {} f z prev = .ok r) :
    ∃ next, r = next * 1000000000 ∧ next ∈ cands z (prev / 1000000000) (reading z next).toSeconds ∧
      Fires z (prev / 1000000000) (reading z next).toSeconds next ∧ Matches f (reading z next) := by
  obtain ⟨_, hm, rfl, _, h0, _, hc, hf, _⟩ := ok_reading f hwf z prev r h
  exact ⟨r / 1000000000, by omega, hc, hf, hm⟩

set_option linter.unusedVariables false in
/-- soundness: a returned value is a whole second strictly after prev whose wall-clock reading in
    the location satisfies the expression -/
theorem C14_sound (f : Fields) (hwf : WellFormed f = true) (z : Zone) (prev : Int) (hp : -9223372036854775808 ≤ prev)
    (hz : ∀ u, -100000 ≤ z.offsetAt u ∧ z.offsetAt u ≤ 100000)
    (r : Int) (h : nextFire {} f z prev = .ok r) :
    r % 1000000000 = 0 ∧ prev < r ∧ Matches f (reading z (r / 1000000000)) := by
  obtain ⟨_, hm, rfl, _, h0, hlt, _⟩ := ok_reading f hwf z prev r h
  exact ⟨h0, hlt, hm⟩

set_option linter.unusedVariables false in
/-- every matching local reading L that was passed over (strictly between prev's reading and the
    returned one) cannot be named after prev: each candidate instant either does not show L
    (spring-forward gap) or is not after prev (earlier pass of a fall-back) -/
theorem C14_no_miss (f : Fields) (hwf : WellFormed f = true) (z : Zone) (prev : Int) (hp : -9223372036854775808 ≤ prev)
    (hz : ∀ u, -100000 ≤ z.offsetAt u ∧ z.offsetAt u ≤ 100000)
    (r : Int) (h : nextFire {} f z prev = .ok r) (L : Civil) (hL : Matches f L)
    (h1 : Civil.lexLt (reading z (prev / 1000000000)) L)
    (h2 : Civil.lexLt L (reading z (r / 1000000000))) :
    ∀ u ∈ cands z (prev / 1000000000) L.toSeconds, ¬ Fires z (prev / 1000000000) L.toSeconds u := by
  obtain ⟨_, _, rfl, _, _, _, _, _, hrej⟩ := ok_reading f hwf z prev r h
  exact hrej L hL h1 h2

set_option linter.unusedVariables false in
/-- expiry is reported only when no matching local reading ahead can be named after prev -/
theorem C14_expiry (f : Fields) (hwf : WellFormed f = true) (z : Zone) (prev : Int) (hp : -9223372036854775808 ≤ prev)
    (hz : ∀ u, -100000 ≤ z.offsetAt u ∧ z.offsetAt u ≤ 100000)
    (h : nextFire {} f z prev = .expired) (L : Civil) (hL : Matches f L)
    (h1 : Civil.lexLt (reading z (prev / 1000000000)) L) :
    ∀ u ∈ cands z (prev / 1000000000) L.toSeconds, ¬ Fires z (prev / 1000000000) L.toSeconds u :=
  not_fires_of_rejected z _ _ (nextFire_expired_spec f hwf z prev h L hL h1)

/-- the retry loop ends: the model's fuel is never exhausted -/
theorem C14_terminates (f : Fields) (hwf : WellFormed f = true) (z : Zone) (prev : Int) (hp : -9223372036854775808 ≤ prev)
    (hz : ∀ u, -100000 ≤ z.offsetAt u ∧ z.offsetAt u ≤ 100000) :
    nextFire {} f z prev ≠ .outOfFuel :=
  nextFire_zone_ne_outOfFuel f hwf z prev hp hz

/-- a definite answer: a value strictly after prev, or expiry -/
theorem C14_total (f : Fields) (hwf : WellFormed f = true) (z : Zone) (prev : Int) (hp : -9223372036854775808 ≤ prev)
    (hz : ∀ u, -100000 ≤ z.offsetAt u ∧ z.offsetAt u ≤ 100000) :
    (∃ r, nextFire {} f z prev = .ok r ∧ prev < r) ∨ nextFire {} f z prev = .expired := by
  cases h : nextFire {} f z prev with
  | ok r => exact Or.inl ⟨r, rfl, (C14_sound f hwf z prev hp hz r h).2.1⟩
  | expired => exact Or.inr rfl
  | outOfFuel => exact absurd h (C14_terminates f hwf z prev hp hz)

/-- away from transitions: if the zone behaves like one fixed offset c at prev and at the first
    candidate, the result is exactly the earliest matching local time -/
theorem C14_exact_away_from_transitions (f : Fields) (hwf : WellFormed f = true) (z : Zone)
    (prev : Int) (hp : -9223372036854775808 ≤ prev) (hz : ∀ u, -100000 ≤ z.offsetAt u ∧ z.offsetAt u ≤ 100000)
    (t : Civil) (ht : csmNext {} f (reading z (prev / 1000000000)) = some (some t))
    (hd : z.date t.toSeconds = t.toSeconds - z.offsetAt (prev / 1000000000))
    (ho : z.offsetAt (t.toSeconds - z.offsetAt (prev / 1000000000)) = z.offsetAt (prev / 1000000000)) :
    nextFire {} f z prev = .ok ((t.toSeconds - z.offsetAt (prev / 1000000000)) * 1000000000) :=
  nextFire_first_accepted f hwf z prev hp hz t ht hd ho

set_option linter.unusedVariables false in
/-- and that earliest matching local time is characterised as in C01/C02: it matches, is above prev's
    reading, and nothing matching lies between -/
theorem C14_exact_is_least (f : Fields) (hwf : WellFormed f = true) (z : Zone)
    (prev : Int) (hp : -9223372036854775808 ≤ prev) (hz : ∀ u, -100000 ≤ z.offsetAt u ∧ z.offsetAt u ≤ 100000)
    (t : Civil) (ht : csmNext {} f (reading z (prev / 1000000000)) = some (some t))
    (hd : z.date t.toSeconds = t.toSeconds - z.offsetAt (prev / 1000000000))
    (ho : z.offsetAt (t.toSeconds - z.offsetAt (prev / 1000000000)) = z.offsetAt (prev / 1000000000)) :
    Matches f t ∧ Civil.lexLt (reading z (prev / 1000000000)) t ∧
      ∀ L, Matches f L → Civil.lexLt (reading z (prev / 1000000000)) L → ¬ Civil.lexLt L t :=
  csmNext_spec_some f hwf _ t ht

/-- a chain never returns the same instant twice: consecutive results strictly increase (how often a
    reading repeated by a fall-back fires is shown on instances only, `exFall_second`, `exFall_second_pass`) -/
theorem C14_chain_increasing (f : Fields) (hwf : WellFormed f = true) (z : Zone) (prev : Int)
    (hp : -9223372036854775808 ≤ prev) (hz : ∀ u, -100000 ≤ z.offsetAt u ∧ z.offsetAt u ≤ 100000)
    (r r' : Int) (h : nextFire {} f z prev = .ok r) (h' : nextFire {} f z r = .ok r') : r < r' := by
  have hpr := (C14_sound f hwf z prev hp hz r h).2.1
  exact (C14_sound f hwf z r (by omega) hz r' h').2.1

set_option linter.unusedVariables false in
/-- the returned reading lies strictly above prev's reading: along a chain the local readings strictly
    increase, so a reading repeated by a fall-back is fired once by a chain that passes through its
    first occurrence (and a second time only from a prev inside the repeated hour, `exFall_second_pass`) -/
theorem C14_reading_advances (f : Fields) (hwf : WellFormed f = true) (z : Zone) (prev : Int)
    (hp : -9223372036854775808 ≤ prev) (r : Int) (h : nextFire {} f z prev = .ok r) :
    Civil.lexLt (reading z (prev / 1000000000)) (reading z (r / 1000000000)) := by
  obtain ⟨_, _, rfl, hlt, _⟩ := ok_reading f hwf z prev r h
  exact hlt

/-- `fixedZone c` unfolded: the constant offset `c`, and `date w = w - c` (the zone of C01/C02/C06) -/
theorem C14_fixed_zone_is_special_case (c : Int) :
    (fixedZone c).offsetAt = (fun _ => c) ∧ (fixedZone c).date = (fun w => w - c) := ⟨rfl, rfl⟩

/-- on a fixed-offset zone `reading` is the reading used in C01/C02 -/
theorem C14_reading_fixed (c u : Int) : reading (fixedZone c) u = Civil.ofSeconds (u + c) := rfl

/-- `0 30 * * * ?` — every hour at half past -/
def exHalf : Fields :=
  { sec := ⟨[0], 0⟩, min := ⟨[30], 0⟩, hour := ⟨[], 0⟩, dom := ⟨[], 0⟩, month := ⟨[], 0⟩,
    dow := ⟨[], 0⟩, year := ⟨[], 0⟩ }

theorem exHalf_wf : WellFormed exHalf = true := by decide

/-- spring forward: UTC before the instant 1000000 (1970-01-12T13:46:40Z), UTC+1 from it on; the local
    readings 13:46:40 … 14:46:39 of that day do not exist. `date` resolves a reading with the offset of
    the period it falls into when read as UTC (for a gap reading: the instant one hour earlier). -/
def exSpring : Zone :=
  { offsetAt := fun u => if u < 1000000 then 0 else 3600
    date := fun w => if w < 1000000 then w else w - 3600 }

theorem exSpring_bounded : ∀ u, -100000 ≤ exSpring.offsetAt u ∧ exSpring.offsetAt u ≤ 100000 := by
  intro u
  show -100000 ≤ (if u < 1000000 then (0 : Int) else 3600) ∧ (if u < 1000000 then (0 : Int) else 3600) ≤ 100000
  split <;> omega

/-- prev = 13:30:00 local (999000 s): the next matching reading 14:30:00 lies in the gap and is skipped,
    the result is 15:30:00 local = 14:30:00Z (1002600 s) -/
theorem exSpring_skip : nextFire {} exHalf exSpring 999000000000000 = .ok 1002600000000000 := by
  decide +kernel

theorem exSpring_prev_reading : reading exSpring (999000000000000 / 1000000000) = ⟨1970, 1, 12, 13, 30, 0⟩ := by
  decide +kernel

theorem exSpring_result_reading :
    reading exSpring (1002600000000000 / 1000000000) = ⟨1970, 1, 12, 15, 30, 0⟩ := by decide +kernel

example : (1002600000000000 : Int) % 1000000000 = 0 ∧ (999000000000000 : Int) < 1002600000000000 ∧
    Matches exHalf (reading exSpring (1002600000000000 / 1000000000)) :=
  C14_sound exHalf exHalf_wf exSpring _ (by omega) exSpring_bounded _ exSpring_skip

/-- the gap reading 14:30:00 matches and lies strictly between prev's reading and the result's -/
theorem exSpring_gap_matches : Matches exHalf ⟨1970, 1, 12, 14, 30, 0⟩ :=
  (allValid_iff_matches exHalf exHalf_wf (cfgOfCivil ⟨1970, 1, 12, 14, 30, 0⟩)).mp
    (forall_lt_six.mpr ⟨rfl, rfl, rfl, rfl, rfl, rfl⟩)

/-- `C14_no_miss` on the instance: the skipped 14:30:00 cannot be named after prev -/
example : ∀ u ∈ cands exSpring (999000000000000 / 1000000000) (⟨1970, 1, 12, 14, 30, 0⟩ : Civil).toSeconds,
    ¬ Fires exSpring (999000000000000 / 1000000000) (⟨1970, 1, 12, 14, 30, 0⟩ : Civil).toSeconds u :=
  C14_no_miss exHalf exHalf_wf exSpring _ (by omega) exSpring_bounded _ exSpring_skip
    ⟨1970, 1, 12, 14, 30, 0⟩ exSpring_gap_matches
    (by rw [exSpring_prev_reading]; decide) (by rw [exSpring_result_reading]; decide)

/-- and indeed: `time.Date` answers 13:30:00Z (shows 13:30:00, not after prev), the instant with
    prev's offset is 14:30:00Z (shows 15:30:00) -/
example : cands exSpring 999000 (⟨1970, 1, 12, 14, 30, 0⟩ : Civil).toSeconds = [999000, 1002600] ∧
    reading exSpring 999000 = ⟨1970, 1, 12, 13, 30, 0⟩ ∧
    reading exSpring 1002600 = ⟨1970, 1, 12, 15, 30, 0⟩ := by decide +kernel

/-- `0 30 14 12 1 ? 1970` — a single reading, which lies in the gap of `exSpring` -/
def exGapOnly : Fields :=
  { sec := ⟨[0], 0⟩, min := ⟨[30], 0⟩, hour := ⟨[14], 0⟩, dom := ⟨[12], 0⟩, month := ⟨[1], 0⟩,
    dow := ⟨[], 0⟩, year := ⟨[1970], 0⟩ }

theorem exGapOnly_wf : WellFormed exGapOnly = true := by decide

theorem exGapOnly_expired : nextFire {} exGapOnly exSpring 999000000000000 = .expired := by
  decide +kernel

theorem exGapOnly_matches : Matches exGapOnly ⟨1970, 1, 12, 14, 30, 0⟩ :=
  (allValid_iff_matches exGapOnly exGapOnly_wf (cfgOfCivil ⟨1970, 1, 12, 14, 30, 0⟩)).mp
    (forall_lt_six.mpr ⟨rfl, rfl, rfl, rfl, rfl, rfl⟩)

/-- `C14_expiry` on an instance where a matching reading lies ahead of prev's reading (and was
    removed by the gap) -/
example : ∀ u ∈ cands exSpring (999000000000000 / 1000000000) (⟨1970, 1, 12, 14, 30, 0⟩ : Civil).toSeconds,
    ¬ Fires exSpring (999000000000000 / 1000000000) (⟨1970, 1, 12, 14, 30, 0⟩ : Civil).toSeconds u :=
  C14_expiry exGapOnly exGapOnly_wf exSpring _ (by omega) exSpring_bounded exGapOnly_expired
    ⟨1970, 1, 12, 14, 30, 0⟩ exGapOnly_matches (by rw [exSpring_prev_reading]; decide)

example : nextFire {} exHalf exSpring 999000000000000 ≠ .outOfFuel :=
  C14_terminates exHalf exHalf_wf exSpring _ (by omega) exSpring_bounded

example : (∃ r, nextFire {} exHalf exSpring 999000000000000 = .ok r ∧ 999000000000000 < r) ∨
    nextFire {} exHalf exSpring 999000000000000 = .expired :=
  C14_total exHalf exHalf_wf exSpring _ (by omega) exSpring_bounded

/-- far from the transition (prev = the epoch): the hypotheses of `C14_exact_away_from_transitions`
    hold with t = 00:30:00 and the result is 00:30:00Z -/
theorem exSpring_first : csmNext {} exHalf (reading exSpring (0 / 1000000000)) =
    some (some ⟨1970, 1, 1, 0, 30, 0⟩) := by decide +kernel

example : nextFire {} exHalf exSpring 0 =
    .ok (((⟨1970, 1, 1, 0, 30, 0⟩ : Civil).toSeconds - exSpring.offsetAt (0 / 1000000000)) * 1000000000) :=
  C14_exact_away_from_transitions exHalf exHalf_wf exSpring 0 (by omega) exSpring_bounded
    ⟨1970, 1, 1, 0, 30, 0⟩ exSpring_first (by decide +kernel) (by decide +kernel)

example : ((⟨1970, 1, 1, 0, 30, 0⟩ : Civil).toSeconds - exSpring.offsetAt (0 / 1000000000)) * 1000000000
    = 1800000000000 := by decide +kernel

/-- and after the transition (prev = 1970-02-01T00:00:00Z = 01:00:00 local): 01:30:00 local = 00:30:00Z -/
theorem exSpring_later : csmNext {} exHalf (reading exSpring (2678400000000000 / 1000000000)) =
    some (some ⟨1970, 2, 1, 1, 30, 0⟩) := by decide +kernel

example : nextFire {} exHalf exSpring 2678400000000000 =
    .ok (((⟨1970, 2, 1, 1, 30, 0⟩ : Civil).toSeconds - exSpring.offsetAt (2678400000000000 / 1000000000))
      * 1000000000) :=
  C14_exact_away_from_transitions exHalf exHalf_wf exSpring _ (by omega) exSpring_bounded
    ⟨1970, 2, 1, 1, 30, 0⟩ exSpring_later (by decide +kernel) (by decide +kernel)

example : Matches exHalf ⟨1970, 2, 1, 1, 30, 0⟩ ∧
    Civil.lexLt (reading exSpring (2678400000000000 / 1000000000)) ⟨1970, 2, 1, 1, 30, 0⟩ ∧
    ∀ L, Matches exHalf L → Civil.lexLt (reading exSpring (2678400000000000 / 1000000000)) L →
      ¬ Civil.lexLt L ⟨1970, 2, 1, 1, 30, 0⟩ :=
  C14_exact_is_least exHalf exHalf_wf exSpring _ (by omega) exSpring_bounded
    ⟨1970, 2, 1, 1, 30, 0⟩ exSpring_later (by decide +kernel) (by decide +kernel)

/-- fall back: UTC+1 before the instant 1000000 (local 14:46:40), UTC from it on (local 13:46:40);
    the local readings 13:46:40 … 14:46:39 of 1970-01-12 occur twice. `date` picks the earlier pass. -/
def exFall : Zone :=
  { offsetAt := fun u => if u < 1000000 then 3600 else 0
    date := fun w => if w - 3600 < 1000000 then w - 3600 else w }

theorem exFall_bounded : ∀ u, -100000 ≤ exFall.offsetAt u ∧ exFall.offsetAt u ≤ 100000 := by
  intro u
  show -100000 ≤ (if u < 1000000 then (3600 : Int) else 0) ∧ (if u < 1000000 then (3600 : Int) else 0) ≤ 100000
  split <;> omega

/-- prev = 998000 s (14:13:20 local, first pass): fires at the first 14:30:00 (999000 s) -/
theorem exFall_first : nextFire {} exHalf exFall 998000000000000 = .ok 999000000000000 := by
  decide +kernel

/-- from the first 14:30:00 the search goes on from that reading: the second 14:30:00 (1002600 s) is
    not fired, the result is 15:30:00 (1006200 s) — the repeated reading fired once -/
theorem exFall_second : nextFire {} exHalf exFall 999000000000000 = .ok 1006200000000000 := by
  decide +kernel

/-- from an instant inside the second pass (1000100 s, 13:48:20 local for the second time) the second
    14:30:00 (1002600 s) is fired, through the offset in force at prev — the repeated reading may fire
    twice -/
theorem exFall_second_pass : nextFire {} exHalf exFall 1000100000000000 = .ok 1002600000000000 := by
  decide +kernel

example : reading exFall 999000 = ⟨1970, 1, 12, 14, 30, 0⟩ ∧ reading exFall 1002600 = ⟨1970, 1, 12, 14, 30, 0⟩ ∧
    reading exFall 1006200 = ⟨1970, 1, 12, 15, 30, 0⟩ := by decide +kernel

example : (999000000000000 : Int) < 1006200000000000 :=
  C14_chain_increasing exHalf exHalf_wf exFall _ (by omega) exFall_bounded _ _ exFall_first exFall_second

example : (fixedZone 7200).offsetAt = (fun _ => 7200) ∧ (fixedZone 7200).date = (fun w => w - 7200) :=
  C14_fixed_zone_is_special_case 7200

example : Civil.lexLt (reading exFall (999000000000000 / 1000000000))
    (reading exFall (1006200000000000 / 1000000000)) :=
  C14_reading_advances exHalf exHalf_wf exFall _ (by omega) _ exFall_second

/-! ## The expiry clause at full strength (instants, not readings) — FALSE for the code as it is

`C14_expiry` speaks of local readings that come after prev's reading in calendar order. The property's
sentence "never reports expiry while matching local times remain in the future" is about instants. The
two differ exactly inside the first pass of a repeated interval: a reading smaller than prev's reading is
shown again later. The code's search runs over readings, so the full-strength clause fails; the witness
below is replayed against the real code on every run (`qh dst`, class `one-shot-in-first-pass`, known
finding `overlap-first-pass-expiry`). -/

/-- full strength: expiry is reported only if no instant after prev shows a matching reading -/
def ExpiryFull (f : Fields) (z : Zone) (prev : Int) : Prop :=
  nextFire {} f z prev = .expired → ∀ u : Int, prev / 1000000000 < u → ¬ Matches f (reading z u)

/-- `0 30 14 12 1 ? 1970` — once, on 1970-01-12 at 14:30:00 -/
def exOneShot : Fields :=
  { sec := ⟨[0], 0⟩, min := ⟨[30], 0⟩, hour := ⟨[14], 0⟩, dom := ⟨[12], 0⟩, month := ⟨[1], 0⟩,
    dow := ⟨[], 0⟩, year := ⟨[1970], 0⟩ }

theorem exOneShot_wf : WellFormed exOneShot = true := by decide

/-- from 14:13:20 (first pass) the one-shot fires at the first 14:30:00 -/
example : nextFire {} exOneShot exFall 998000000000000 = .ok 999000000000000 := by decide +kernel

/-- prev = 999600 s = 14:40:00 in the FIRST pass: the first 14:30:00 (999000 s) is over, the second one
    (1002600 s) is 50 minutes ahead — and the answer is "expired" -/
theorem exFall_oneShot_expired : nextFire {} exOneShot exFall 999600000000000 = .expired := by
  decide +kernel

/-- from the second pass the one-shot's second occurrence is answered — so that instant matches (`C14_sound`) -/
theorem exFall_oneShot_second : nextFire {} exOneShot exFall 1000100000000000 = .ok 1002600000000000 := by
  decide +kernel

theorem exFall_oneShot_remains : (999600000000000 : Int) / 1000000000 < 1002600 ∧
    Matches exOneShot (reading exFall 1002600) :=
  ⟨by decide, (C14_sound exOneShot exOneShot_wf exFall _ (by omega) exFall_bounded _ exFall_oneShot_second).2.2⟩

/-- **the full-strength expiry clause does not hold** (known finding `overlap-first-pass-expiry`);
    what is proved for all inputs is `C14_expiry` (= the clause for readings after prev's reading) -/
theorem C14_expiry_full_fails : ¬ ExpiryFull exOneShot exFall 999600000000000 := fun h =>
  h exFall_oneShot_expired 1002600 exFall_oneShot_remains.1 exFall_oneShot_remains.2

/-! The same evaluations on the model of `time.Date`'s two-lookup resolution (`TZ.toZone`). For the
fall-back zone (later offset 0, like Europe/London) `time.Date` resolves a repeated reading to its
*second* occurrence, so from 14:13:20 (first pass) the result is the second 14:30:00 (1002600 s) and the
first one (999000 s) is passed over: the repeated reading still fires once — `C14_sound`, `C14_no_miss`
hold for every `date`. -/

def exSpringTZ : TZ := { base := 0, trans := #[(1000000, 3600)] }
def exFallTZ : TZ := { base := 3600, trans := #[(1000000, 0)] }

example : nextFire {} exHalf exSpringTZ.toZone 999000000000000 = .ok 1002600000000000 := by decide +kernel
example : nextFire {} exHalf exFallTZ.toZone 998000000000000 = .ok 1002600000000000 := by decide +kernel
example : nextFire {} exHalf exFallTZ.toZone 999000000000000 = .ok 1006200000000000 := by decide +kernel
example : nextFire {} exHalf exFallTZ.toZone 1000100000000000 = .ok 1002600000000000 := by decide +kernel

/-- half an hour and 1 ns before the epoch, in the spring-forward location: 23:30:00Z of 1969-12-31 -/
theorem exSpring_neg : nextFire {} exHalf exSpring (-1800000000001) = .ok (-1800000000000) := by
  decide +kernel

theorem exSpring_neg2 : nextFire {} exHalf exSpring (-1800000000000) = .ok 1800000000000 := by
  decide +kernel

example : (-1800000000000 : Int) % 1000000000 = 0 ∧ (-1800000000001 : Int) < -1800000000000 ∧
    Matches exHalf (reading exSpring (-1800000000000 / 1000000000)) :=
  C14_sound exHalf exHalf_wf exSpring _ (by omega) exSpring_bounded _ exSpring_neg

example : nextFire {} exHalf exSpring (-9223372036854775808) ≠ .outOfFuel :=
  C14_terminates exHalf exHalf_wf exSpring _ (by omega) exSpring_bounded

example : (∃ r, nextFire {} exHalf exSpring (-1800000000001) = .ok r ∧ -1800000000001 < r) ∨
    nextFire {} exHalf exSpring (-1800000000001) = .expired :=
  C14_total exHalf exHalf_wf exSpring _ (by omega) exSpring_bounded

example : (-1800000000000 : Int) < 1800000000000 :=
  C14_chain_increasing exHalf exHalf_wf exSpring (-1800000000001) (by omega) exSpring_bounded _ _
    exSpring_neg exSpring_neg2

example : Civil.lexLt (reading exSpring (-1800000000001 / 1000000000))
    (reading exSpring (-1800000000000 / 1000000000)) :=
  C14_reading_advances exHalf exHalf_wf exSpring _ (by omega) _ exSpring_neg

end Cron
