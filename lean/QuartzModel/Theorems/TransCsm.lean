import QuartzModel.Proofs.TransLemmas
/-!
# Stage A (`CommonNode`, `internal/csm/common_node.go`): the hand-written `CommonNode` of `Cron/Nodes.lean` is the
translated Go code

`Generated.Trans` is regenerated from `/repo/internal/csm/*.go` and `/repo/quartz/csm.go` on every run by
`harness/cmd/gotolean`; a change of the Go code changes the generated definitions and the proofs stop checking.
Stated for every `CommonNode` whose fields are non-negative (`TransA.CommonWF`).
-/
namespace TransCsm
open Generated.Trans Cron TransRepr TransA

/-- Go `(*CommonNode).isValid` = model `commonValid` -/
theorem trans_commonValid (n : CommonNode) (h : CommonWF n) :
    n.isValid = Cron.commonValid n.min.toNat n.max.toNat (n.values.map Int.toNat) n.value.toNat := by
  conv => lhs; rw [eq_mk n h]
  exact isValid_mk _ _ _ _

/-- Go `(*CommonNode).Next` = model `commonNext` (new value, overflowed) -/
theorem trans_commonNext (n : CommonNode) (h : CommonWF n) :
    n.Next = (let r := Cron.commonNext n.min.toNat n.max.toNat (n.values.map Int.toNat) n.value.toNat
              ({ n with value := (r.1 : Int) }, r.2)) := by
  conv => lhs; rw [eq_mk n h]
  rw [Next_mk]
  simp only [with_value n h]

/-- Go `(*CommonNode).Reset` = model `commonReset` -/
theorem trans_commonReset (n : CommonNode) (h : CommonWF n) :
    n.Reset = { n with value := (Cron.commonReset n.min.toNat n.max.toNat (n.values.map Int.toNat) : Int) } := by
  conv => lhs; rw [eq_mk n h]
  rw [Reset_mk, with_value n h]

/-- Go `(*CommonNode).findForward`: result code `unchanged` iff the digit is valid, otherwise `Next` is applied and
the code is `overflowed`/`advanced` — exactly what `Odo.advFrom` does with a level
(`if isValid then continue else let r := next …; … if r.2 then overflowFrom …`). -/
theorem trans_commonFindForward (n : CommonNode) (h : CommonWF n) :
    n.findForward =
      (if Cron.commonValid n.min.toNat n.max.toNat (n.values.map Int.toNat) n.value.toNat then (n, unchanged)
       else (let r := Cron.commonNext n.min.toNat n.max.toNat (n.values.map Int.toNat) n.value.toNat
             ({ n with value := (r.1 : Int) }, ffCode r.2))) := by
  conv => lhs; rw [eq_mk n h]
  rw [findForward_mk]
  simp only [with_value n h]
  split
  · rw [← eq_mk n h]
  · rfl

/-- the result codes are the Go constants `unchanged = 0`, `advanced = 1`, `overflowed = 2` (regenerated) -/
theorem trans_resultCodes : (unchanged, advanced, overflowed) = ((0 : Int), (1 : Int), (2 : Int)) := by decide

def exNode : CommonNode := { value := 31, min := 0, max := 59, values := [0, 15, 30, 45] }
theorem exNode_wf : CommonWF exNode := ⟨by decide, by decide, by decide, by decide⟩

example : exNode.isValid = false ∧ exNode.Next = ({ exNode with value := 45 }, false) ∧
    exNode.Reset = { exNode with value := 0 } ∧ exNode.findForward = ({ exNode with value := 45 }, advanced) := by
  decide
example : Cron.commonNext 0 59 [0, 15, 30, 45] 31 = (45, false) := by decide
example : ({ exNode with value := 45 } : CommonNode).Next = ({ exNode with value := 0 }, true) := by
  rw [trans_commonNext _ ⟨by decide, by decide, by decide, by decide⟩]; decide

end TransCsm

#print axioms TransCsm.trans_commonValid
#print axioms TransCsm.trans_commonNext
#print axioms TransCsm.trans_commonReset
#print axioms TransCsm.trans_commonFindForward
