import QuartzModel.Proofs.SchedLemmas
/-!
# C03 — a job is executed only in response to a fire time produced by its own trigger,
never before that fire time, and at most once per fire time

"... under spurious or stale timer wake-ups and concurrent queue changes": in the model a loop step
(`step`, Go `fetchAndReschedule`) may happen at ANY clock reading `now` and in any interleaving with
the API operations (`Ev`, `run` in `Sched/History.lean`); all of them are atomic because the Go code
runs each under `queueLocker`.  Clock readings are not assumed monotone anywhere in this file.
-/
namespace Sched
open Queue

theorem C03_dispatch_has_entry (s : SState) (now thr : Int)
    (hd : (step s now thr).2.dispatched = true) : ∃ e, (step s now thr).2.popped = some e := by
  rcases step_out_basic s now thr with ⟨_, hs⟩ | ⟨q1, e, _, hp, _⟩
  · rw [hs] at hd; cases hd
  · exact ⟨e, hp⟩

/-- Never early (and never later than the threshold allows, and never a suspended job): a step at
clock reading `now` that hands entry `e` to a worker has `e.prio ≤ now`, `now - thr ≤ e.prio`,
`e.suspended = false`.  No assumption on the state. -/
theorem C03_never_early (s : SState) (now thr : Int) (e : Entry)
    (hd : (step s now thr).2.dispatched = true) (hp : (step s now thr).2.popped = some e) :
    e.prio ≤ now ∧ now - thr ≤ e.prio ∧ e.suspended = false ∧
      (step s now thr).2.cls = some .valid := by
  rcases step_out_basic s now thr with ⟨_, hs⟩ | ⟨q1, e', _, hp', hc, hd', _⟩
  · rw [hs] at hd; cases hd
  · rw [hp] at hp'
    injection hp' with hp'
    subst hp'
    rw [hd'] at hd
    have hv : classify e now thr = .valid := eq_of_beq hd
    have hcc := classify_cases e now thr
    rw [hv] at hcc
    obtain ⟨⟨⟩, _⟩ | ⟨⟨⟩, _⟩ | ⟨⟨⟩, _⟩ | ⟨_, h2, h3, h4, _⟩ := hcc
    exact ⟨h4, h3, h2, by rw [hc, hv]⟩

/-- The dispatched entry is the one `Pop` returned, it was a member of the registry, and it had the
minimum next-run time of the whole registry. -/
theorem C03_dispatch_is_popped_min (s : SState) (now thr : Int) (h : Inv s.q)
    (hd : (step s now thr).2.dispatched = true) :
    ∃ q1 e, qpop s.q = .ok (q1, e) ∧ (step s now thr).2.popped = some e ∧ e ∈ s.q.toList ∧
      s.q.toList.Perm (e :: q1.toList) ∧ ∀ x ∈ s.q.toList, e.prio ≤ x.prio := by
  rcases step_cases s now thr h with ⟨_, hs⟩ | ⟨q1, e, hq, hperm, _, hmin, _, hrows⟩
  · rw [hs] at hd; cases hd
  · refine ⟨q1, e, hq, ?_, hperm.mem_iff.mpr List.mem_cons_self, hperm, hmin⟩
    rcases hrows with ⟨_, hs⟩ | ⟨_, _, _, hs⟩ | ⟨_, _, _, _, hs⟩
    · rw [hs]; rfl -- row: trigger not asked
    · rw [hs]; rfl -- row: asked, no further fire time
    · rw [hs]; rfl -- row: asked, rescheduled

/-- **Own trigger, at most once per produced fire time.**  For every history from the empty scheduler
in which each `ScheduleJob` brings its own trigger object (`FreshTags`) — API calls and loop steps in
any order, at any (also non-monotone) clock readings — there is an injection `m` from the dispatches
of the history into the trigger-call log: the `i`-th dispatch (tag `t`, fire time `f`) is matched with
call number `m[i]`, which
* happened EARLIER (`m[i] < d.pos`, `d.pos` = length of the call log when the dispatching step began,
  see `mem_dispatchesFrom`),
* was made on the job's own trigger object (same tag) and
* answered exactly `f`;
and no call is matched twice (`m.Nodup`).  So every execution answers a fire time produced by the job's
own trigger, and no produced fire time is executed twice. -/
theorem C03_own_trigger_once (thr : Int) (evs : List Ev) (hft : FreshTags evs) :
    ∃ m : List Nat, m.Nodup ∧
      AllPairs (fun d k => k < d.pos ∧
          ∃ pv, (callLog (run thr {} evs).2)[k]? = some ⟨d.tag, pv, some d.time⟩)
        (dispatches (run thr {} evs).2) m := by
  obtain ⟨m, _, h2, h3⟩ := own_trigger_aux thr evs {} [] [] wf_empty hft (freshFor_empty _)
    (fun x hx => by simp at hx) (fun k hk => by cases hk)
  exact ⟨m, h2, by simpa [dispatches] using h3⟩

/-- `C03_own_trigger_once` read for one dispatch ("only in response to a fire time produced by its own trigger"):
it answers an earlier call on its own trigger with that very result -/
theorem C03_dispatch_answers_own_trigger (thr : Int) (evs : List Ev) (hft : FreshTags evs)
    (d : Disp) (hd : d ∈ dispatches (run thr {} evs).2) :
    ∃ k pv, k < d.pos ∧ (callLog (run thr {} evs).2)[k]? = some ⟨d.tag, pv, some d.time⟩ := by
  obtain ⟨m, _, hm⟩ := C03_own_trigger_once thr evs hft
  obtain ⟨i, hi, hget⟩ := List.getElem_of_mem hd
  have hi' : i < m.length := by rw [← hm.length_eq]; exact hi
  obtain ⟨h1, pv, h2⟩ := hm.get i hi hi'
  rw [hget] at h1 h2
  exact ⟨m[i], pv, h1, h2⟩

/-- `C03_own_trigger_once` read for two dispatches ("at most once per fire time"): a fire time the trigger
produced once (`huniq`) is executed at most once -/
theorem C03_at_most_once (thr : Int) (evs : List Ev) (hft : FreshTags evs) (t : Nat) (f : Int)
    (huniq : ∀ (k k' : Nat) (pv pv' : Int), (callLog (run thr {} evs).2)[k]? = some (⟨t, pv, some f⟩ : TrigCall) →
      (callLog (run thr {} evs).2)[k']? = some (⟨t, pv', some f⟩ : TrigCall) → k = k')
    (i j : Nat) (hi : i < (dispatches (run thr {} evs).2).length)
    (hj : j < (dispatches (run thr {} evs).2).length)
    (hdi : (dispatches (run thr {} evs).2)[i].tag = t ∧ (dispatches (run thr {} evs).2)[i].time = f)
    (hdj : (dispatches (run thr {} evs).2)[j].tag = t ∧ (dispatches (run thr {} evs).2)[j].time = f) :
    i = j := by
  obtain ⟨m, hnd, hm⟩ := C03_own_trigger_once thr evs hft
  have hi' : i < m.length := by rw [← hm.length_eq]; exact hi
  have hj' : j < m.length := by rw [← hm.length_eq]; exact hj
  obtain ⟨_, pv, h2⟩ := hm.get i hi hi'
  obtain ⟨_, pv', h2'⟩ := hm.get j hj hj'
  rw [hdi.1, hdi.2] at h2
  rw [hdj.1, hdj.2] at h2'
  exact (List.getElem_inj hnd).mp (huniq _ _ _ _ h2 h2')

/-! ## non-vacuity -/
namespace C03Ex

def exA : SchedArgs := { group := "g", name := "a", tag := 1, trig := some (.simple 10) }
def exB : SchedArgs := { group := "g", name := "b", tag := 2, trig := some (.runOnce 5 false) }
def exA' : SchedArgs := { group := "g", name := "a", tag := 3, trig := some (.simple 4), replace := true }

/-- schedule two jobs; spurious early wake-up (step 3); both run; a stale late wake-up (step 100, more
than `thr = 5` late: misfire, re-based); pause / resume; replace; delete; clock readings not monotone -/
def exHist : List Ev :=
  [.schedule 0 exA, .schedule 1 exB, .step 3, .step 6, .step 10, .step 11, .step 100, .step 110,
   .pause true "g" "a", .step 200, .resume 50 true "g" "a", .step 60, .schedule 61 exA', .step 65,
   .delete true "g" "a", .step 70]

example : FreshTags exHist := by decide
-- the dispatches (position in the call log, tag, fire time) and the call log of that history
example : dispatches (run 5 {} exHist).2 =
    [⟨2, 2, 6⟩, ⟨3, 1, 10⟩, ⟨5, 1, 110⟩, ⟨7, 1, 60⟩, ⟨9, 3, 65⟩] := by decide +kernel
example : callLog (run 5 {} exHist).2 =
    [⟨1, 0, some 10⟩, ⟨2, 1, some 6⟩, ⟨2, 6, none⟩, ⟨1, 10, some 20⟩, ⟨1, 100, some 110⟩,
     ⟨1, 110, some 120⟩, ⟨1, 50, some 60⟩, ⟨1, 60, some 70⟩, ⟨3, 61, some 65⟩, ⟨3, 65, some 69⟩] := by
  decide +kernel
-- single-step theorems: a dispatching step (hypotheses of `C03_never_early`, `C03_dispatch_is_popped_min`)
example : (step (run 5 {} [.schedule 0 exA, .schedule 1 exB]).1 6 5).2.dispatched = true ∧
    (step (run 5 {} [.schedule 0 exA, .schedule 1 exB]).1 6 5).2.popped =
      some { group := "g", name := "b", prio := 6, tag := 2 } := by decide +kernel
-- ... and the same state stepped too early or far too late does not dispatch
example : (step (run 5 {} [.schedule 0 exA, .schedule 1 exB]).1 5 5).2.dispatched = false ∧
    (step (run 5 {} [.schedule 0 exA, .schedule 1 exB]).1 12 5).2.dispatched = false := by decide +kernel

end C03Ex

end Sched
