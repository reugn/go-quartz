import QuartzModel.Concurrency.LockOrder

/-! C10 (locks): the lock discipline of `StdScheduler` is deadlock-free for any number of threads, and the two
classic violations (re-entrant `RLock`, lock-order inversion) are deadlock-prone.

Discipline (`Bl`): a thread's program is a sequence of blocks, each block either
* `acqA ; (acqB m ; relB m)* ; relA`   -- take `queueLocker`, inside it take/release `mtx` any number of times
* `acqB m ; relB m`                      -- take/release `mtx` alone
so: never `A` inside `B`, never `B` inside `B`, never `A` inside `A`.
The per-thread invariant `Good` is mirrored by the executable `goodB`; preservation and progress are proved on `goodB`. -/
namespace LockOrder

/-- B-blocks: `(acqB m ; relB m)*` -/
inductive BB : List Op → Prop
  | nil : BB []
  | cons (m : Mode) {p : List Op} : BB p → BB (.acqB m :: .relB m :: p)

/-- blocks: `(acqA ; BB ; relA  |  acqB m ; relB m)*` -/
inductive Bl : List Op → Prop
  | nil : Bl []
  | a {bb bl : List Op} : BB bb → Bl bl → Bl (.acqA :: (bb ++ .relA :: bl))
  | b (m : Mode) {bl : List Op} : Bl bl → Bl (.acqB m :: .relB m :: bl)

def isAcq : Op → Bool
  | .acqA => true
  | .acqB _ => true
  | .relA => false
  | .relB _ => false

def headAcq : List Op → Bool
  | op :: _ => isAcq op
  | [] => false

/-- a thread that has announced an acquisition is standing in front of one -/
def PendOk (t : Thread) : Prop := t.pend = true → headAcq t.todo = true

/-- the per-thread invariant: the thread is at one of the four kinds of positions of a `Bl` program -/
def Good (t : Thread) : Prop :=
  PendOk t ∧
  ( -- outside every lock
    (t.heldA = false ∧ t.heldB = [] ∧ Bl t.todo)
    -- inside A, not holding B
  ∨ (t.heldA = true ∧ t.heldB = [] ∧ ∃ bb bl, BB bb ∧ Bl bl ∧ t.todo = bb ++ .relA :: bl)
    -- holding B outside A
  ∨ (t.heldA = false ∧ ∃ m bl, t.heldB = [m] ∧ Bl bl ∧ t.todo = .relB m :: bl)
    -- holding B inside A
  ∨ (t.heldA = true ∧ ∃ m bb bl, t.heldB = [m] ∧ BB bb ∧ Bl bl ∧ t.todo = .relB m :: (bb ++ .relA :: bl)) )

/-- `wf a h p`: `p` is a legal remaining program for a thread that holds `A` iff `a` and holds `B` in
    mode `m` iff `h = some m` -/
def wf : Bool → Option Mode → List Op → Bool
  | a, none, [] => !a
  | _, some _, [] => false
  | a, none, .acqA :: p => !a && wf true none p
  | a, none, .relA :: p => a && wf false none p
  | a, none, .acqB m :: p => wf a (some m) p
  | _, none, .relB _ :: _ => false
  | a, some m, .relB m' :: p => m == m' && wf a none p
  | _, some _, .acqA :: _ => false
  | _, some _, .relA :: _ => false
  | _, some _, .acqB _ :: _ => false

/-- executable membership test for `Bl` (for regenerated method programs: `by decide`) -/
def blCheck (p : List Op) : Bool := wf false none p

def goodB (t : Thread) : Bool :=
  (!t.pend || headAcq t.todo) &&
  match t.heldB with
  | [] => wf t.heldA none t.todo
  | [m] => wf t.heldA (some m) t.todo
  | _ :: _ :: _ => false

theorem wf_BB_append {bb : List Op} (h : BB bb) (rest : List Op) :
    wf true none (bb ++ rest) = wf true none rest := by
  induction h with
  | nil => rfl
  | cons m _ ih => simp [wf, ih]

theorem wf_of_Bl {p : List Op} (h : Bl p) : wf false none p = true := by
  induction h with
  | nil => rfl
  | a hbb _ ih => simp [wf, wf_BB_append hbb, ih]
  | b m _ ih => simp [wf, ih]

theorem wf_of_inA {bb bl : List Op} (hbb : BB bb) (hbl : Bl bl) :
    wf true none (bb ++ .relA :: bl) = true := by
  simp [wf_BB_append hbb, wf, wf_of_Bl hbl]

/-- the checker is sound, at each of the four kinds of positions -/
theorem pos_of_wf : ∀ p : List Op,
    (wf false none p = true → Bl p) ∧
    (wf true none p = true → ∃ bb bl, BB bb ∧ Bl bl ∧ p = bb ++ .relA :: bl) ∧
    (∀ m, wf false (some m) p = true → ∃ bl, Bl bl ∧ p = .relB m :: bl) ∧
    (∀ m, wf true (some m) p = true → ∃ bb bl, BB bb ∧ Bl bl ∧ p = .relB m :: (bb ++ .relA :: bl))
  | [] => ⟨fun _ => .nil, (fun h => by cases h), (fun _ h => by cases h), fun _ h => by cases h⟩
  | .acqA :: p =>
    ⟨fun h => let ⟨_, _, hbb, hbl, e⟩ := (pos_of_wf p).2.1 h; e ▸ .a hbb hbl,
     (fun h => by cases h), (fun _ h => by cases h), fun _ h => by cases h⟩
  | .relA :: p =>
    ⟨(fun h => by cases h), fun h => ⟨[], p, .nil, (pos_of_wf p).1 h, rfl⟩,
     (fun _ h => by cases h), fun _ h => by cases h⟩
  | .acqB m :: p =>
    ⟨fun h => let ⟨_, hbl, e⟩ := (pos_of_wf p).2.2.1 m h; e ▸ .b m hbl,
     fun h => let ⟨bb, bl, hbb, hbl, e⟩ := (pos_of_wf p).2.2.2 m h; ⟨_, bl, .cons m hbb, hbl, e ▸ rfl⟩,
     (fun _ h => by cases h), fun _ h => by cases h⟩
  | .relB m' :: p =>
    ⟨(fun h => by cases h), (fun h => by cases h),
     fun m h => let ⟨hm, h⟩ := Bool.and_eq_true_iff.1 h; eq_of_beq hm ▸ ⟨p, (pos_of_wf p).1 h, rfl⟩,
     fun m h =>
      let ⟨hm, h⟩ := Bool.and_eq_true_iff.1 h
      let ⟨bb, bl, hbb, hbl, e⟩ := (pos_of_wf p).2.1 h
      ⟨bb, bl, hbb, hbl, eq_of_beq hm ▸ e ▸ rfl⟩⟩

theorem Bl_iff_wf (p : List Op) : Bl p ↔ wf false none p = true :=
  ⟨wf_of_Bl, (pos_of_wf p).1⟩

theorem inA_iff_wf (p : List Op) :
    (∃ bb bl, BB bb ∧ Bl bl ∧ p = bb ++ .relA :: bl) ↔ wf true none p = true :=
  ⟨fun ⟨_, _, hbb, hbl, e⟩ => e ▸ wf_of_inA hbb hbl, (pos_of_wf p).2.1⟩

theorem blCheck_sound {p : List Op} (h : blCheck p = true) : Bl p := (Bl_iff_wf p).2 h

theorem blCheck_complete {p : List Op} (h : Bl p) : blCheck p = true := (Bl_iff_wf p).1 h

theorem blCheck_all_sound {ps : List (List Op)} (h : ps.all blCheck = true) : ∀ p ∈ ps, Bl p := by
  intro p hp
  exact blCheck_sound (List.all_eq_true.1 h p hp)

theorem good_iff (t : Thread) : Good t ↔ goodB t = true := by
  rcases t with ⟨todo, pend, heldA, heldB⟩
  constructor
  · rintro ⟨hp, h⟩
    have hp' : (!pend || headAcq todo) = true := by
      cases pend
      · rfl
      · exact hp rfl
    refine Bool.and_eq_true_iff.2 ⟨hp', ?_⟩
    rcases h with ⟨rfl, rfl, h⟩ | ⟨rfl, rfl, bb, bl, hbb, hbl, rfl⟩ | ⟨rfl, m, bl, rfl, hbl, rfl⟩ |
        ⟨rfl, m, bb, bl, rfl, hbb, hbl, rfl⟩
    · exact wf_of_Bl h
    · exact wf_of_inA hbb hbl
    · exact Bool.and_eq_true_iff.2 ⟨beq_self_eq_true m, wf_of_Bl hbl⟩
    · exact Bool.and_eq_true_iff.2 ⟨beq_self_eq_true m, wf_of_inA hbb hbl⟩
  · intro h
    obtain ⟨hp, hw⟩ := Bool.and_eq_true_iff.1 h
    refine ⟨fun hpe => ?_, ?_⟩
    · cases hpe; exact hp
    · rcases heldB with _ | ⟨m, _ | ⟨m', l⟩⟩
      · cases heldA
        · exact Or.inl ⟨rfl, rfl, (pos_of_wf todo).1 hw⟩
        · exact Or.inr (Or.inl ⟨rfl, rfl, (pos_of_wf todo).2.1 hw⟩)
      · cases heldA
        · obtain ⟨bl, hbl, e⟩ := (pos_of_wf todo).2.2.1 m hw
          exact Or.inr (Or.inr (Or.inl ⟨rfl, m, bl, rfl, hbl, e⟩))
        · obtain ⟨bb, bl, hbb, hbl, e⟩ := (pos_of_wf todo).2.2.2 m hw
          exact Or.inr (Or.inr (Or.inr ⟨rfl, m, bb, bl, rfl, hbb, hbl, e⟩))
      · cases hw

theorem good_of_all {s : State} (h : s.all goodB = true) : ∀ t ∈ s, Good t :=
  fun t ht => (good_iff t).2 (List.all_eq_true.1 h t ht)

/-- a step of a thread keeps it on its `Bl` track (whether or not the step was enabled) -/
theorem good_stepT (t : Thread) (h : Good t) : Good (stepT t) := by
  rw [good_iff] at h ⊢
  rcases t with ⟨todo, pend, a, hb⟩
  cases todo with
  | nil => exact h
  | cons op p =>
    obtain ⟨hp, hw⟩ := Bool.and_eq_true_iff.1 h
    rcases hb with _ | ⟨m, _ | ⟨m', l⟩⟩
    · -- holding no `B`: `hw : wf a none (op :: p)`
      cases op with
      | acqA =>
        obtain ⟨ha, hw⟩ := Bool.and_eq_true_iff.1 hw
        cases a
        · cases pend <;> exact hw
        · cases ha
      | relA =>
        obtain ⟨ha, hw⟩ := Bool.and_eq_true_iff.1 hw
        cases ha
        cases pend
        · exact hw
        · cases hp
      | acqB m =>
        cases pend
        · exact hw
        · cases m <;> exact hw
      | relB m => cases hw
    · -- holding `B` in mode `m`: only its release is legal, and a release is never announced
      cases op with
      | relB m' =>
        obtain ⟨hm, hw⟩ := Bool.and_eq_true_iff.1 hw
        cases eq_of_beq hm
        cases pend
        · cases m <;> exact hw
        · cases hp
      | _ => cases hw
    · cases hw

theorem good_step {s : State} {i : Nat} (hg : ∀ t ∈ s, Good t) : ∀ t ∈ stepAt s i, Good t := by
  intro t ht
  unfold stepAt at ht
  split at ht
  · rename_i u hu
    rcases List.mem_or_eq_of_mem_set ht with h | rfl
    · exact hg t h
    · exact good_stepT u (hg u (List.mem_of_getElem? hu))
  · exact hg t ht

theorem deadlocked_eq_false_of_enabled {s : State} {t : Thread} (ht : t ∈ s) (he : enabledT s t = true) :
    deadlocked s = false := by
  obtain ⟨i, hi, rfl⟩ := List.getElem_of_mem ht
  have : (List.range s.length).all (fun i => !enabled s i) = false :=
    List.all_eq_false.2 ⟨i, List.mem_range.2 hi, by simp [enabled, List.getElem?_eq_getElem hi, he]⟩
  simp [deadlocked, this]

theorem deadlocked_eq_false_of_finished {s : State} (h : finished s = true) : deadlocked s = false := by
  simp [deadlocked, h]

/-- a `Good` thread that cannot move holds no `B`: holding it, its only legal next operation is the release,
    which is always enabled -/
theorem heldB_nil_of_stuck {s : State} {t : Thread} (hg : goodB t = true)
    (hd : enabledT s t = false) : t.heldB = [] := by
  rcases t with ⟨todo, pend, heldA, heldB⟩
  rcases heldB with _ | ⟨m, _ | ⟨m', l⟩⟩
  · rfl
  · have hw : wf heldA (some m) todo = true := (Bool.and_eq_true_iff.1 hg).2
    cases todo with
    | nil => cases hw
    | cons op p =>
      cases op with
      | relB m' => cases hd
      | _ => cases hw
  · cases (Bool.and_eq_true_iff.1 hg).2

/-- when nobody holds `B`, an announced writer is granted -/
theorem pendW_false_of_stuck {s : State} {t : Thread}
    (hB : s.all (fun u => u.heldB.isEmpty) = true) (hd : enabledT s t = false) : pendW t = false := by
  rcases t with ⟨todo, pend, heldA, heldB⟩
  cases todo with
  | nil => rfl
  | cons op p =>
    cases op with
    | acqB m =>
      cases m
      · rfl
      · simp [enabledT, hB] at hd
    | _ => rfl

/-- when nobody holds `B` and no writer waits, a stuck `Good` thread is finished or waits for a held `A`,
    and does not hold `A` itself -/
theorem stuck_shape {s : State} {t : Thread} (hg : goodB t = true) (hd : enabledT s t = false)
    (hb : t.heldB = [])
    (hB : s.all (fun u => u.heldB.isEmpty) = true) (hW : s.any holdsW = false)
    (hP : s.any pendW = false) :
    t.heldA = false ∧ (t.todo = [] ∨ s.any (·.heldA) = true) := by
  rcases t with ⟨todo, pend, heldA, heldB⟩
  cases hb
  rcases todo with _ | ⟨_ | _ | m | m, p⟩
  · have hw := (Bool.and_eq_true_iff.1 hg).2
    cases heldA
    · exact ⟨rfl, Or.inl rfl⟩
    · cases hw
  · -- waiting for `A`: legal only outside `A`, and stuck only if announced and `A` is held
    have hw := (Bool.and_eq_true_iff.1 (Bool.and_eq_true_iff.1 hg).2).1
    cases heldA
    · exact ⟨rfl, Or.inr ((Bool.not_eq_false' _).mp (Bool.or_eq_false_iff.1 hd).2)⟩
    · cases hw
  · cases hd
  · cases m <;> simp [enabledT, hB, hW, hP] at hd
  · cases hd

/-- Progress. A state all of whose threads follow the discipline is never deadlocked:
    unless every thread is finished, some thread can take a step. -/
theorem C10_lock_order_no_deadlock {s : State} (hg : ∀ t ∈ s, Good t) : deadlocked s = false := by
  by_cases hstuck : ∃ t ∈ s, enabledT s t = true
  · obtain ⟨t, ht, he⟩ := hstuck
    exact deadlocked_eq_false_of_enabled ht he
  · have hd : ∀ t ∈ s, enabledT s t = false := fun t ht => Bool.eq_false_iff.2 fun h => hstuck ⟨t, ht, h⟩
    have hgB : ∀ t ∈ s, goodB t = true := fun t ht => (good_iff t).1 (hg t ht)
    -- nobody holds B
    have h1 : ∀ t ∈ s, t.heldB = [] := fun t ht => heldB_nil_of_stuck (hgB t ht) (hd t ht)
    have hB : s.all (fun u => u.heldB.isEmpty) = true :=
      List.all_eq_true.2 (fun t ht => by simp [h1 t ht])
    have hW : s.any holdsW = false :=
      List.any_eq_false.2 (fun t ht => by simp [holdsW, h1 t ht])
    -- no writer waits
    have hP : s.any pendW = false :=
      List.any_eq_false.2 (fun t ht => by simp [pendW_false_of_stuck hB (hd t ht)])
    -- nobody holds A
    have h2 : ∀ t ∈ s, t.heldA = false ∧ (t.todo = [] ∨ s.any (·.heldA) = true) :=
      fun t ht => stuck_shape (hgB t ht) (hd t ht) (h1 t ht) hB hW hP
    have hA : s.any (·.heldA) = false :=
      List.any_eq_false.2 (fun t ht => by simp [(h2 t ht).1])
    -- so everybody is finished
    apply deadlocked_eq_false_of_finished
    apply List.all_eq_true.2
    intro t ht
    rcases (h2 t ht).2 with h | h
    · simp [h]
    · rw [hA] at h
      cases h

theorem good_init {ps : List (List Op)} (hps : ∀ p ∈ ps, Bl p) : ∀ t ∈ initState ps, Good t := by
  intro t ht
  obtain ⟨p, hp, rfl⟩ := List.mem_map.1 ht
  exact ⟨(fun h => by simp at h), Or.inl ⟨rfl, rfl, hps p hp⟩⟩

theorem good_reach {s0 s : State} (h0 : ∀ t ∈ s0, Good t) (hr : Reach s0 s) : ∀ t ∈ s, Good t := by
  induction hr with
  | init => exact h0
  | step _ _ ih => exact good_step ih

/-- Any number of threads, each running a program of the discipline, any interleaving:
    no reachable state is deadlocked. (`Reach` = inductive closure of enabled steps.) -/
theorem C10_lock_order_reachable (ps : List (List Op)) (hps : ∀ p ∈ ps, Bl p)
    {s : State} (hr : Reach (initState ps) s) : deadlocked s = false :=
  C10_lock_order_no_deadlock (good_reach (good_init hps) hr)

theorem reach_run {s0 s : State} (hr : Reach s0 s) (sched : List Nat) : Reach s0 (run s sched) := by
  induction sched generalizing s with
  | nil => exact hr
  | cons i rest ih =>
    refine ih (s := if enabled s i then stepAt s i else s) ?_
    split
    · exact Reach.step hr ‹_›
    · exact hr

theorem reach_of_runStrict {s0 s1 s : State} {sched : List Nat} (hr : Reach s0 s1)
    (h : runStrict s1 sched = some s) : Reach s0 s := by
  induction sched generalizing s1 with
  | nil => exact Option.some.inj h ▸ hr
  | cons i rest ih =>
    simp only [runStrict] at h
    split at h
    · exact ih (Reach.step hr ‹_›) h
    · cases h

/-- the same as a statement about schedules (lists of thread indices, disabled choices skipped) -/
theorem C10_lock_order_run (ps : List (List Op)) (hps : ∀ p ∈ ps, Bl p) (sched : List Nat) :
    deadlocked (run (initState ps) sched) = false :=
  C10_lock_order_reachable ps hps (reach_run .init sched)

/-- the seeded ScheduleJob (`mtx.RLock()` held across the call of `IsStarted()`, which does `mtx.RLock()`
    again) beside `Stop()` (`mtx.Lock()`) -/
def seededPrograms : List (List Op) :=
  [[.acqB .r, .acqB .r, .relB .r, .relB .r], [.acqB .w, .relB .w]]

/-- announce r, acquire r, (Stop) announce w, announce r: both threads wait for each other -/
def seededSchedule : List Nat := [0, 0, 1, 0]

/-- every step of the schedule is enabled and the state it leads to is deadlocked -/
theorem C10_recursive_rlock_deadlocks :
    (runStrict (initState seededPrograms) seededSchedule).map deadlocked = some true := by decide +kernel

theorem C10_recursive_rlock_deadlocks_reach :
    ∃ s, Reach (initState seededPrograms) s ∧ deadlocked s = true :=
  let ⟨s, hs, hd⟩ := Option.map_eq_some_iff.1 C10_recursive_rlock_deadlocks
  ⟨s, reach_of_runStrict .init hs, hd⟩

/-- the first program is not in the discipline (so the theorem above does not contradict progress) -/
example : ¬ Bl [.acqB .r, .acqB .r, .relB .r, .relB .r] := by
  rw [Bl_iff_wf]; decide

/-- without the writer the re-entrant read lock goes unnoticed: this is why the defect needs a concurrent
    `Stop()` to show -/
example : ∀ sched ∈ [[0, 0, 0, 0, 0, 0], [0, 0, 0, 0], [0]],
    deadlocked (run (initState [[.acqB .r, .acqB .r, .relB .r, .relB .r]]) sched) = false := by decide +kernel

/-- lock-order inversion: `A; B` beside `B; A` -/
def reversePrograms : List (List Op) :=
  [[.acqA, .acqB .w, .relB .w, .relA], [.acqB .w, .acqA, .relA, .relB .w]]

def reverseSchedule : List Nat := [0, 0, 1, 1, 0, 1]

theorem C10_reverse_order_deadlocks :
    (runStrict (initState reversePrograms) reverseSchedule).map deadlocked = some true := by decide +kernel

theorem C10_reverse_order_deadlocks_reach :
    ∃ s, Reach (initState reversePrograms) s ∧ deadlocked s = true :=
  let ⟨s, hs, hd⟩ := Option.map_eq_some_iff.1 C10_reverse_order_deadlocks
  ⟨s, reach_of_runStrict .init hs, hd⟩

example : ¬ Bl [.acqB .w, .acqA, .relA, .relB .w] := by
  rw [Bl_iff_wf]; decide

/-- lock shapes of the methods of `StdScheduler`, written by hand (the table read from the source on every run is
    `Generated.Mtx.shapes`, used in `C10LockFacts.lean`):
    "A"    queueLocker only (GetJobKeys, GetScheduledJob; in the loop fetchAndReschedule, executeAndReschedule)
    "A>Br" queueLocker, and inside it IsStarted() (ScheduleJob, DeleteJob, PauseJob, ResumeJob, Clear)
    "Br"   IsStarted()
    "Bw"   Start, Stop, stopRun
    ""     takes no lock (Wait) -/
def progOf : String → List Op
  | "A" => [.acqA, .relA]
  | "A>Br" => [.acqA, .acqB .r, .relB .r, .relA]
  | "Br" => [.acqB .r, .relB .r]
  | "Bw" => [.acqB .w, .relB .w]
  | _ => []

def shapes : List String := ["A", "A>Br", "Br", "Bw", ""]

theorem progOf_A : progOf "A" = [.acqA, .relA] := by decide +kernel
theorem progOf_ABr : progOf "A>Br" = [.acqA, .acqB .r, .relB .r, .relA] := by decide +kernel
theorem progOf_Br : progOf "Br" = [.acqB .r, .relB .r] := by decide +kernel
theorem progOf_Bw : progOf "Bw" = [.acqB .w, .relB .w] := by decide +kernel
theorem progOf_none : progOf "" = [] := by decide +kernel

theorem progOf_good : ∀ sh ∈ ["A", "A>Br", "Br", "Bw", ""], Bl (progOf sh) := fun _ h =>
  blCheck_all_sound (ps := ["A", "A>Br", "Br", "Bw", ""].map progOf) (by decide +kernel) _ (List.mem_map_of_mem h)

/-- a thread that calls several methods one after the other -/
theorem Bl_append {p q : List Op} (hp : Bl p) (hq : Bl q) : Bl (p ++ q) := by
  induction hp with
  | nil => exact hq
  | a hbb _ ih =>
    simpa [List.append_assoc] using Bl.a hbb ih
  | b m _ ih => exact Bl.b m ih

theorem Bl_flatten {ps : List (List Op)} (h : ∀ p ∈ ps, Bl p) : Bl ps.flatten := by
  induction ps with
  | nil => exact Bl.nil
  | cons p ps ih => exact Bl_append (h p List.mem_cons_self) (ih fun q hq => h q (List.mem_cons_of_mem _ hq))

/-- any sequence of calls of the real methods is a program of the discipline -/
theorem Bl_calls (calls : List String) (h : ∀ sh ∈ calls, sh ∈ shapes) :
    Bl (calls.flatMap progOf) := by
  rw [List.flatMap_def]
  refine Bl_flatten (fun p hp => ?_)
  obtain ⟨c, hc, rfl⟩ := List.mem_map.1 hp
  exact progOf_good c (h c hc)

/-- Any number of goroutines, each calling any sequence of methods with the shapes of `progOf`, any interleaving:
    never deadlocked on the scheduler's own locks. This rests on the hand-written table `progOf`; the statement
    tied to the table regenerated from quartz/scheduler.go is `C10_no_lock_deadlock_code` (`C10LockFacts.lean`). -/
theorem C10_lock_order_methods (threads : List (List String))
    (h : ∀ calls ∈ threads, ∀ sh ∈ calls, sh ∈ shapes)
    {s : State} (hr : Reach (initState (threads.map (·.flatMap progOf))) s) : deadlocked s = false := by
  refine C10_lock_order_reachable _ ?_ hr
  intro p hp
  obtain ⟨calls, hc, rfl⟩ := List.mem_map.1 hp
  exact Bl_calls calls (h calls hc)

/-- mid-way: thread 0 is inside `A` holding `B.r` (ScheduleJob inside IsStarted), thread 1 has announced
    `B.Lock()` (Stop), thread 2 waits for `A` (another ScheduleJob) -/
def midState : State :=
  [ { todo := [.relB .r, .relA], heldA := true, heldB := [.r] },
    { todo := [.acqB .w, .relB .w], pend := true },
    { todo := [.acqA, .acqB .r, .relB .r, .relA], pend := true } ]

theorem midState_good : ∀ t ∈ midState, Good t := good_of_all (by decide +kernel)

example : ∀ t ∈ midState, Good t := midState_good

example : deadlocked midState = false := by decide +kernel
example : deadlocked midState = false := C10_lock_order_no_deadlock midState_good

/-- only thread 0 can move there (the other two wait), and after it has released both locks they can -/
example : (List.range 3).map (enabled midState) = [true, false, false] := by decide +kernel
example : (List.range 3).map (enabled (run midState [0, 0])) = [false, true, true] := by decide +kernel

/-- `midState` is reachable from three real method calls: ScheduleJob, Stop, ScheduleJob -/
example : runStrict (initState [progOf "A>Br", progOf "Bw", progOf "A>Br"]) [0, 0, 0, 0, 1, 2] =
    some midState := by decide +kernel

/-- `good_step` on a concrete instance -/
example : ∀ t ∈ stepAt midState 0, Good t :=
  good_step midState_good

/-- `C10_lock_order_reachable` / `C10_lock_order_methods` on a concrete instance: the programs run to the end -/
example : finished (run (initState [progOf "A>Br", progOf "Bw", progOf "A>Br"])
    [0, 0, 0, 0, 1, 2, 0, 0, 1, 1, 2, 2, 2, 2, 2, 2]) = true := by decide +kernel

example : ∀ p ∈ [progOf "A>Br", progOf "Bw", progOf "A>Br" ++ progOf "A"], Bl p :=
  blCheck_all_sound (by decide +kernel)

/-- `blCheck` on data shaped like the regenerated facts -/
example : ∀ p ∈ [[Op.acqA, Op.acqB .r, Op.relB .r, Op.relA], [Op.acqB .w, Op.relB .w], []], Bl p :=
  blCheck_all_sound (by decide +kernel)

/-! ## mutual exclusion: sanity of the lock semantics (holds for ARBITRARY programs) -/

/-- the thread holds `B` in some mode -/
def holdsB (t : Thread) : Bool := !t.heldB.isEmpty

/-- at most one thread holds `A`; while a writer holds `B`, it is the only holder of `B` -/
def Consistent (s : State) : Prop :=
  s.countP (·.heldA) ≤ 1 ∧ (s.any holdsW = true → s.countP holdsB ≤ 1)

instance (s : State) : Decidable (Consistent s) := by unfold Consistent; infer_instance

theorem countP_set_mono {p : Thread → Bool} {s : State} {i : Nat} {t t' : Thread}
    (hi : s[i]? = some t) (h : p t' = true → p t = true) :
    (s.set i t').countP p ≤ s.countP p := by
  obtain ⟨hlt, rfl⟩ := List.getElem?_eq_some_iff.1 hi
  rw [List.countP_set hlt]
  cases hp : p t'
  · exact Nat.sub_le _ _
  · rw [if_pos rfl, if_pos (h hp)]
    exact Nat.le_of_eq (Nat.sub_add_cancel (List.countP_pos_iff.2 ⟨_, List.getElem_mem hlt, h hp⟩))

theorem countP_set_le_succ {p : Thread → Bool} {s : State} {i : Nat} {t' : Thread} :
    (s.set i t').countP p ≤ s.countP p + 1 := by
  by_cases hlt : i < s.length
  · rw [List.countP_set hlt]
    exact Nat.add_le_add (Nat.sub_le _ _) (by split <;> decide)
  · rw [List.set_eq_of_length_le (Nat.le_of_not_lt hlt)]
    exact Nat.le_succ _

theorem any_set {q : Thread → Bool} {s : State} {i : Nat} {t' : Thread}
    (h : (s.set i t').any q = true) : s.any q = true ∨ q t' = true := by
  obtain ⟨u, hu, hq⟩ := List.any_eq_true.1 h
  rcases List.mem_or_eq_of_mem_set hu with h1 | rfl
  · exact Or.inl (List.any_eq_true.2 ⟨u, h1, hq⟩)
  · exact Or.inr hq

theorem stepT_heldA (s : State) (t : Thread) (he : enabledT s t = true)
    (h : (stepT t).heldA = true) : t.heldA = true ∨ s.any (·.heldA) = false := by
  rcases t with ⟨todo, pend, heldA, heldB⟩
  cases todo with
  | nil => exact Or.inl h
  | cons op p =>
    cases op with
    | acqA =>
      cases pend
      · exact Or.inl h
      · right; simpa [enabledT] using he
    | relA => simp [stepT] at h
    | acqB m => cases pend <;> exact Or.inl h
    | relB m => exact Or.inl h

theorem stepT_heldB (s : State) (t : Thread) (ht : t ∈ s) (he : enabledT s t = true) :
    ((holdsW (stepT t) = true → holdsW t = true) ∧ (holdsB (stepT t) = true → holdsB t = true))
    ∨ s.all (fun u => u.heldB.isEmpty) = true
    ∨ (s.any holdsW = false ∧ holdsW (stepT t) = false) := by
  rcases t with ⟨todo, pend, heldA, heldB⟩
  cases todo with
  | nil => exact Or.inl ⟨id, id⟩
  | cons op p =>
    cases op with
    | acqA => cases pend <;> exact Or.inl ⟨id, id⟩
    | relA => exact Or.inl ⟨id, id⟩
    | acqB m =>
      cases pend
      · exact Or.inl ⟨id, id⟩
      · cases m
        · -- granted `RLock`: no writer held `B`, and this thread holds what it held plus a read lock
          have h1 : s.any holdsW = false := (Bool.not_eq_true' _).mp (Bool.and_eq_true_iff.1 he).1
          exact Or.inr (Or.inr ⟨h1, Bool.eq_false_iff.2 (List.any_eq_false.1 h1 ⟨_, true, heldA, heldB⟩ ht)⟩)
        · exact Or.inr (Or.inl he)
    | relB m =>
      left
      refine ⟨fun h => ?_, fun h => ?_⟩
      · -- a mode held after the release was held before it
        obtain ⟨x, hx, hw⟩ := List.any_eq_true.1 h
        exact List.any_eq_true.2 ⟨x, List.mem_of_mem_erase hx, hw⟩
      · cases heldB with
        | nil => cases h
        | cons _ _ => rfl

theorem consistent_step {s : State} {i : Nat} (hc : Consistent s) (he : enabled s i = true) :
    Consistent (stepAt s i) := by
  unfold stepAt
  unfold enabled at he
  cases hsi : s[i]? with
  | none => exact hc
  | some t =>
    rw [hsi] at he
    have ht : t ∈ s := List.mem_of_getElem? hsi
    show Consistent (s.set i (stepT t))
    refine ⟨?_, fun hw => ?_⟩
    · by_cases h : (stepT t).heldA = true
      · rcases stepT_heldA s t he h with h1 | h1
        · exact Nat.le_trans (countP_set_mono (p := (·.heldA)) hsi (fun _ => h1)) hc.1
        · have h0 : s.countP (·.heldA) = 0 :=
            List.countP_eq_zero.2 (List.any_eq_false.1 h1)
          exact Nat.le_trans countP_set_le_succ (Nat.le_of_eq (congrArg (· + 1) h0))
      · exact Nat.le_trans (countP_set_mono (p := (·.heldA)) hsi (fun h' => absurd h' h)) hc.1
    · rcases stepT_heldB s t ht he with ⟨h1, h2⟩ | h1 | ⟨h1, h2⟩
      · have hw' : s.any holdsW = true := by
          rcases any_set hw with h | h
          · exact h
          · exact List.any_eq_true.2 ⟨t, ht, h1 h⟩
        exact Nat.le_trans (countP_set_mono hsi h2) (hc.2 hw')
      · have h0 : s.countP holdsB = 0 := by
          apply List.countP_eq_zero.2
          intro u hu
          have := List.all_eq_true.1 h1 u hu
          simp [holdsB, this]
        exact Nat.le_trans countP_set_le_succ (Nat.le_of_eq (congrArg (· + 1) h0))
      · rcases any_set hw with h | h
        · rw [h1] at h; cases h
        · rw [h2] at h; cases h

theorem consistent_init (ps : List (List Op)) : Consistent (initState ps) := by
  have h0 : ∀ t ∈ initState ps, t.heldA = false ∧ holdsW t = false := fun t ht => by
    obtain ⟨p, _, rfl⟩ := List.mem_map.1 ht
    exact ⟨rfl, rfl⟩
  have hA : (initState ps).countP (·.heldA) = 0 := List.countP_eq_zero.2 fun t ht => by simp [(h0 t ht).1]
  have hW : (initState ps).any holdsW = false := List.any_eq_false.2 fun t ht => by simp [(h0 t ht).2]
  exact ⟨Nat.le_trans (Nat.le_of_eq hA) (Nat.zero_le 1), fun h => by rw [hW] at h; cases h⟩

/-- the locks of the model exclude: in every reachable state of ANY programs (in the discipline or not)
    at most one thread holds `A`, and a thread that holds `B` in write mode is the only holder of `B`.
    (So deadlock freedom is not obtained by granting locks too generously.) -/
theorem C10_mutual_exclusion (ps : List (List Op)) {s : State} (hr : Reach (initState ps) s) :
    Consistent s := by
  induction hr with
  | init => exact consistent_init ps
  | step _ he ih => exact consistent_step ih he

/-- non-vacuity: the mid-way state is consistent, two holders of `A` are not, a reader beside a writer is not -/
example : Consistent midState := by decide +kernel
example : ¬ Consistent [{ todo := [.relA], heldA := true }, { todo := [.relA], heldA := true }] := by decide +kernel
example : ¬ Consistent [{ todo := [.relB .w], heldB := [.w] }, { todo := [.relB .r], heldB := [.r] }] := by
  decide

end LockOrder
