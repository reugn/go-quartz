import QuartzModel.Proofs.TransJobsLemmas
import QuartzModel.Theorems.C16
/-!
# The translated built-in jobs ARE the hand-written model (area `jobs`)

`Generated.TransJobs` is regenerated from `job/job_status.go`, `function_job.go`, `shell_job.go`, `curl_job.go` by
`harness/cmd/gotolean-jobs` on every run (the `Status` constants, the constructors, the three `Execute` methods, the accessors).
Model: `QuartzModel/Jobs/Status.lean`; property theorems: `Theorems/C16.lean`.

* `trans_function_execute`, `trans_shell_execute`, `trans_curl_execute`: for EVERY environment (`X`, world, recorded prefix),
  job value and context, one `Execute` of the translated code stores exactly what `Jobs.fnStore` / `Jobs.shStore` /
  `Jobs.cuStore true` store (under the abstractions `absFn`, `absSh`, `absCu`), returns what `fnReturn`/`shReturn`/`cuReturn`
  return, and records exactly the listed events (`fnEvents`, `shEvents`, `cuHead ++ cuTail`, then the callback).
* `trans_*_lock_discipline`: every write of a mutable field lies between the one `Lock` and the one (for CurlJob: deferred) `Unlock`; the user function
  and the callbacks run outside the lock; the accessors read under the lock.
* transferred: `C16_function_status_iff`, `C16_shell_status_iff`, `C16_curl_status_iff`, `C16_last_execution_*`,
  `C16_callback_once`, `C16_open_bodies_le_one` (names `…_trans`).
* `trans_curl_do_panic_releases_lock`, `trans_curl_close_panic_releases_lock`: a panicking `HTTPHandler.Do` / `Body.Close()` leaves
  `CurlJob.Execute` with `cu.mtx` RELEASED (the critical section is the helper `do`, below `defer cu.mtx.Unlock()`).
* `trans_curl_do_panic_holds_lock_unrepaired`: negative control — with `Lock … Do … Unlock` in `Execute` itself and no `defer` (the
  shape of job/curl_job.go before its repair, kept here as `Unrepaired.Execute`) a panicking `Do` leaves the mutex locked for good.
-/
set_option autoImplicit false

namespace TransJobs
open Generated.TransJobs

theorem trans_jobs_nothing_missing : Generated.TransJobs.missing = [] := rfl

/-- the constants and their Go values (what `C16_facts_tests` pins as `statusConsts`), the zero value, and the abstraction to the
model's `Jobs.Status` is a bijection -/
theorem trans_status_consts :
    Status.val .StatusNA = 0 ∧ Status.val .StatusOK = 1 ∧ Status.val .StatusFailure = 2 ∧ (default : Status) = .StatusNA ∧
    (∀ a b, absStatus a = absStatus b → a = b) ∧ (∀ m, ∃ a, absStatus a = m) := by
  refine ⟨rfl, rfl, rfl, rfl, ?_, ?_⟩
  · intro a b; cases a <;> cases b <;> simp [absStatus]
  · intro m; cases m
    · exact ⟨.StatusNA, rfl⟩
    · exact ⟨.StatusOK, rfl⟩
    · exact ⟨.StatusFailure, rfl⟩

/-- a new job of each kind has status `StatusNA` and the model's initial fields -/
theorem trans_constructors {R : Type} [Inhabited R] (fn : Option Ref) (d cmd : String) (cb : Option Ref) (req : Option Request)
    (opts : CurlJobOptions) :
    absFn (NewFunctionJobWithDesc (R := R) fn d) = Jobs.FnFields.init ∧
    absSh (NewShellJob cmd) = {} ∧ absSh (NewShellJobWithCallback cmd cb) = {} ∧
    (NewShellJob cmd).callback = none ∧ (NewShellJobWithCallback cmd cb).callback = cb ∧
    (NewShellJob cmd).cmd = cmd ∧ (NewShellJobWithCallback cmd cb).cmd = cmd ∧
    absCu (NewCurlJobWithOptions req opts) [] = {} ∧ (NewCurlJobWithOptions req opts).callback = opts.Callback ∧
    (NewCurlJobWithOptions req opts).request = req ∧ (NewCurlJobWithOptions req opts).httpClient.isSome = true := by
  refine ⟨rfl, rfl, rfl, rfl, rfl, rfl, rfl, ?_, ?_, ?_, ?_⟩ <;>
    (unfold NewCurlJobWithOptions; cases h : opts.HTTPClient <;> simp [h, absCu, absStatus, bodies])

/-- which fields are assigned by methods at all, and every access to one of them outside the receiver's mutex in ANY method of
the three types: only `CurlJob.Description` (untranslated; `description` is protected by its `sync.Once`, the read of
`cu.request` there is NOT protected) -/
theorem trans_jobs_field_facts :
    mutableFields = [("FunctionJob", ["err", "jobStatus", "result"]), ("ShellJob", ["exitCode", "jobStatus", "stderr", "stdout"]),
                     ("CurlJob", ["description", "jobStatus", "request", "response"])] ∧
    unguardedAccesses = ["CurlJob.Description: write description", "CurlJob.Description: read request",
                         "CurlJob.Description: read description"] :=
  ⟨rfl, rfl⟩

section function
variable {W R : Type} [Inhabited R] (X : FnExt W R) (σ : St W) (f : FunctionJob R) (ctx : Ctx)

/-- ONE `Execute` whose function returned `(res, err)`: the function is called exactly once, with the execution's context,
before the lock; the three fields are written in one critical section; they are `Jobs.fnStore` of that one outcome; the return
value is that `err` (`Jobs.fnReturn`); `function`/`description` are untouched.  (Implies the strings of `C16_facts_function`.) -/
theorem trans_function_execute (res : R) (err : Option Err) (h : (X.function σ.world ctx).2 = .returned (res, err)) :
    (FunctionJob.Execute X σ f ctx).1.out = σ.out ++ fnEvents ctx err ∧
    (FunctionJob.Execute X σ f ctx).1.world = (X.function σ.world ctx).1 ∧
    absFn (FunctionJob.Execute X σ f ctx).2.1 = Jobs.fnStore ⟨res, absErr err⟩ ∧
    (FunctionJob.Execute X σ f ctx).2.1.err = err ∧
    (FunctionJob.Execute X σ f ctx).2.1.function = f.function ∧ (FunctionJob.Execute X σ f ctx).2.1.description = f.description ∧
    (FunctionJob.Execute X σ f ctx).2.2 = .returned err ∧ absErr err = Jobs.fnReturn ⟨res, absErr err⟩ := by
  rw [fn_execute_returned X σ f ctx res err h]
  exact ⟨rfl, rfl, absFn_fnStored f res err, rfl, rfl, rfl, rfl, rfl⟩

/-- a panicking function: nothing is locked, nothing is written, the panic leaves `Execute` -/
theorem trans_function_panic (h : (X.function σ.world ctx).2 = .panicked) :
    FunctionJob.Execute X σ f ctx = (⟨(X.function σ.world ctx).1, σ.out ++ [.function ctx .panicked]⟩, f, .panicked) := by
  simp [FunctionJob.Execute, St.fnFunction, h, CallResult.map]

/-- transferred `C16_function_status_iff`: the stored status is OK iff the function returned a nil error -/
theorem C16_function_status_iff_trans (res : R) (err : Option Err) (h : (X.function σ.world ctx).2 = .returned (res, err)) :
    (FunctionJob.Execute X σ f ctx).2.1.jobStatus = .StatusOK ↔ err = none := by
  rw [fn_execute_returned X σ f ctx res err h]
  cases err <;> simp [fnStored]

/-- in EVERY environment: reads/writes under the lock, the user function outside it, the lock released at the end -/
theorem trans_function_lock_discipline :
    ∃ evs, (FunctionJob.Execute X σ f ctx).1.out = σ.out ++ evs ∧ accessGuarded "f.mtx" false evs = true ∧
      userOutside "f.mtx" false evs = true ∧ heldAfter "f.mtx" false evs = false := by
  rcases h : (X.function σ.world ctx).2 with ⟨res, err⟩ | _
  · exact ⟨_, by rw [fn_execute_returned X σ f ctx res err h], rfl, rfl, rfl⟩
  · exact ⟨_, by rw [trans_function_panic X σ f ctx h], rfl, rfl, rfl⟩

/-- the accessors return the fields, reading under the read lock (implies the FunctionJob part of `C16_facts_accessors`) -/
theorem trans_function_accessors :
    FunctionJob.JobStatus X σ f = (⟨σ.world, σ.out ++ [.rlock "f.mtx", .read "f.jobStatus", .runlock "f.mtx"]⟩, f.jobStatus) ∧
    FunctionJob.Result X σ f = (⟨σ.world, σ.out ++ [.rlock "f.mtx", .read "f.result", .runlock "f.mtx"]⟩, f.result) ∧
    FunctionJob.Error X σ f = (⟨σ.world, σ.out ++ [.rlock "f.mtx", .read "f.err", .runlock "f.mtx"]⟩, f.err) ∧
    FunctionJob.Description X σ f = (σ, f.description) ∧
    accessGuarded "f.mtx" false [.rlock "f.mtx", .read "f.jobStatus", .runlock "f.mtx"] = true := by
  refine ⟨?_, ?_, ?_, rfl, rfl⟩ <;> simp only [FunctionJob.JobStatus, FunctionJob.Result, FunctionJob.Error, St.emit, List.append_cons _ _ (_ :: _)]

end function

/-- transferred `C16_last_execution_function`: concurrent executions `0, 1, 2, …` of ONE FunctionJob (execution `i` runs in its
own environment `X i, σ i, c i` and its function returns `(res i, err i)`), in ANY interleaving of their steps: the translated
accessors `JobStatus()`, `Result()`, `Error()` show the outcome of one and the same execution, the last to store -/
theorem C16_last_execution_function_trans {W R : Type} [Inhabited R] (X : Nat → FnExt W R) (σ : Nat → St W) (c : Nat → Ctx)
    (res : Nat → R) (err : Nat → Option Err) (hret : ∀ i, ((X i).function (σ i).world (c i)).2 = .returned (res i, err i))
    (fn : Option Ref) (d : String) (Xa : FnExt W R) (σa : St W) (sched : List Nat) :
    let s := Jobs.Sys.run (fun f i => (FunctionJob.Execute (X i) (σ i) f (c i)).2.1) false
      (Jobs.Sys.init (NewFunctionJobWithDesc fn d)) sched
    (s.order = [] ∧ (FunctionJob.JobStatus Xa σa s.shared).2 = .StatusNA) ∨
    (∃ j rest, s.order = j :: rest ∧ (FunctionJob.Error Xa σa s.shared).2 = err j ∧
      ((FunctionJob.JobStatus Xa σa s.shared).2 = .StatusOK ↔ err j = none) ∧
      (err j = none → (FunctionJob.Result Xa σa s.shared).2 = res j) ∧
      (err j ≠ none → (FunctionJob.Result Xa σa s.shared).2 = default)) := by
  intro s
  have hst : ∀ (g : FunctionJob R) (i : Nat),
      (fun g : FunctionJob R => (g.jobStatus, g.result, g.err)) ((FunctionJob.Execute (X i) (σ i) g (c i)).2.1) =
      (if (err i).isSome then Status.StatusFailure else Status.StatusOK, if (err i).isSome then default else res i, err i) := by
    intro g i
    rw [fn_execute_returned (X i) (σ i) g (c i) (res i) (err i) (hret i)]
    rfl
  rcases Jobs.C16_last_execution (fun (g : FunctionJob R) (i : Nat) => (FunctionJob.Execute (X i) (σ i) g (c i)).2.1)
      (fun g => (g.jobStatus, g.result, g.err)) _ hst id (NewFunctionJobWithDesc fn d) false sched with
    ⟨h1, h2, _⟩ | ⟨j, rest, h1, h2, _⟩
  · exact Or.inl ⟨h1, congrArg (·.jobStatus) h2⟩
  · refine Or.inr ⟨j, rest, h1, ?_⟩
    have e1 : s.shared.jobStatus = _ := congrArg (·.1) h2
    have e2 : s.shared.result = _ := congrArg (·.2.1) h2
    have e3 : s.shared.err = _ := congrArg (·.2.2) h2
    show s.shared.err = _ ∧ (s.shared.jobStatus = _ ↔ _) ∧ (_ → s.shared.result = _) ∧ (_ → s.shared.result = _)
    rw [e1, e2, e3]
    by_cases h : err j = none <;> simp [h]

section shell
variable {W : Type} (X : ShExt W) (σ : St W) (sh : ShellJob) (ctx : Ctx)

/-- ONE `Execute`, EVERY environment: the command is built from the execution's context, the shell and `sh.cmd`, its two buffers
are attached before the one `Run`; buffers, exit code (of THAT command's `ProcessState`, read after `Run`) and status are written
in one critical section and are `Jobs.shStore` of that one run; then exactly one callback call iff a callback is set, with the
stored job; the return value is `Run`'s error (`Jobs.shReturn`) unless the callback panics.  (Implies `C16_facts_shell`.) -/
theorem trans_shell_execute :
    (ShellJob.Execute X σ sh ctx).1.out =
      σ.out ++ shEvents X σ sh ctx ++ (if sh.callback.isSome then [.callback ctx (shCb X σ sh ctx).2] else []) ∧
    absSh (ShellJob.Execute X σ sh ctx).2.1 = Jobs.shStore (shOut X σ) ∧
    (ShellJob.Execute X σ sh ctx).2.1.cmd = sh.cmd ∧ (ShellJob.Execute X σ sh ctx).2.1.callback = sh.callback ∧
    ((sh.callback = none ∨ (shCb X σ sh ctx).2 = .returned ()) →
      (ShellJob.Execute X σ sh ctx).2.2 = .returned (shErr X σ) ∧ (shErr X σ).isSome = Jobs.shReturn (shOut X σ)) ∧
    (sh.callback.isSome = true → (shCb X σ sh ctx).2 = .panicked → (ShellJob.Execute X σ sh ctx).2.2 = .panicked) := by
  rw [sh_execute X σ sh ctx]
  cases hc : sh.callback with
  | none =>
    simp only [Option.isSome_none, Bool.false_eq_true, if_false, List.append_nil]
    exact ⟨by simp, absSh_shStored X σ sh, by simp [shStored], by simp [shStored, hc],
      fun _ => ⟨by simp, by simp [Jobs.shReturn, shOut]⟩, fun h => by cases h⟩
  | some c =>
    simp only [Option.isSome_some, if_true]
    refine ⟨by simp, absSh_shStored X σ sh, by simp [shStored], by simp [shStored, hc], ?_, ?_⟩
    · rintro (h | h)
      · cases h
      · rw [h]; exact ⟨by simp, by simp [Jobs.shReturn, shOut]⟩
    · intro _ h; rw [h]

/-- transferred `C16_shell_status_iff`: the stored status is OK iff `cmd.Run()` returned nil -/
theorem C16_shell_status_iff_trans : (ShellJob.Execute X σ sh ctx).2.1.jobStatus = .StatusOK ↔ shErr X σ = none := by
  rw [sh_execute X σ sh ctx]
  cases hc : sh.callback <;> cases he : shErr X σ <;> simp [shStored, he]

/-- transferred `C16_shell_status_exit`: under the contract of os/exec the stored status is OK iff the stored exit code is 0 -/
theorem C16_shell_status_exit_trans (h : (shOut X σ).ExecContract) :
    (ShellJob.Execute X σ sh ctx).2.1.jobStatus = .StatusOK ↔ (ShellJob.Execute X σ sh ctx).2.1.exitCode = 0 := by
  have h1 := (trans_shell_execute X σ sh ctx).2.1
  have h2 := Jobs.C16_shell_status_exit (shOut X σ) h
  rw [← h1] at h2
  exact (absStatus_eq_ok _).symm.trans h2

/-- in EVERY environment: writes under the lock, the callback outside it, the lock released at the end -/
theorem trans_shell_lock_discipline :
    ∃ evs, (ShellJob.Execute X σ sh ctx).1.out = σ.out ++ evs ∧ accessGuarded "sh.mtx" false evs = true ∧
      userOutside "sh.mtx" false evs = true ∧ heldAfter "sh.mtx" false evs = false := by
  refine ⟨_, by rw [(trans_shell_execute X σ sh ctx).1, List.append_assoc], ?_⟩
  cases hc : sh.callback <;> simp [shEvents, accessGuarded, userOutside, heldAfter]

/-- transferred `C16_callback_once` (per execution): ONE `Execute` makes exactly one callback call when a callback is set, none
otherwise — also when `Run` failed — and it is the LAST event, after the `Unlock` (the step `stored → done` of `Jobs.Sys.step`) -/
theorem C16_callback_once_trans_shell :
    ∃ evs, (ShellJob.Execute X σ sh ctx).1.out = σ.out ++ evs ∧
      callbacks evs = (if sh.callback.isSome then 1 else 0) ∧
      (sh.callback.isSome = true → evs.getLast? = some (.callback ctx (shCb X σ sh ctx).2)) := by
  refine ⟨_, by rw [(trans_shell_execute X σ sh ctx).1, List.append_assoc], ?_⟩
  cases hc : sh.callback <;> simp [shEvents, callbacks, List.filter, isCallback]

theorem trans_shell_accessors :
    ShellJob.JobStatus X σ sh = (⟨σ.world, σ.out ++ [.lock "sh.mtx", .read "sh.jobStatus", .unlock "sh.mtx"]⟩, sh.jobStatus) ∧
    ShellJob.ExitCode X σ sh = (⟨σ.world, σ.out ++ [.lock "sh.mtx", .read "sh.exitCode", .unlock "sh.mtx"]⟩, sh.exitCode) ∧
    ShellJob.Stdout X σ sh = (⟨σ.world, σ.out ++ [.lock "sh.mtx", .read "sh.stdout", .unlock "sh.mtx"]⟩, sh.stdout) ∧
    ShellJob.Stderr X σ sh = (⟨σ.world, σ.out ++ [.lock "sh.mtx", .read "sh.stderr", .unlock "sh.mtx"]⟩, sh.stderr) ∧
    accessGuarded "sh.mtx" false [.lock "sh.mtx", .read "sh.jobStatus", .unlock "sh.mtx"] = true := by
  refine ⟨?_, ?_, ?_, ?_, rfl⟩ <;>
    simp only [ShellJob.JobStatus, ShellJob.ExitCode, ShellJob.Stdout, ShellJob.Stderr, St.emit, List.append_cons _ _ (_ :: _)]

end shell

/-- transferred `C16_last_execution_shell` + `C16_callback_once` for the translated store: concurrent executions of ONE ShellJob in
ANY interleaving — the translated accessors show exit code, buffers and status of the execution that stored last; each execution
has run the callback at most once, exactly once when it has returned -/
theorem C16_last_execution_shell_trans {W : Type} (X : Nat → ShExt W) (σ : Nat → St W) (c : Nat → Ctx) (cmd : String) (cb : Option Ref)
    (Xa : ShExt W) (σa : St W) (sched : List Nat) (m : Nat) :
    let s := Jobs.Sys.run (fun sh i => (ShellJob.Execute (X i) (σ i) sh (c i)).2.1) cb.isSome
      (Jobs.Sys.init (NewShellJobWithCallback cmd cb)) sched
    ((s.order = [] ∧ (ShellJob.JobStatus Xa σa s.shared).2 = .StatusNA) ∨
     (∃ j rest, s.order = j :: rest ∧ (ShellJob.ExitCode Xa σa s.shared).2 = (shOut (X j) (σ j)).exitCode ∧
       (ShellJob.Stdout Xa σa s.shared).2 = (shOut (X j) (σ j)).stdout ∧
       (ShellJob.Stderr Xa σa s.shared).2 = (shOut (X j) (σ j)).stderr ∧
       ((ShellJob.JobStatus Xa σa s.shared).2 = .StatusOK ↔ (shOut (X j) (σ j)).runErr = false))) ∧
    (cb.isSome = true → (∀ i, s.cb i ≤ 1 ∧ (s.pc i = .done ↔ s.cb i = 1)) ∧ s.callbacks m = s.completed m) ∧
    (cb.isSome = false → s.callbacks m = 0) := by
  intro s
  have hst : ∀ (g : ShellJob) (i : Nat), absSh ((ShellJob.Execute (X i) (σ i) g (c i)).2.1) = Jobs.shStore (shOut (X i) (σ i)) :=
    fun g i => (trans_shell_execute (X i) (σ i) g (c i)).2.1
  have hcb := Jobs.C16_callback_once (fun sh i => (ShellJob.Execute (X i) (σ i) sh (c i)).2.1) (NewShellJobWithCallback cmd cb) sched m
  refine ⟨?_, fun h => ?_, fun h => ?_⟩
  · rcases Jobs.C16_last_execution (fun (g : ShellJob) (i : Nat) => (ShellJob.Execute (X i) (σ i) g (c i)).2.1)
        absSh _ hst id (NewShellJobWithCallback cmd cb) cb.isSome sched with ⟨h1, h2, _⟩ | ⟨j, rest, h1, h2, _⟩
    · exact Or.inl ⟨h1, congrArg (·.jobStatus) h2⟩
    · refine Or.inr ⟨j, rest, h1, ?_⟩
      have h2' : absSh s.shared = Jobs.shStore (shOut (X j) (σ j)) := h2
      have e4 : absStatus s.shared.jobStatus = _ := congrArg (·.status) h2'
      exact ⟨congrArg (·.exitCode) h2', congrArg (·.stdout) h2', congrArg (·.stderr) h2',
        (absStatus_eq_ok _).symm.trans (e4 ▸ Jobs.C16_shell_status_iff _)⟩
  · simp only [s, h]
    exact ⟨hcb.1, hcb.2.1⟩
  · simp only [s, h]
    exact hcb.2.2

/-- the status decision of the translated code is the model's `curlStatus` -/
theorem absStatus_cuOk (resp : Option Response) :
    absStatus (if cuOk resp then .StatusOK else .StatusFailure) = Jobs.curlStatus ((resp.map absResp).map (·.code)) := by
  by_cases h : cuOk resp = true
  · obtain ⟨r, rfl, h1, h2⟩ := (cuOk_iff resp).mp (if_pos h)
    rw [if_pos h]
    exact ((Jobs.C16_curl_status_iff _).mpr ⟨r.StatusCode.toNat, rfl, by omega, by omega⟩).symm
  · rw [if_neg h]
    refine ((Jobs.C16_curl_status_failure_iff _).mpr ?_).symm
    rcases resp with _ | r
    · exact Or.inl rfl
    · have hr : ¬ (200 ≤ r.StatusCode ∧ r.StatusCode < 400) := fun ⟨h1, h2⟩ => h (by simp [cuOk, h1, h2])
      exact Or.inr ⟨r.StatusCode.toNat, rfl, by omega⟩

section curl
variable {W : Type} (X : CuExt W) (σ : St W) (cu : CurlJob) (ctx : Ctx)

/-- ONE `Execute` in which neither `Close` nor `Do` panics: under ONE lock the request is re-bound to the execution's context, the
body of the previously stored response is closed (iff that response and its body are non-nil) BEFORE the one `Do`, the response
and the status are stored: exactly `Jobs.cuStore true` (body accounting included); then one callback call iff a callback is set;
the return value is `Do`'s error.  (Implies `C16_facts_curl`.) -/
theorem trans_curl_execute (resp : Option Response) (err : Option Err)
    (hclose : cuPrev cu = true → ∃ e, (cuClose X σ cu).2 = .returned e)
    (hdo : (cuDoCall X σ cu ctx).2 = .returned (resp, err)) :
    (CurlJob.Execute X σ cu ctx).1.out = σ.out ++ cuHead X σ cu ++ cuTail cu ctx resp err ++
      (if cu.callback.isSome then [.callback ctx (cuCb X σ cu ctx resp).2] else []) ∧
    absCu (CurlJob.Execute X σ cu ctx).2.1 (CurlJob.Execute X σ cu ctx).1.out =
      Jobs.cuStore true (absCu cu σ.out) ⟨resp.map absResp, err.isSome⟩ ∧
    (CurlJob.Execute X σ cu ctx).2.1 = cuStored cu ctx resp ∧
    ((cu.callback = none ∨ (cuCb X σ cu ctx resp).2 = .returned ()) →
      (CurlJob.Execute X σ cu ctx).2.2 = .returned err ∧ err.isSome = Jobs.cuReturn ⟨resp.map absResp, err.isSome⟩) := by
  rw [cu_execute_returned X σ cu ctx resp err hclose hdo]
  refine ⟨?_, ?abs, ?_, ?_⟩
  case abs =>
    have hb : bodies (σ.out ++ cuHead X σ cu ++ cuTail cu ctx resp err) =
        ((Jobs.cuStore true (absCu cu σ.out) ⟨resp.map absResp, err.isSome⟩).openBodies,
         (Jobs.cuStore true (absCu cu σ.out) ⟨resp.map absResp, err.isSome⟩).closes) := by
      rw [List.append_assoc, bodies_append]
      rcases hr : cu.response with _ | ⟨_, _ | b⟩ <;>
        simp [cuHead, cuTail, cuPrev, hr, bodyStep, Jobs.cuStore, Jobs.heldBody, absCu, absResp]
    have hb' : bodies (σ.out ++ cuHead X σ cu ++ cuTail cu ctx resp err ++ [.callback ctx (cuCb X σ cu ctx resp).2]) =
        bodies (σ.out ++ cuHead X σ cu ++ cuTail cu ctx resp err) := by rw [bodies_append]; rfl
    split <;> simp only [absCu, hb', hb] <;> simp [cuStored, absStatus_cuOk resp, Jobs.cuStore]
  all_goals cases hc : cu.callback <;> simp [Jobs.cuReturn]
  intro h; rw [h]

/-- transferred `C16_curl_status_iff`: the stored status is OK iff `Do` returned a response with `200 ≤ StatusCode < 400` -/
theorem C16_curl_status_iff_trans (resp : Option Response) (err : Option Err)
    (hclose : cuPrev cu = true → ∃ e, (cuClose X σ cu).2 = .returned e)
    (hdo : (cuDoCall X σ cu ctx).2 = .returned (resp, err)) :
    (CurlJob.Execute X σ cu ctx).2.1.jobStatus = .StatusOK ↔ ∃ r, resp = some r ∧ 200 ≤ r.StatusCode ∧ r.StatusCode < 400 := by
  rw [(trans_curl_execute X σ cu ctx resp err hclose hdo).2.2.1]
  exact cuOk_iff resp

/-- lock discipline of the non-panicking `Execute`: everything, the `Close` and the `Do` included, happens under the one lock;
the callback runs outside it; the lock is released at the end -/
theorem trans_curl_lock_discipline (resp : Option Response) (err : Option Err)
    (hclose : cuPrev cu = true → ∃ e, (cuClose X σ cu).2 = .returned e)
    (hdo : (cuDoCall X σ cu ctx).2 = .returned (resp, err)) :
    ∃ evs, (CurlJob.Execute X σ cu ctx).1.out = σ.out ++ evs ∧ accessGuarded "cu.mtx" false evs = true ∧
      userOutside "cu.mtx" false evs = true ∧ heldAfter "cu.mtx" false evs = false ∧
      callbacks evs = (if cu.callback.isSome then 1 else 0) := by
  obtain ⟨h1, h2, h3, h4⟩ := cuHead_checks X σ cu
    (cuTail cu ctx resp err ++ if cu.callback.isSome then [.callback ctx (cuCb X σ cu ctx resp).2] else [])
  refine ⟨_, by rw [(trans_curl_execute X σ cu ctx resp err hclose hdo).1, List.append_assoc, List.append_assoc], ?_⟩
  rw [h1, h2, h3, h4]
  cases hc : cu.callback <;> simp [cuTail, accessGuarded, userOutside, heldAfter, callbacks, List.filter, isCallback]

/-- `Execute` runs its critical section in the helper `do` below `defer cu.mtx.Unlock()`: when the user's `HTTPHandler.Do` panics, the LAST
recorded event is the `Unlock` — the mutex is not held when the panic reaches the scheduler (which recovers it), every access
happened under the lock, no callback ran, and only `request` was written.  Later `Execute`/`JobStatus()`/`DumpResponse()` calls
on the job find the mutex free.  (Contrast `trans_curl_do_panic_holds_lock_unrepaired`: the shape without `defer`.) -/
theorem trans_curl_do_panic_releases_lock (hclose : cuPrev cu = true → ∃ e, (cuClose X σ cu).2 = .returned e)
    (hdo : (cuDoCall X σ cu ctx).2 = .panicked) :
    ∃ evs, (CurlJob.Execute X σ cu ctx).1.out = σ.out ++ evs ∧ heldAfter "cu.mtx" false evs = false ∧
      evs.getLast? = some (.unlock "cu.mtx") ∧ accessGuarded "cu.mtx" false evs = true ∧ callbacks evs = 0 ∧
      (CurlJob.Execute X σ cu ctx).2.1 = { cu with request := cuReq cu ctx } ∧
      (CurlJob.Execute X σ cu ctx).2.2 = .panicked := by
  obtain ⟨h1, _, h3, h4⟩ := cuHead_checks X σ cu [.httpDo cu.httpClient (cuReq cu ctx) .panicked, .unlock "cu.mtx"]
  have hd := cu_do X σ cu ctx hclose
  rw [hdo] at hd
  simp only [CurlJob.Execute, hd]
  refine ⟨_, List.append_assoc .., ?_, by simp, ?_, ?_, trivial, trivial⟩
  · rw [h3]; rfl
  · rw [h1]; rfl
  · rw [h4]; rfl

/-- the same for a panicking `Body.Close()` of the previously stored response: `Do` is not called, the mutex is released -/
theorem trans_curl_close_panic_releases_lock (hp : cuPrev cu = true) (hclose : (cuClose X σ cu).2 = .panicked) :
    ∃ evs, (CurlJob.Execute X σ cu ctx).1.out = σ.out ++ evs ∧ heldAfter "cu.mtx" false evs = false ∧
      evs.getLast? = some (.unlock "cu.mtx") ∧ accessGuarded "cu.mtx" false evs = true ∧ callbacks evs = 0 ∧
      (CurlJob.Execute X σ cu ctx).2.2 = .panicked := by
  rw [cu_execute_close_panicked X σ cu ctx hp hclose]
  exact ⟨_, rfl, by simp [heldAfter], by simp, by simp [accessGuarded], by simp [callbacks, isCallback], rfl⟩

theorem trans_curl_accessors (body : Bool) :
    CurlJob.JobStatus X σ cu = (⟨σ.world, σ.out ++ [.lock "cu.mtx", .read "cu.jobStatus", .unlock "cu.mtx"]⟩, cu.jobStatus) ∧
    (cu.response = none → CurlJob.DumpResponse X σ cu body =
      (⟨σ.world, σ.out ++ [.lock "cu.mtx", .read "cu.response", .unlock "cu.mtx"]⟩, [], some ⟨"response is nil"⟩)) ∧
    (cu.response.isSome = true → CurlJob.DumpResponse X σ cu body =
      (⟨(X.dumpResponse σ.world cu.response body).1,
        σ.out ++ [.lock "cu.mtx", .read "cu.response", .read "cu.response", .dumpResponse cu.response body, .unlock "cu.mtx"]⟩,
       (X.dumpResponse σ.world cu.response body).2.1, (X.dumpResponse σ.world cu.response body).2.2)) ∧
    accessGuarded "cu.mtx" false [.lock "cu.mtx", .read "cu.response", .read "cu.response", .dumpResponse cu.response body,
      .unlock "cu.mtx"] = true := by
  refine ⟨by simp only [CurlJob.JobStatus, St.emit, List.append_cons _ _ (_ :: _)], ?_, ?_, rfl⟩ <;> intro h <;>
    simp only [CurlJob.DumpResponse, St.cuDumpResponse, St.emit, h, Option.isSome_none, Bool.false_eq_true, if_true, if_false,
      List.append_cons _ _ (_ :: _)]

end curl

/-- every sequence of executions of the translated code is a `Jobs.cuRun true` of the model -/
theorem cu_iter_abs {W : Type} (X : CuExt W) (hX : CuNoPanic X) (ctxs : Nat → Ctx) (s : St W × CurlJob) (n : Nat) :
    ∃ os : List Jobs.CuOut, os.length = n ∧
      absCu (cuIter X ctxs n s).2 (cuIter X ctxs n s).1.out = Jobs.cuRun true (absCu s.2 s.1.out) os := by
  induction n with
  | zero => exact ⟨[], rfl, rfl⟩
  | succ n ih =>
    obtain ⟨os, hl, ih⟩ := ih
    obtain ⟨⟨resp, err⟩, hdo⟩ := hX.1 (cuW1 X (cuIter X ctxs n s).1 (cuIter X ctxs n s).2) (cuIter X ctxs n s).2.httpClient
      (cuReq (cuIter X ctxs n s).2 (ctxs n))
    refine ⟨os ++ [⟨resp.map absResp, err.isSome⟩], by simp [hl], ?_⟩
    rw [Jobs.cuRun_snoc, ← ih]
    exact (trans_curl_execute X _ _ (ctxs n) resp err (fun _ => hX.2 _ _) hdo).2.1

/-- transferred `C16_open_bodies_le_one`: after ANY number of executions of one (new) translated CurlJob, in any environment in
which `Do`/`Close` do not panic — successful, failed with nil response, with nil body — at most one body handed out by `Do` has
not been closed, namely the one of the stored response -/
theorem C16_open_bodies_le_one_trans {W : Type} (X : CuExt W) (hX : CuNoPanic X) (ctxs : Nat → Ctx) (w : W) (req : Option Request)
    (opts : CurlJobOptions) (n : Nat) :
    let s := cuIter X ctxs n (⟨w, []⟩, NewCurlJobWithOptions req opts)
    (bodies s.1.out).1.length ≤ 1 ∧ (bodies s.1.out).1 = (Jobs.heldBody (s.2.response.map absResp)).toList := by
  intro s
  obtain ⟨os, _, h⟩ := cu_iter_abs X hX ctxs (⟨w, []⟩, NewCurlJobWithOptions req opts) n
  have h0 : absCu (NewCurlJobWithOptions req opts) [] = {} := by unfold NewCurlJobWithOptions; cases opts.HTTPClient <;> rfl
  simp only [h0] at h
  have hm := Jobs.C16_open_bodies_le_one os
  simp only at hm
  rw [← h] at hm
  exact ⟨hm.1, hm.2.1⟩

/-- transferred `C16_last_execution_curl`: concurrent executions of ONE CurlJob in ANY interleaving: the stored response and the
status are those of the execution that stored last -/
theorem C16_last_execution_curl_trans {W : Type} (X : Nat → CuExt W) (σ : Nat → St W) (c : Nat → Ctx)
    (hX : ∀ i, CuNoPanic (X i)) (resp : Nat → CurlJob → Option Response)
    (hdo : ∀ i g, ∃ err, (cuDoCall (X i) (σ i) g (c i)).2 = .returned (resp i g, err))
    (hresp : ∀ i g g', resp i g = resp i g')
    (req : Option Request) (opts : CurlJobOptions) (Xa : CuExt W) (σa : St W) (sched : List Nat) :
    let s := Jobs.Sys.run (fun cu i => (CurlJob.Execute (X i) (σ i) cu (c i)).2.1) opts.Callback.isSome
      (Jobs.Sys.init (NewCurlJobWithOptions req opts)) sched
    (s.order = [] ∧ (CurlJob.JobStatus Xa σa s.shared).2 = .StatusNA) ∨
    (∃ j rest, s.order = j :: rest ∧ s.shared.response = resp j s.shared ∧
      ((CurlJob.JobStatus Xa σa s.shared).2 = .StatusOK ↔
        ∃ r, resp j s.shared = some r ∧ 200 ≤ r.StatusCode ∧ r.StatusCode < 400)) := by
  intro s
  have hst : ∀ (g : CurlJob) (i : Nat),
      (fun g : CurlJob => (g.jobStatus, g.response)) ((CurlJob.Execute (X i) (σ i) g (c i)).2.1) =
      (if cuOk (resp i (NewCurlJobWithOptions req opts)) then Status.StatusOK else Status.StatusFailure,
       resp i (NewCurlJobWithOptions req opts)) := by
    intro g i
    obtain ⟨err, hd⟩ := hdo i g
    rw [(trans_curl_execute (X i) (σ i) g (c i) (resp i g) err (fun _ => (hX i).2 _ _) hd).2.2.1, hresp i g (NewCurlJobWithOptions req opts)]
    rfl
  rcases Jobs.C16_last_execution (fun (g : CurlJob) (i : Nat) => (CurlJob.Execute (X i) (σ i) g (c i)).2.1)
      (fun g => (g.jobStatus, g.response)) _ hst id (NewCurlJobWithOptions req opts) opts.Callback.isSome sched with
    ⟨h1, h2, _⟩ | ⟨j, rest, h1, h2, _⟩
  · refine Or.inl ⟨h1, (congrArg (·.jobStatus) h2).trans ?_⟩
    unfold NewCurlJobWithOptions; cases opts.HTTPClient <;> rfl
  · refine Or.inr ⟨j, rest, h1, ?_⟩
    have e1 : s.shared.jobStatus = _ := congrArg (·.1) h2
    have e2 : s.shared.response = _ := congrArg (·.2) h2
    simp only [id] at e1 e2
    rw [hresp j s.shared (NewCurlJobWithOptions req opts)]
    refine ⟨e2, ?_⟩
    show s.shared.jobStatus = .StatusOK ↔ _
    rw [e1]
    exact cuOk_iff _

/-- a function that fails -/
def exFn : FnExt Unit Int := { function := fun w _ => (w, .returned (5, some ⟨"boom"⟩)) }

/-- a FunctionJob whose function fails: status Failure, result zero, the error kept and returned -/
example :
    let r := FunctionJob.Execute exFn ⟨(), []⟩ (NewFunctionJobWithDesc (some 1) "d") 7
    r.2.1.jobStatus = .StatusFailure ∧ r.2.1.result = 0 ∧ r.2.1.err = some ⟨"boom"⟩ ∧ r.2.2 = .returned (some ⟨"boom"⟩) ∧
    r.1.out = fnEvents 7 (some ⟨"boom"⟩) := by decide +kernel

/-- `exit 3` -/
def exSh : ShExt Unit :=
  { getShell := fun w => (w, "bash")
    run := fun w _ => (w, some ⟨"exit status 3"⟩)
    bufferString := fun _ b => b
    exitCode := fun _ _ => 3
    callback := fun w _ _ => (w, .returned ()) }

/-- `exit 3` with a callback: exit code 3, Failure, one callback after the unlock; the `ExecContract` holds -/
example :
    let r := ShellJob.Execute exSh ⟨(), []⟩ (NewShellJobWithCallback "exit 3" (some 1)) 7
    r.2.1.jobStatus = .StatusFailure ∧ r.2.1.exitCode = 3 ∧ r.2.1.stdout = "stdout" ∧ callbacks r.1.out = 1 ∧
    r.1.out.getLast? = some (.callback 7 (.returned ())) ∧ (shOut exSh ⟨(), []⟩).ExecContract := by
  unfold Jobs.ShOut.ExecContract; decide +kernel

/-- a server answering 200 (body 1), then 404 (body 2), … -/
def exCu : CuExt Nat :=
  { Do := fun w _ _ => (w + 1, .returned (some ⟨if w = 0 then 200 else 404, some (w + 1)⟩, none))
    closeBody := fun w _ => (w, .returned none)
    callback := fun w _ _ => (w, .returned ())
    dumpResponse := fun w _ _ => (w, ([], none)) }

/-- two requests: the first body is closed before the second `Do`, one body stays open; `CuNoPanic` is satisfiable -/
example :
    let s := cuIter exCu (fun _ => 0) 2 (⟨0, []⟩, NewCurlJobWithOptions (some {}) {})
    CuNoPanic exCu ∧ s.2.jobStatus = .StatusFailure ∧ bodies s.1.out = ([2], 1) ∧
    (cuIter exCu (fun _ => 0) 1 (⟨0, []⟩, NewCurlJobWithOptions (some {}) {})).2.jobStatus = .StatusOK := by
  refine ⟨⟨fun w c r => ⟨_, rfl⟩, fun w b => ⟨_, rfl⟩⟩, by decide +kernel, by decide +kernel, by decide +kernel⟩

/-- an HTTP client that panics -/
def exCuPanic : CuExt Unit :=
  { Do := fun w _ _ => (w, .panicked)
    closeBody := fun w _ => (w, .returned none)
    callback := fun w _ _ => (w, .returned ())
    dumpResponse := fun w _ _ => (w, ([], none)) }

/-- a panicking HTTP client: the lock is NOT held when `Execute` is left, the last event is the unlock, and a second `Execute`
of the same job (the scheduler recovered the panic) takes the lock again and releases it again -/
example :
    let r := CurlJob.Execute exCuPanic ⟨(), []⟩ (NewCurlJobWithOptions (some {}) {}) 0
    heldAfter "cu.mtx" false r.1.out = false ∧ r.1.out.getLast? = some (.unlock "cu.mtx") ∧ r.2.2 = .panicked ∧
    accessGuarded "cu.mtx" false (CurlJob.Execute exCuPanic r.1 r.2.1 1).1.out = true ∧
    heldAfter "cu.mtx" false (CurlJob.Execute exCuPanic r.1 r.2.1 1).1.out = false := by
  decide +kernel

/-- a response body whose `Close` panics (second execution): the lock is released as well -/
def exCuClosePanic : CuExt Nat :=
  { Do := fun w _ _ => (w + 1, .returned (some ⟨200, some (w + 1)⟩, none))
    closeBody := fun w _ => (w, .panicked)
    callback := fun w _ _ => (w, .returned ())
    dumpResponse := fun w _ _ => (w, ([], none)) }

example :
    let r := CurlJob.Execute exCuClosePanic ⟨0, []⟩ (NewCurlJobWithOptions (some {}) {}) 0
    let r' := CurlJob.Execute exCuClosePanic r.1 r.2.1 1
    r.2.2 = .returned none ∧ cuPrev r.2.1 = true ∧ r'.2.2 = .panicked ∧ heldAfter "cu.mtx" false r'.1.out = false := by
  decide +kernel

/-! ## negative control: the shape of `CurlJob.Execute` BEFORE the repair

`Unrepaired.Execute` is, verbatim, the definition `gotolean-jobs` generated from `job/curl_job.go` before the fix commit
(`cu.mtx.Lock()` … `cu.httpClient.Do(cu.request)` … `cu.mtx.Unlock()` in `Execute` itself, no `defer`).  It is NOT regenerated: it
documents the finding that the repair removed — with that shape a panicking `HTTPHandler.Do` left the mutex held. -/

namespace Unrepaired

set_option linter.unusedVariables false in
def Execute {W : Type} (X : CuExt W) (σ : St W) (cu : CurlJob) (ctx : Ctx) : St W × CurlJob × CallResult (Option Err) :=
  let σ := σ.emit (Event.lock "cu.mtx")
  let σ := σ.emit (Event.read "cu.request")
  let σ := σ.emit (Event.write "cu.request")
  let cu := { cu with request := (Request.WithContext cu.request ctx) }
  let σ := σ.emit (Event.read "cu.response")
  let σ := σ.emit (Event.read "cu.response")
  if (cu.response.isSome && ((deref cu.response).Body).isSome) then
    let σ := σ.emit (Event.read "cu.response")
    let r1 := σ.cuCloseBody X ((deref cu.response).Body)
    let σ := r1.1
    (match r1.2 with
    | .panicked =>
      (σ, cu, CallResult.panicked)
    | .returned r1v =>
      let err : Option Err := none
      let σ := σ.emit (Event.read "cu.request")
      let r2 := σ.cuDo X cu.httpClient cu.request
      let σ := r2.1
      (match r2.2 with
      | .panicked =>
        (σ, cu, CallResult.panicked)
      | .returned r2v =>
        let σ := σ.emit (Event.write "cu.response")
        let cu := { cu with response := r2v.1 }
        let err : Option Err := r2v.2
        let σ := σ.emit (Event.read "cu.response")
        let σ := σ.emit (Event.read "cu.response")
        let σ := σ.emit (Event.read "cu.response")
        let r3 :=
          if ((cu.response.isSome && decide (((deref cu.response).StatusCode : Int) ≥ 200)) && decide (((deref cu.response).StatusCode : Int) < 400)) then
            let σ := σ.emit (Event.write "cu.jobStatus")
            let cu := { cu with jobStatus := Status.StatusOK }
            (σ, cu)
          else
            let σ := σ.emit (Event.write "cu.jobStatus")
            let cu := { cu with jobStatus := Status.StatusFailure }
            (σ, cu)
        let σ := r3.1
        let cu := r3.2
        let σ := σ.emit (Event.unlock "cu.mtx")
        if cu.callback.isSome then
          let r4 := σ.cuCallback X ctx cu
          let σ := r4.1
          (match r4.2 with
          | .panicked =>
            (σ, cu, CallResult.panicked)
          | .returned _ =>
            (σ, cu, CallResult.returned err))
        else
          (σ, cu, CallResult.returned err)))
  else
    let err : Option Err := none
    let σ := σ.emit (Event.read "cu.request")
    let r5 := σ.cuDo X cu.httpClient cu.request
    let σ := r5.1
    (match r5.2 with
    | .panicked =>
      (σ, cu, CallResult.panicked)
    | .returned r5v =>
      let σ := σ.emit (Event.write "cu.response")
      let cu := { cu with response := r5v.1 }
      let err : Option Err := r5v.2
      let σ := σ.emit (Event.read "cu.response")
      let σ := σ.emit (Event.read "cu.response")
      let σ := σ.emit (Event.read "cu.response")
      let r6 :=
        if ((cu.response.isSome && decide (((deref cu.response).StatusCode : Int) ≥ 200)) && decide (((deref cu.response).StatusCode : Int) < 400)) then
          let σ := σ.emit (Event.write "cu.jobStatus")
          let cu := { cu with jobStatus := Status.StatusOK }
          (σ, cu)
        else
          let σ := σ.emit (Event.write "cu.jobStatus")
          let cu := { cu with jobStatus := Status.StatusFailure }
          (σ, cu)
      let σ := r6.1
      let cu := r6.2
      let σ := σ.emit (Event.unlock "cu.mtx")
      if cu.callback.isSome then
        let r7 := σ.cuCallback X ctx cu
        let σ := r7.1
        (match r7.2 with
        | .panicked =>
          (σ, cu, CallResult.panicked)
        | .returned _ =>
          (σ, cu, CallResult.returned err))
      else
        (σ, cu, CallResult.returned err))

end Unrepaired

/-- the UNREPAIRED shape (`Unrepaired.Execute`): after a panicking `Do` the recorded events end with `lock … httpDo … panicked` — the
mutex is still held when `Execute` is left (contrast: `trans_curl_do_panic_releases_lock` for the current code, same hypotheses) -/
theorem trans_curl_do_panic_holds_lock_unrepaired {W : Type} (X : CuExt W) (σ : St W) (cu : CurlJob) (ctx : Ctx)
    (hclose : cuPrev cu = true → ∃ e, (cuClose X σ cu).2 = .returned e)
    (hdo : (cuDoCall X σ cu ctx).2 = .panicked) :
    ∃ evs, (Unrepaired.Execute X σ cu ctx).1.out = σ.out ++ evs ∧ heldAfter "cu.mtx" false evs = true ∧
      evs.getLast? = some (.httpDo cu.httpClient (cuReq cu ctx) .panicked) ∧
      (Unrepaired.Execute X σ cu ctx).2.2 = .panicked := by
  have h : Unrepaired.Execute X σ cu ctx =
      (⟨(cuDoCall X σ cu ctx).1, σ.out ++ cuHead X σ cu ++ [.httpDo cu.httpClient (cuReq cu ctx) .panicked]⟩,
       { cu with request := cuReq cu ctx }, .panicked) := by
    by_cases hp : cuPrev cu = true
    · obtain ⟨e, he⟩ := hclose hp
      simp only [cuDoCall, cuW1, cuHead, cuReq, cuClose, hp, if_true, ← List.append_assoc, List.append_cons _ _ (_ :: _)] at he hdo ⊢
      unfold cuPrev at hp
      simp only [Unrepaired.Execute, hp, he, hdo, St.emit, St.cuCloseBody, St.cuDo, if_true]
    · simp only [cuDoCall, cuW1, cuHead, cuReq, hp, Bool.false_eq_true, if_false, ← List.append_assoc, List.append_cons _ _ (_ :: _),
        List.append_nil] at hdo ⊢
      unfold cuPrev at hp
      simp only [Unrepaired.Execute, hp, hdo, St.emit, St.cuDo, Bool.false_eq_true, if_false]
  rw [h]
  refine ⟨_, List.append_assoc .., ?_, by simp, rfl⟩
  rw [(cuHead_checks X σ cu _).2.2.1]; rfl

/-- the unrepaired shape with the panicking client of `exCuPanic`: the lock is still held; the current code releases it -/
example :
    heldAfter "cu.mtx" false (Unrepaired.Execute exCuPanic ⟨(), []⟩ (NewCurlJobWithOptions (some {}) {}) 0).1.out = true ∧
    heldAfter "cu.mtx" false (CurlJob.Execute exCuPanic ⟨(), []⟩ (NewCurlJobWithOptions (some {}) {}) 0).1.out = false := by
  decide +kernel

/-- when nothing panics the two shapes record the same events, store the same job and return the same value (the repair does
not change the behaviour otherwise) — on the two-request example -/
example :
    let a := Unrepaired.Execute exCu ⟨0, []⟩ (NewCurlJobWithOptions (some {}) {}) 3
    let b := CurlJob.Execute exCu ⟨0, []⟩ (NewCurlJobWithOptions (some {}) {}) 3
    a.1.out = b.1.out ∧ a.1.world = b.1.world ∧ a.2 = b.2 ∧ b.1.out.length = 13 := by
  decide +kernel

end TransJobs
