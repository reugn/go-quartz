import QuartzModel.Logger.Simple
import QuartzModel.Proofs.LoggerLemmas
import QuartzModel.Generated.Facts
/-!
# C18 — loggers filter by level and label every record with its own level

Model: `QuartzModel/Logger/Simple.lean` (`logger/simple_logger.go`, `slog_logger.go`, `logger.go`).

PROVED (about the model): the filter (`C18_filter`, `C18_off_silences_all`), the line format
(`C18_format`), that in every interleaving of any number of goroutines sharing one `SimpleLogger` every
written line carries the label of the level it was logged at (`C18_label`, inductive invariant over the
explicit mutex), that WITHOUT the mutex a mislabelled line can be written (`C18_label_race`, the repaired
race), `NoOpLogger` (`C18_noop`) and the level handed to slog (`C18_slog_level_map`).

Tie to the code: `C18_facts` (regenerated from the source) and the harness `qh logger` (exact line
comparison with this model, and the property-level judgment on 16 × 5000 concurrent lines).
NOT proved, only observed: `log.Logger.Output` reads the prefix and writes prefix+message as ONE line
(its own mutex), `fmt`'s `%s`/`%v` rendering of non-string arguments, `slog.Record.Add`, slog handlers.
-/
namespace Logger

def levelConst : Lvl → String
  | .trace => "LevelTrace" | .debug => "LevelDebug" | .info => "LevelInfo" | .warn => "LevelWarn" | .error => "LevelError"

def prefixConst : Lvl → String
  | .trace => "tracePrefix" | .debug => "debugPrefix" | .info => "infoPrefix" | .warn => "warnPrefix" | .error => "errorPrefix"

def methodName : Lvl → String
  | .trace => "Trace" | .debug => "Debug" | .info => "Info" | .warn => "Warn" | .error => "Error"

/-- constants, the operator of `enabled`, and which constant / prefix each method uses -/
theorem C18_facts :
    Generated.Logger.levels = Lvl.all.map (fun l => (levelConst l, l.value)) ++ [("LevelOff", levelOff)] ∧
    Generated.Logger.prefixes = Lvl.all.map (fun l => (prefixConst l, l.label)) ∧
    Generated.Logger.enabledOp = ">=" ∧ Generated.Logger.enabledShape = "level >= l.level" ∧
    Generated.Logger.simpleMethods = Lvl.all.map (fun l => (methodName l, levelConst l, prefixConst l)) :=
  ⟨rfl, rfl, rfl, rfl, rfl⟩

/-- `output` takes the mutex, defers the unlock, then SetPrefix and Output; `formatMessage`'s verbs and loop -/
theorem C18_facts_output :
    Generated.Logger.outputShape =
      ["l.mtx.Lock()", "defer l.mtx.Unlock()", "l.logger.SetPrefix(prefix)", "_ = l.logger.Output(3, message)"] ∧
    Generated.Logger.formatStrings = ["msg=%s", ", %s=%v", ", %v"] ∧
    Generated.Logger.formatArgs = ["msg", "args[i],args[i+1]", "args[i]"] ∧
    Generated.Logger.formatLoop = ["n := len(args)", "i := 0", "i < n", "i += 2", "i+1 < n"] ∧
    Generated.Logger.formatReturn = "return b.String()" :=
  ⟨rfl, rfl, rfl, rfl, rfl⟩

/-- NoOpLogger's five bodies are empty; SlogLogger hands these levels to `log`, which asks the handler first -/
theorem C18_facts_slog :
    Generated.Logger.noopMethods = Lvl.all.map methodName ∧ Generated.Logger.noopEmpty = true ∧
    Generated.Logger.slogLevels = Lvl.all.map (fun l => (methodName l, slogLevel l)) ∧
    Generated.Logger.slogLog =
      ["if !l.logger.Enabled(l.ctx, level)", "{ return }", "r := slog.NewRecord(time.Now(), level, msg, pc)",
       "r.Add(args...)", "_ = l.logger.Handler().Handle(l.ctx, r)"] :=
  ⟨rfl, rfl, rfl, rfl⟩

theorem enabled_iff (threshold level : Int) : enabled threshold level = true ↔ threshold ≤ level := by
  simp [enabled]

/-- a record is written iff its level is at or above the threshold — every `Int` threshold, every level -/
theorem C18_filter (threshold : Int) (l : Lvl) (msg : String) (args : List String) :
    (∃ line, simpleLog threshold l msg args = some line) ↔ threshold ≤ l.value := by
  unfold simpleLog
  rw [← enabled_iff]
  cases enabled threshold l.value <;> simp

/-- what is written when something is written: the level's own prefix and the formatted message -/
theorem C18_filter_line (threshold : Int) (l : Lvl) (msg : String) (args : List String) (line : String)
    (h : simpleLog threshold l msg args = some line) :
    line = outputLine l.label (formatMessage msg args) ∧ threshold ≤ l.value := by
  have hx := (C18_filter threshold l msg args).mp ⟨line, h⟩
  rw [simpleLog, if_pos ((enabled_iff _ _).mpr hx)] at h
  exact ⟨(Option.some.inj h).symm, hx⟩

theorem Lvl.value_bounds (l : Lvl) : levelTrace ≤ l.value ∧ l.value ≤ levelError := by cases l <;> decide

/-- `LevelOff` (and anything above `LevelError`) silences everything -/
theorem C18_off_silences_all (threshold : Int) (h : levelOff ≤ threshold) (l : Lvl) (msg : String) (args : List String) :
    simpleLog threshold l msg args = none := by
  cases hs : simpleLog threshold l msg args with
  | none => rfl
  | some line =>
    have := (C18_filter threshold l msg args).mp ⟨line, hs⟩
    have h2 := (Lvl.value_bounds l).2
    unfold levelOff at h; unfold levelError at h2
    omega

/-- a threshold at or below `LevelTrace` lets everything through -/
theorem C18_trace_emits_all (threshold : Int) (h : threshold ≤ levelTrace) (l : Lvl) (msg : String) (args : List String) :
    ∃ line, simpleLog threshold l msg args = some line :=
  (C18_filter threshold l msg args).mpr (Int.le_trans h (Lvl.value_bounds l).1)

/-- the levels are strictly ordered Trace < Debug < Info < Warn < Error < Off -/
theorem C18_level_order :
    levelTrace < levelDebug ∧ levelDebug < levelInfo ∧ levelInfo < levelWarn ∧ levelWarn < levelError ∧
    levelError < levelOff := by decide

/-- the rendering stated independently of `formatMessage`: `msg=<msg>`, then for each key/value pair
`, <key>=<value>`, then `, <arg>` for an odd last argument -/
def expectedMessage (msg : String) (args : List String) : String :=
  "msg=" ++ msg ++ concat ((structured args).items.map (", " ++ ·))

/-- The line is `msg=<msg>` followed by the arguments in order; the structured form it renders contains
every argument exactly once and in order (`flat` gives the argument list back): nothing is dropped or
reordered; there are `n / 2` pairs and a lone item iff `n` is odd. -/
theorem C18_format (msg : String) (args : List String) :
    formatMessage msg args = expectedMessage msg args ∧ (structured args).flat = args ∧
    (structured args).pairs.length = args.length / 2 ∧ ((structured args).tail.isSome ↔ args.length % 2 = 1) := by
  refine ⟨?_, structured_flat args, structured_counts args⟩
  unfold formatMessage expectedMessage
  rw [formatArgs_items]

/-- the same by POSITION, as the Go loop does it (`i = 2j`): item `j` is `, args[2j]=args[2j+1]` when both exist,
`, args[2j]` for the odd last one; there are `⌈n/2⌉` items -/
theorem C18_format_indexed (msg : String) (args : List String) :
    formatMessage msg args = "msg=" ++ msg ++ concat ((List.range ((args.length + 1) / 2)).map (itemAt args)) := by
  unfold formatMessage
  rw [formatArgs_indexed]

/-- concrete shapes, as in the Go doc: none, one, two, three arguments -/
theorem C18_format_shapes (m a b c : String) :
    formatMessage m [] = "msg=" ++ m ∧ formatMessage m [a] = "msg=" ++ m ++ ", " ++ a ∧
    formatMessage m [a, b] = "msg=" ++ m ++ ", " ++ a ++ "=" ++ b ∧
    formatMessage m [a, b, c] = "msg=" ++ m ++ ", " ++ a ++ "=" ++ b ++ ", " ++ c := by
  simp [formatMessage, formatArgs, String.append_assoc]

/-- the written bytes are prefix and message, with or without one `"\n"` appended (which of the two — appended iff the text does not
already end with one — is `outputLine` itself, not this statement) -/
theorem C18_output_line (pfx message : String) :
    outputLine pfx message = pfx ++ message ∨ outputLine pfx message = pfx ++ message ++ "\n" := by
  unfold outputLine
  simp only
  split
  · exact Or.inl rfl
  · exact Or.inr rfl

/-- In EVERY interleaving (`sched`) of any number of goroutines (`work i` = the records goroutine `i` logs),
with the mutex, every written line carries the prefix of the level it was logged at, and was enabled. -/
theorem C18_label (threshold : Int) (work : Nat → List Rec) (sched : List Nat) :
    ∀ e ∈ (lrun true threshold (linit work) sched).out, e.label = e.lvl.label ∧ threshold ≤ e.lvl.value := by
  intro e he
  have h := (linv_reachable threshold work sched).out e he
  exact ⟨h.1, (enabled_iff _ _).mp h.2⟩

/-- Nothing is lost, duplicated or reordered: at every reachable state, what goroutine `i` has written so far,
followed by what it still has to write, is exactly the enabled part of its work, in order. Once it is
finished its lines are exactly its enabled records. -/
theorem C18_complete (threshold : Int) (work : Nat → List Rec) (sched : List Nat) (i : Nat) :
    let s := lrun true threshold (linit work) sched
    writtenBy s i ++ pending threshold (s.th i) = (work i).filter (fun r => enabled threshold r.lvl.value) ∧
    ((s.th i).todo = [] → writtenBy s i = (work i).filter (fun r => enabled threshold r.lvl.value)) := by
  have h := complete_reachable threshold work sched i
  refine ⟨h, ?_⟩
  intro hd
  rw [← h]
  unfold pending
  rw [hd]
  cases (lrun true threshold (linit work) sched |>.th i).pc <;> simp

/-- mutual exclusion, the reason behind `C18_label`: two goroutines are never both inside `output` -/
theorem C18_mutex (threshold : Int) (work : Nat → List Rec) (sched : List Nat) (i j : Nat) :
    let s := lrun true threshold (linit work) sched
    (s.th i).pc ≠ .start → (s.th j).pc ≠ .start → i = j := by
  intro s hi hj
  have h := linv_reachable threshold work sched
  exact Option.some.inj ((h.excl i hi).symm.trans (h.excl j hj))

/-- the work of the negative control: goroutine 0 logs one WARN record, goroutine 1 one ERROR record -/
def raceWork : Nat → List Rec := fun i =>
  if i = 0 then [⟨.warn, "w"⟩] else if i = 1 then [⟨.error, "e"⟩] else []

/-- NEGATIVE CONTROL (the repaired race): without the mutex there is a two-goroutine interleaving that writes
the WARN record with the prefix `ERROR ` -/
theorem C18_label_race :
    ∃ sched, ∃ e ∈ (lrun false 0 (linit raceWork) sched).out, e.label ≠ e.lvl.label :=
  ⟨[0, 1, 0, 1, 0], ⟨0, "ERROR ", .warn, "w"⟩, by decide +kernel, by decide⟩

/-- … and the very same schedule is harmless with the mutex (goroutine 1 waits) -/
theorem C18_label_race_locked :
    (lrun true 0 (linit raceWork) [0, 1, 0, 1, 0]).out = [⟨0, "WARN ", .warn, "w"⟩] := by decide +kernel

theorem C18_noop (l : Lvl) (msg : String) (args : List String) : noopLog l msg args = none := rfl

/-- the slog level of each method is the numeric value of the corresponding `logger.Level`; a record is handed
to the handler iff the handler is enabled for that level, and it carries that level, the message and all
arguments in order -/
theorem C18_slog_level_map :
    slogLevel .trace = -8 ∧ slogLevel .debug = -4 ∧ slogLevel .info = 0 ∧ slogLevel .warn = 4 ∧ slogLevel .error = 8 ∧
    (∀ l, slogLevel l = l.value) ∧
    (∀ (en : Int → Bool) (l : Lvl) (msg : String) (args : List String),
      ((∃ r, slogLog en l msg args = some r) ↔ en (slogLevel l) = true) ∧
      (∀ r, slogLog en l msg args = some r → r.level = slogLevel l ∧ r.msg = msg ∧ r.attrs = slogAttrs args)) := by
  refine ⟨rfl, rfl, rfl, rfl, rfl, ?_, ?_⟩
  · intro l; cases l <;> rfl
  · intro en l msg args
    unfold slogLog
    cases en (slogLevel l) <;> simp

/-- slog attributes keep every argument in order as well -/
theorem C18_slog_attrs : ∀ args : List String,
    (slogAttrs args).map (·.2) = ((structured args).pairs.map (·.2)) ++ (structured args).tail.toList ∧
    (slogAttrs args).length = (args.length + 1) / 2
  | [] => by simp [slogAttrs, structured]
  | [a] => by simp [slogAttrs, structured]
  | k :: v :: rest => by
    have ih := C18_slog_attrs rest
    refine ⟨?_, ?_⟩
    · simp only [slogAttrs, structured, List.map_cons, List.cons_append, ih.1]
    · simp only [slogAttrs, List.length_cons, ih.2, (half_add_two _).1]

example : simpleLog levelInfo .warn "job done" ["key", "a/b", "took"] = some "WARN msg=job done, key=a/b, took\n" := by
  decide +kernel

example : simpleLog levelWarn .info "x" [] = none ∧ simpleLog levelOff .error "x" [] = none ∧
    (∃ line, simpleLog levelTrace .trace "x" [] = some line) := ⟨by decide +kernel, by decide +kernel, ⟨_, rfl⟩⟩

/-- three goroutines, two records each, an interleaving that exercises blocking on the mutex:
all enabled records come out with their own label -/
example :
    let work : Nat → List Rec := fun i =>
      if i = 0 then [⟨.warn, "a"⟩, ⟨.debug, "b"⟩] else if i = 1 then [⟨.error, "c"⟩, ⟨.info, "d"⟩] else []
    (lrun true 0 (linit work) [0, 1, 0, 1, 0, 0, 1, 1, 1, 1, 0, 1, 1, 1, 1]).out.map (fun e => (e.label, e.msg)) =
      [("INFO ", "d"), ("ERROR ", "c"), ("WARN ", "a")] := by
  decide +kernel

/-- … and goroutine 1 (finished) wrote exactly its two enabled records, in order -/
example :
    let work : Nat → List Rec := fun i =>
      if i = 0 then [⟨.warn, "a"⟩, ⟨.debug, "b"⟩] else if i = 1 then [⟨.error, "c"⟩, ⟨.info, "d"⟩] else []
    writtenBy (lrun true 0 (linit work) [0, 1, 0, 1, 0, 0, 1, 1, 1, 1, 0, 1, 1, 1, 1]) 1 = [⟨.error, "c"⟩, ⟨.info, "d"⟩] := by
  decide +kernel

example : slogLog (fun l => decide (l ≥ 0)) .trace "m" ["k", "v"] = none ∧
    slogLog (fun l => decide (l ≥ -8)) .trace "m" ["k", "v", "z"] = some ⟨-8, "m", [("k", "v"), ("!BADKEY", "z")]⟩ := by
  decide +kernel

end Logger
