import QuartzModel.Generated.Facts
import QuartzModel.Queue.JobQueue
/-!
# The queue model is the queue of the source (C11, also C09 "keyed by (group, name)")

Pins, against the source text read on this run: the heap order (`Less` is `<` on the priority), key
equality (name AND group, field by field — not a rendering), which container/heap function each
`jobQueue` method uses (`Push`: `heap.Remove` then `heap.Push`; `Pop`: `heap.Pop`; `Remove`:
`heap.Remove`; the others none), the all-matchers filter, the bindings of the four string operators
and the status predicate. The model's counterparts: `prioAt a j < prioAt a i` in `up`/`down`,
`Entry.sameKey`, `qpush`/`qpop`/`qremove`, `qlist`, `StrOp.apply`, `Matcher.isMatch`.
-/
namespace Queue

theorem less_fact : Generated.Queue.less = "pq[i].priority < pq[j].priority" := rfl
theorem keyEquals_fact :
    Generated.Queue.keyEquals = "jobKey.name == that.name && jobKey.group == that.group" := rfl

theorem heapCalls_fact :
    Generated.Queue.heapCalls =
      [("Clear", ""), ("Get", ""), ("Head", ""), ("Pop", "heap.Pop"), ("Push", "heap.Remove,heap.Push"),
       ("Remove", "heap.Remove"), ("Size", "")] := rfl

theorem operators_fact :
    Generated.Queue.operators =
      [("StringContains", "strings.Contains"), ("StringEndsWith", "strings.HasSuffix"),
       ("StringEquals", "stringsEqual"), ("StringStartsWith", "strings.HasPrefix")] ∧
    Generated.Queue.stringsEqual = "source == target" := ⟨rfl, rfl⟩

theorem matchers_fact :
    Generated.Queue.statusIsMatch = "job.JobDetail().Options().Suspended == s.Suspended" ∧
    Generated.Queue.nameIsMatch = "(*n.Operator)(job.JobDetail().JobKey().Name(), n.Pattern)" ∧
    Generated.Queue.groupIsMatch = "(*g.Operator)(job.JobDetail().JobKey().Group(), g.Pattern)" ∧
    Generated.Queue.filterBody = "{ if !matcher.IsMatch(job) { continue JobLoop } }" :=
  ⟨rfl, rfl, rfl, rfl⟩

end Queue
