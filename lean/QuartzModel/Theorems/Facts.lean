import QuartzModel.Generated.Facts
/-!
# The regenerated facts are the constants the model and its theorems use

`Generated/Facts.lean` is rewritten from /repo's current source on every run. The general theorems are
stated for the default `Cron.Limits` / `Cron.Bounds` and the glossaries in `Cron/Parse.lean`; these
equalities are what makes them theorems about the code as it is now. A changed bound, name table,
macro or `#` range in the Go source breaks one of these `decide`s.
-/
namespace Facts

/-- no shape of the CRON fact groups is missing. (`Generated.missing` lists, with a group prefix, every source shape an extractor
could not find; each property looks only at the groups it depends on, so that a reshaped scheduler function cannot break the
tie of the cron properties and vice versa.) -/
theorem missing_none :
    Generated.missing.filter (fun s => "nodeLimits".toList.isPrefixOf s.toList || "parseBounds".toList.isPrefixOf s.toList) = [] := by decide

theorem limits_eq : Generated.limits = ({} : Cron.Limits) := by decide
/-- the literals of `newCSMFromFields` that `Cron.Limits` has no field for: the lower bounds `0` of the second,
minute and hour nodes in `Cron.levels`, and the limits 1, 31 of the weekday-mode day node (`Cron.dayCfg` uses
`dayMin`, `dayMax` for both modes) -/
theorem limitsAux_eq : Generated.limitsAux = [0, 0, 0, 1, 31] := by decide
theorem bounds_eq : Generated.bounds = ({} : Cron.Bounds) := by decide
theorem hashRange_eq : Generated.hashRange = (1, 5) := by decide
theorem dowShift_eq : Generated.dowShift = -1 := by decide
theorem months_eq : Generated.months.map String.toList = Cron.monthNames := by decide +kernel
theorem days_eq : Generated.days.map String.toList = Cron.dayNames := by decide +kernel

/-- the macro table, as a finite map (the extractor sorts by key; Go's map has no order) -/
theorem special_eq :
    (Generated.special.map (fun p => (p.1.toList, p.2.toList))).Perm Cron.specialTable := by
  decide +kernel

end Facts
