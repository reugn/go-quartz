import QuartzModel.Proofs.TransLoopLemmas
import QuartzModel.Proofs.FaultsLemmas
import QuartzModel.Theorems.C15
import QuartzModel.Theorems.C15F4
import QuartzModel.Theorems.C05
/-!
# The translated execution loop (`Generated.TransLoop`, regenerated from quartz/scheduler.go by `gotolean-loop`) IS the
hand-written fault model (`Sched/Faults.lean`), and the C15 theorems hold of the translated iteration

Representation (all in `Proofs/TransLoopLemmas.lean`): the model input `i : Faults.In` becomes (a) the generated input record
`inpOf i dsel tstop : Inputs` (clock readings `now1 now2 nowVal nowErr`, the `select` outcome `interrupted`; `tArm`/`tickAt` are
not read by the code; `dsel`/`tstop` — the worker-pool `select` and the result of `timer.Stop()` — are not part of the model) and
(b) the scripted externals `scriptQ eE eO i` / `scriptT trig` that answer every queue / trigger call as `i` / `trig` dictate.
The result is read back by `absOut` (timer duration = the first `timerReset` event, calls/popped/pushed = the script's record,
dispatched = the `execute`/`spawn`/`send` event, new state = the loop-carried `retryAt`).

The parts are tied first (`trans_calculateNextTick`, `trans_executeAndReschedule`, the arming part `armPart_spec`), then one
iteration (`trans_iter`, for every well-formed shape, so also for the one the extractor's string facts describe:
`trans_iter_facts`), then the iteration iterated (`trans_runLoop`, `trans_runQ`), through which the C15 theorems are transferred
(`C15_*_trans`). The `ctx.Done()` case, `Reset()` and the statements before the loop, which the model does not have, are
described as they are (`trans_iter_exit`, `trans_Reset`, `trans_init`).
-/
namespace TransLoop
open Generated.TransSched Generated.TransLoop Faults

theorem trans_loop_nothing_missing : Generated.TransLoop.missing = [] := by decide

/-- no int64 overflow in the three subtractions of the iteration (`time.Until(retryAt)`, `nextRunTime - now`,
    `now - OutdatedThreshold`): the model computes in `Int` -/
def NoOvf (c : Cfg) (st : BState) (i : In) : Prop :=
  (∀ r, st.retryAt = some r → i.now1 < r → satDuration (r - i.now2) = r - i.now2) ∧
  (∀ f, i.head = .ok f → f > i.now2 → i64 (f - i.now2) = f - i.now2) ∧
  i64 (i.nowVal - c.thr) = i.nowVal - c.thr

theorem sub_in_int64 {a b : Int} (ha : -4611686018427387903 ≤ a ∧ a ≤ 4611686018427387903)
    (hb : -4611686018427387903 ≤ b ∧ b ≤ 4611686018427387903) :
    -9223372036854775808 ≤ a - b ∧ a - b ≤ 9223372036854775807 := by omega

/-- a sufficient condition: every quantity is below 2^62 in absolute value -/
theorem noOvf_of_bounded (c : Cfg) (st : BState) (i : In)
    (h1 : ∀ r, st.retryAt = some r → -4611686018427387903 ≤ r ∧ r ≤ 4611686018427387903)
    (h2 : ∀ f, i.head = .ok f → -4611686018427387903 ≤ f ∧ f ≤ 4611686018427387903)
    (h3 : -4611686018427387903 ≤ i.now2 ∧ i.now2 ≤ 4611686018427387903)
    (h4 : -4611686018427387903 ≤ i.nowVal ∧ i.nowVal ≤ 4611686018427387903)
    (h5 : -4611686018427387903 ≤ c.thr ∧ c.thr ≤ 4611686018427387903) : NoOvf c st i :=
  ⟨fun r hr _ => satDuration_id (sub_in_int64 (h1 r hr) h3), fun f hf _ => TransSched.i64_id (sub_in_int64 (h2 f hf) h3),
    TransSched.i64_id (sub_in_int64 h4 h5)⟩

/-- **`calculateNextTick` = `Faults.calcNextTick`** for the shape the code has: same duration, exactly one `Head()` call,
    nothing but a log line recorded; the error result is non-nil exactly when `Head()` failed with an error other than
    `ErrQueueEmpty`. Hypothesis: no int64 overflow in `nextRunTime - now`. -/
theorem trans_calculateNextTick (eE eO : Err) (hE : errorsIs (some eE) (some ErrQueueEmpty) = true)
    (hO : errorsIs (some eO) (some ErrQueueEmpty) = false) (trig : Trig) (c : Cfg) (b : Bool) (w : Int) (i : In)
    (dsel : executeAndReschedule.Sel1) (tstop : Bool) (σ : LSt SQ Unit)
    (hov : ∀ f, i.head = .ok f → f > i.now2 → i64 (f - i.now2) = f - i.now2) :
    calculateNextTick (scriptQ eE eO i) (scriptT trig) (envOf c b w) (inpOf i dsel tstop) σ =
      ({ queue := σ.queue.call .head i.head.outcome, trigs := σ.trigs, out := σ.out ++ calcLogs i.head },
        (calcNextTick theShape c i.head i.now2, if i.head = .err then some eO else none)) := by
  cases hh : i.head with
  | ok f =>
    by_cases hf : f > i.now2 <;>
      simp [calculateNextTick, scriptQ, LSt.callQ, LSt.emit, hh, inpOf, calcNextTick, calcLogs, Res.outcome,
        scheduledJob.NextRunTime, ofEntry, hf, hov f hh]
  | _ =>
    simp [calculateNextTick, scriptQ, LSt.callQ, LSt.emit, hh, calcNextTick, theShape, calcLogs, Res.outcome, hE, hO, envOf]

/-- **`executeAndReschedule` = `Faults.fetch`** for the shape the code has: the same queue calls with the same outcomes, the same
    popped / pushed / dispatched entry, the error result is non-nil exactly when the model says so (`retErr`), and nothing is
    received from the interrupt channel.
    Hypotheses: no int64 overflow in `now - OutdatedThreshold`, and — the
    model has no such case — the worker-pool `select` is not decided by `ctx.Done()`. -/
theorem trans_executeAndReschedule (eE eO : Err) (hE : errorsIs (some eE) (some ErrQueueEmpty) = true)
    (hO : errorsIs (some eO) (some ErrQueueEmpty) = false) (trig : Trig) (c : Cfg) (b : Bool) (w : Int) (i : In)
    (dsel : executeAndReschedule.Sel1) (tstop : Bool) (σ : LSt SQ Unit)
    (hov : i64 (i.nowVal - c.thr) = i.nowVal - c.thr)
    (hmode : b = true ∨ w ≤ 0 ∨ dsel = .send_dispatch) :
    let F := fetch theShape c trig i
    let r := executeAndReschedule (scriptQ eE eO i) (scriptT trig) (envOf c b w) (inpOf i dsel tstop) σ
    r.1.queue.log = σ.queue.log ++ F.calls ∧
    r.1.queue.popped = (match F.popped with | some e => some (ofEntry e) | none => σ.queue.popped) ∧
    r.1.queue.pushed = (match F.pushed with | some e => some (ofEntry e) | none => σ.queue.pushed) ∧
    r.1.out.filterMap resetOf = σ.out.filterMap resetOf ∧
    r.1.out.filterMap dispOf = σ.out.filterMap dispOf ++ (match F.dispatched with | some e => [(ofEntry e).job] | none => []) ∧
    r.2.isSome = F.retErr ∧
    r.1.out.filterMap intrOf = σ.out.filterMap intrOf  := by
  intro F r
  obtain ⟨h1, h2, h3, hj, hv, he⟩ := fetchAndReschedule_spec eE eO hE hO trig c b w i hov
    { queue := σ.queue, trigs := σ.trigs, out := [] }
  have D := fetch_dispatched_popped theShape c trig i
  have hnow : (inpOf i dsel tstop).fetchAndReschedule_now = i.nowVal := rfl
  have hsel : (inpOf i dsel tstop).executeAndReschedule_sel1 = dsel := rfl
  simp only [r, executeAndReschedule, LSt.callSched, hnow, hsel]
  simp only at h1 h2 h3 hj hv he
  generalize fetchAndReschedule _ _ _ _ = q at h1 h2 h3 hj hv he ⊢
  obtain ⟨qs, qj, qv, qe⟩ := q
  simp only at h1 h2 h3 hj hv he
  subst hj hv
  have R := filterMap_sched resetOf resetOf_sched qs.out
  have I := filterMap_sched intrOf intrOf_sched qs.out
  have P := filterMap_sched dispOf dispOf_sched qs.out
  cases hd : (fetch theShape c trig i).dispatched with
  -- the `match`es that remain differ from those of `fetchAndReschedule_spec` in name only
  | none => simp [F, h1, h2, h3, he, R, I, P]; exact ⟨rfl, rfl⟩
  | some e =>
    have hj : (fetch theShape c trig i).popped = some e := D e hd
    cases b with
    | true => simp [F, hj, h1, h2, h3, he, R, I, P, LSt.emit, envOf, scheduledJob.JobDetail, List.filterMap_cons]; rfl
    | false =>
      by_cases hw : w > 0
      · have hsel : dsel = .send_dispatch := by
          rcases hmode with h | h | h
          · cases h
          · omega
          · exact h
        simp [F, hj, h1, h2, h3, he, R, I, P, LSt.emit, envOf, scheduledJob.JobDetail, List.filterMap_cons, hw, hsel]
        rfl
      · simp [F, hj, h1, h2, h3, he, R, I, P, LSt.emit, envOf, scheduledJob.JobDetail, List.filterMap_cons, hw]
        rfl

/-- the parameters of the translation that the model does not have, and what is assumed of them -/
structure Par where
  eE : Err
  eO : Err
  hE : errorsIs (some eE) (some ErrQueueEmpty) = true
  hO : errorsIs (some eO) (some ErrQueueEmpty) = false
  b : Bool
  w : Int
  dsel : executeAndReschedule.Sel1
  tstop : Bool
  hmode : b = true ∨ w ≤ 0 ∨ dsel = .send_dispatch

/-- read back by `absOut`, the arming part is the model's interrupted iteration; it pops, pushes, dispatches nothing and
    receives nothing from the interrupt channel -/
theorem armPart_spec (p : Par) (c : Cfg) (hM : c.M = maxDur) (trig : Trig) (st : BState) (i : In) (hov : NoOvf c st i) :
    let a := armPart (scriptQ p.eE p.eO i) (scriptT trig) (envOf c p.b p.w) (inpOf i p.dsel p.tstop) σ0 st.retryAt
    absOut st (a.1, (a.2, true)) = Faults.iter theShape c trig st { i with interrupted := true } ∧
    a.1.queue.popped = none ∧ a.1.queue.pushed = none ∧
    a.1.out.filterMap dispOf = [] ∧ a.1.out.filterMap intrOf = [] := by
  obtain ⟨eE, eO, hE, hO, b, w, dsel, tstop, -⟩ := p
  obtain ⟨hov1, hov2, -⟩ := hov
  have C := fun σ => trans_calculateNextTick eE eO hE hO trig c b w i dsel tstop σ hov2
  obtain ⟨fl, ra⟩ := st
  have hB : Time.Before (some i.now1) ra = inBackoff theShape ⟨fl, ra⟩ i.now1 := by cases ra <;> rfl
  cases hnb : inBackoff theShape ⟨fl, ra⟩ i.now1 with
  | true =>
    obtain ⟨rr, rfl, hlt⟩ : ∃ rr, ra = some rr ∧ i.now1 < rr := by cases ra <;> simpa [inBackoff] using hnb
    have h1 := hov1 rr rfl hlt
    simp [armPart, σ0, LSt.emit, absOut, Faults.iter, chooseArm, skipsSize, afterArm, inBackoff, Time.Before, Time.Until,
      Time.Sub, Time.now, List.filterMap_cons, hlt, h1]
  | false =>
    rw [hnb] at hB
    have hsk : skipsSize theShape ⟨fl, ra⟩ i.now1 = false := by simp [skipsSize, hnb]
    cases hsz : i.size with
    | none =>
      simp [armPart, hsz, hB, hsk, scriptQ_Size, σ0, LSt.callQ, LSt.emit, SQ.call, absOut, Faults.iter, chooseArm,
        afterArm, Time.now, Time.Add, List.filterMap_cons]
    | some n =>
      cases n with
      | zero =>
        simp [armPart, hsz, hB, hsk, hnb, scriptQ_Size, σ0, LSt.callQ, LSt.emit, SQ.call, absOut, Faults.iter, chooseArm,
          afterArm, Time.now, hM, maxDur, List.filterMap_cons]
      | succ n =>
        have hne : ¬ ((n : Int) + 1 = 0) := by omega
        simp [armPart, hsz, hB, hsk, hnb, scriptQ_Size, σ0, LSt.callQ, LSt.emit, SQ.call, absOut, Faults.iter, chooseArm,
          afterArm, Time.now, Time.Add, C, List.filterMap_cons, hne]
        split <;> rfl

/-- **ONE ITERATION of the translated `startExecutionLoop` = `Faults.iter`** for the shape the code has, every configuration with
    `M = maxTimerDuration`, every trigger function, every loop state, EVERY model input `i` (every result of every queue call,
    every clock reading, tick or interrupt), every choice of error values the queue uses (`eE` any error that `errors.Is`
    `ErrQueueEmpty`, `eO` any that is not), every dispatch mode, every `timer.Stop()` result (`Par`).
    Hypotheses: no int64 overflow (`NoOvf`); the worker-pool `select` is not decided by `ctx.Done()` (a case the model lacks).
    All eight components of `Out` agree, the iteration does not end the loop, and the ONLY receive from the interrupt channel is
    the blocking one of the `select` when it takes that case (no token is ever drained on the side: the wake-up model of C05
    assumes that a token is consumed only there). -/
theorem trans_iter_core (p : Par) (c : Cfg) (hM : c.M = maxDur) (trig : Trig) (st : BState) (i : In) (hov : NoOvf c st i) :
    let r := startExecutionLoop.iter (scriptQ p.eE p.eO i) (scriptT trig) (envOf c p.b p.w) (inpOf i p.dsel p.tstop) σ0
      st.retryAt
    absOut st r = Faults.iter theShape c trig st i ∧ r.2.2 = true ∧
      r.1.out.filterMap intrOf = (if i.interrupted then [true] else []) := by
  intro r
  obtain ⟨hA, hpo, hpu, hdi, hin⟩ := armPart_spec p c hM trig st i hov
  obtain ⟨eE, eO, hE, hO, b, w, dsel, tstop, hmode⟩ := p
  have hov3 := hov.2.2
  cases hint : i.interrupted with
  | true =>
    have hi : { i with interrupted := true } = i := by rw [← hint]
    rw [hi] at hA
    simp only [r, iter_select, inpOf_sel, hint, if_true]
    generalize armPart _ _ _ _ _ _ = a at hA hpo hpu hdi hin ⊢
    refine ⟨?_, trivial, ?_⟩
    · rw [← hA]
      cases tstop <;> simp [absOut, LSt.emit, List.filterMap_cons]
    · cases tstop <;> simp [LSt.emit, hin, List.filterMap_cons]
  | false =>
    simp only [r, iter_select, inpOf_sel, hint, Bool.false_eq_true, if_false]
    generalize armPart _ _ _ _ _ _ = a at hA hpo hpu hdi hin ⊢
    obtain ⟨X1, X2, X3, X4, X5, X6, X7⟩ := trans_executeAndReschedule eE eO hE hO trig c b w i dsel tstop
      ((a.1.emit (.recv "timer.C")).emit (.log "Trace" "Tick")) hov3 hmode
    generalize executeAndReschedule _ _ _ _ _ = x at X1 X2 X3 X4 X5 X6 X7 ⊢
    have D := fetch_dispatched_popped theShape c trig i
    have T := fetch_tickErr_calls theShape c trig i
    obtain ⟨o', F1⟩ := fetch_calls_head theShape c trig i
    have hT : (a.1.queue.log.contains (.pop, .err) || a.1.queue.log.contains (.push, .err)) = false :=
      (congrArg Out.tickErr hA).trans (iter_interrupted theShape c trig st _ rfl).2.2.2.2
    rw [iter_tick_eq _ _ _ _ _ hint, ← hA]
    simp [absOut, LSt.emit, X1, X2, X3, X4, X5, X6, X7, hpo, hpu, hdi, hin, T, F1, afterTick, Time.Add, Time.now,
      List.filterMap_cons, List.head?_append] at hT ⊢
    refine ⟨?_, ?_, ?_, ?_, ?_, ?_⟩
    · cases hd : (fetch theShape c trig i).dispatched with
      | none => simp
      | some e => simp [D e hd, Option.filter]
    · cases (fetch theShape c trig i).pushed <;> simp
    · cases (fetch theShape c trig i).popped <;> simp
    · cases a.1.queue.log.head? <;> simp
    · simp [hT.1, hT.2]
    · split <;> rfl

/-- the translated iteration, read back as a model `Out` -/
def iterT (eE eO : Err) (trig : Trig) (c : Cfg) (b : Bool) (w : Int) (dsel : executeAndReschedule.Sel1) (tstop : Bool)
    (st : BState) (i : In) : Out :=
  absOut st (startExecutionLoop.iter (scriptQ eE eO i) (scriptT trig) (envOf c b w) (inpOf i dsel tstop) σ0 st.retryAt)

/-- the errors of the default queue, blocking execution -/
def par0 : Par :=
  { eE := .wrap2 ErrIllegalState ErrQueueEmpty, eO := .other 7, hE := by decide, hO := by decide, b := true, w := 0,
    dsel := .send_dispatch, tstop := true, hmode := Or.inl rfl }

def Par.iter (p : Par) (trig : Trig) (c : Cfg) (st : BState) (i : In) : Out :=
  iterT p.eE p.eO trig c p.b p.w p.dsel p.tstop st i

/-- **the translated iteration = `Faults.iter`** (main statement) -/
theorem trans_iter (p : Par) (S : Shape) (hS : WF S) (c : Cfg) (hM : c.M = maxDur) (trig : Trig) (st : BState) (i : In)
    (hov : NoOvf c st i) : p.iter trig c st i = Faults.iter S c trig st i :=
  wf_eq S hS ▸ (trans_iter_core p c hM trig st i hov).1

/-- an iteration consumes an interrupt token only through its `select` (cf. `Theorems/C05.lean`: the loop's only receive) -/
theorem trans_iter_interrupt_use (p : Par) (c : Cfg) (hM : c.M = maxDur) (trig : Trig) (st : BState) (i : In)
    (hov : NoOvf c st i) :
    (startExecutionLoop.iter (scriptQ p.eE p.eO i) (scriptT trig) (envOf c p.b p.w) (inpOf i p.dsel p.tstop) σ0
      st.retryAt).1.out.filterMap intrOf = (if i.interrupted then [true] else []) :=
  (trans_iter_core p c hM trig st i hov).2.2

/-- … in particular for the shape that the extractor's string facts describe: the facts need not be trusted: they are implied by the translated code -/
theorem trans_iter_facts (p : Par) (c : Cfg) (hM : c.M = maxDur) (trig : Trig) (st : BState) (i : In) (hov : NoOvf c st i) :
    p.iter trig c st i = Faults.iter Generated.Faults.shape c trig st i :=
  trans_iter p _ C15_facts_wf c hM trig st i hov

theorem facts_shape_eq : Generated.Faults.shape = theShape := wf_eq _ C15_facts_wf

/-- **the arm choice**: the duration of the first `timer.Reset` of the translated iteration is what `Faults.chooseArm` selects -/
theorem trans_arm (p : Par) (c : Cfg) (hM : c.M = maxDur) (trig : Trig) (st : BState) (i : In) (hov : NoOvf c st i) :
    (p.iter trig c st i).armed =
      (match chooseArm theShape st i.size i.now1 with
        | .zero => 0 | .retry => c.R | .max => c.M | .other => 0
        | .nextTick => calcNextTick theShape c i.head i.now2
        | .untilRetry => st.retryAt.getD i.now2 - i.now2) := by
  rw [trans_iter p theShape theShape_wf c hM trig st i hov]
  exact iter_armed theShape c trig st i

/-- **the exit path**: when `ctx.Done()` fires, the iteration stops the timer, hands the interrupt token on (`Reset()`: one
    non-blocking send) and ends the loop: these four events are the last ones recorded, for ANY queue / trigger externals. (The model
    `Faults.iter` has no such case; `retryAt`, which the arming part of the iteration may have set, is dead after the `return`.) -/
theorem trans_iter_exit {Q H M : Type} (JQ : JobQueueExt Q M) (TR : TriggerExt H) (env : Env) (inp : Inputs) (σ : LSt Q H)
    (retryAt : Time) (hsel : inp.startExecutionLoop_sel1 = .recv_ctx_Done) :
    let r := startExecutionLoop.iter JQ TR env inp σ retryAt
    r.2.2 = false ∧
    [.recv "ctx.Done()", .log "Info" "Exit the execution loop", .timerStop, .trySend "sched.interrupt"] <:+ r.1.out := by
  simp only [iter_select, hsel, Reset, LSt.emit, List.append_assoc, List.cons_append, List.nil_append]
  exact ⟨trivial, List.suffix_append _ _⟩

/-- the translated `Reset()` is one non-blocking send on `sched.interrupt` and nothing else; beside it, the extractor's
    constant `Generated.Wakeup.resetNonBlocking`, which the wake-up model (C05) uses for the same fact, says so too (the two
    conjuncts are independent: nothing here derives the constant from the translation) -/
theorem trans_Reset {Q H M : Type} (JQ : JobQueueExt Q M) (TR : TriggerExt H) (env : Env) (inp : Inputs) (σ : LSt Q H) :
    Reset JQ TR env inp σ = ({ σ with out := σ.out ++ [.trySend "sched.interrupt"] }, ()) ∧
    Generated.Wakeup.resetNonBlocking = true :=
  ⟨rfl, by decide⟩

/-- the statements before the loop: the timer is created with `maxTimerDuration`, `retryAt` starts as the zero Time -/
theorem trans_init {Q H M : Type} (JQ : JobQueueExt Q M) (TR : TriggerExt H) (env : Env) (inp : Inputs) (σ : LSt Q H) :
    startExecutionLoop.init JQ TR env inp σ =
      ({ σ with out := σ.out ++ [.deferWgDone, .timerNew maxDur] }, (none : Time)) := by
  simp [startExecutionLoop.init, LSt.emit, maxDur, Time.zero]

/-- the translated iteration, iterated over the inputs of a run: `retryAt` is threaded from iteration to iteration exactly as the
    generated `startExecutionLoop.loop` threads it; every iteration meets a script of its own (its input dictates the answers) -/
def Par.runLoop (p : Par) (trig : Trig) (c : Cfg) (st : BState) : List In → List Out × BState
  | [] => ([], st)
  | i :: is =>
    let o := p.iter trig c st i
    let r := p.runLoop trig c o.st is
    (o :: r.1, r.2)

/-- no int64 overflow along a run -/
def NoOvfRun (c : Cfg) (trig : Trig) (st : BState) : List In → Prop
  | [] => True
  | i :: is => NoOvf c st i ∧ NoOvfRun c trig (Faults.iter theShape c trig st i).st is

theorem trans_runLoop (p : Par) (S : Shape) (hS : WF S) (c : Cfg) (hM : c.M = maxDur) (trig : Trig) (st : BState)
    (ins : List In) (hov : NoOvfRun c trig st ins) : p.runLoop trig c st ins = Faults.runLoop S c trig st ins := by
  rw [wf_eq S hS]
  induction ins generalizing st with
  | nil => rfl
  | cons i is ih =>
    obtain ⟨h1, h2⟩ := hov
    simp only [Par.runLoop, Faults.runLoop, trans_iter p theShape theShape_wf c hM trig st i h1, ih _ h2]

/-- the translated iteration closed over a queue that stores what is pushed (`Faults.iterQ`) -/
def Par.iterQ (p : Par) (trig : Trig) (c : Cfg) (s : LState) (pl : Plan) : Out × LState :=
  let o := p.iter trig c s.st (inOf s.q pl)
  (o, { st := o.st, q := qAfter s.q o })

def Par.runQ (p : Par) (trig : Trig) (c : Cfg) (s : LState) : List Plan → List Out × LState
  | [] => ([], s)
  | pl :: ps =>
    let r := p.iterQ trig c s pl
    let rest := p.runQ trig c r.2 ps
    (r.1 :: rest.1, rest.2)

def NoOvfRunQ (c : Cfg) (trig : Trig) (s : LState) : List Plan → Prop
  | [] => True
  | pl :: ps => NoOvf c s.st (inOf s.q pl) ∧ NoOvfRunQ c trig (Faults.iterQ theShape c trig s pl).2 ps

theorem trans_runQ (p : Par) (S : Shape) (hS : WF S) (c : Cfg) (hM : c.M = maxDur) (trig : Trig) (s : LState)
    (ps : List Plan) (hov : NoOvfRunQ c trig s ps) : p.runQ trig c s ps = Faults.runQ S c trig s ps := by
  rw [wf_eq S hS]
  induction ps generalizing s with
  | nil => rfl
  | cons pl ps ih =>
    obtain ⟨h1, h2⟩ := hov
    have e : p.iterQ trig c s pl = Faults.iterQ theShape c trig s pl := by
      simp only [Par.iterQ, Faults.iterQ, trans_iter p theShape theShape_wf c hM trig s.st _ h1]
    simp only [Par.runQ, Faults.runQ, e, ih _ h2]

/-- `C15_backoff_step` for the TRANSLATED iteration: (1) a failing `Size()`/`Head()` arms `RetryInterval` and sets `retryAt` to its
    clock reading plus `RetryInterval`; (2) a failing `Pop()`/`Push()` sets `retryAt` to the clock reading plus `RetryInterval`;
    (3) before the deadline the timer is armed for exactly the deadline and the queue is asked nothing before the `select` — no
    `Size()`, no `Head()`; (4) an interrupted iteration without such an error leaves `retryAt` as it is. No shape parameter, no
    extracted fact. -/
theorem C15_backoff_step_trans (p : Par) (c : Cfg) (hM : c.M = maxDur) (trig : Trig) (st : BState) (i : In)
    (hov : NoOvf c st i) :
    ((p.iter trig c st i).armErr = true → (p.iter trig c st i).armed = c.R ∧
      (i.interrupted = true → (p.iter trig c st i).st.retryAt = some (i.now2 + c.R)) ∧
      (i.now2 ≤ i.nowErr → ∃ r', (p.iter trig c st i).st.retryAt = some r' ∧ i.now2 + c.R ≤ r')) ∧
    ((p.iter trig c st i).tickErr = true →
      i.interrupted = false ∧ (p.iter trig c st i).st.retryAt = some (i.nowErr + c.R)) ∧
    (∀ r, st.retryAt = some r → i.now1 < r → i.now2 + (p.iter trig c st i).armed = r ∧
      (p.iter trig c st i).armErr = false ∧
      (p.iter trig c st i).calls = (if i.interrupted then [] else (fetch theShape c trig i).calls)) ∧
    (i.interrupted = true → (p.iter trig c st i).armErr = false → (p.iter trig c st i).st = st) := by
  rw [trans_iter p theShape theShape_wf c hM trig st i hov]
  exact C15_backoff_step theShape theShape_wf c trig st i

/-- `C15_backoff` for the translated loop: after a loop-side error no later iteration ticks, and none asks `Size()`, before
    `RetryInterval` has passed — whatever interrupts arrive -/
theorem C15_backoff_trans (p : Par) (c : Cfg) (hM : c.M = maxDur) (trig : Trig) (st0 : BState) (prev : Int) (ins : List In)
    (hov : NoOvfRun c trig st0 ins) (hwt : WellTimed theShape c trig st0 prev ins) (k : Nat) (ik : In) (ok : Out)
    (hik : ins[k]? = some ik) (hok : (p.runLoop trig c st0 ins).1[k]? = some ok) :
    (ok.armErr = true → (ik.interrupted = false → ik.tArm + c.R ≤ ik.tickAt) ∧
      ∀ j ij oj, k < j → ins[j]? = some ij → (p.runLoop trig c st0 ins).1[j]? = some oj →
        (ij.interrupted = false → ik.now2 + c.R ≤ ij.tickAt) ∧
        (∀ o, oj.calls.head? = some (.size, o) → ik.now2 + c.R ≤ ij.now1)) ∧
    (ok.tickErr = true → ∀ j ij, k < j → ins[j]? = some ij →
      (ij.interrupted = false → ik.nowErr + c.R ≤ ij.tickAt) ∧
      (∀ oj o, (p.runLoop trig c st0 ins).1[j]? = some oj → oj.calls.head? = some (.size, o) →
        ik.nowErr + c.R ≤ ij.now1)) := by
  rw [trans_runLoop p theShape theShape_wf c hM trig st0 ins hov] at hok ⊢
  exact C15_backoff theShape theShape_wf c trig st0 prev ins hwt k ik ok hik hok

/-- `C15_size_retry_kept` (finding F4, repaired) for the translated loop: after an iteration that asked `Size()` and got an error,
    no later iteration asks `Size()` before `RetryInterval` has passed, whatever ended the waits in between -/
theorem C15_size_retry_kept_trans (p : Par) (c : Cfg) (hM : c.M = maxDur) (trig : Trig) (st0 : BState) (prev : Int)
    (ins : List In) (hov : NoOvfRun c trig st0 ins) (hwt : WellTimed theShape c trig st0 prev ins)
    (k j : Nat) (ik ij : In) (ok oj : Out) (o : Outcome) (hkj : k < j) (hik : ins[k]? = some ik) (hij : ins[j]? = some ij)
    (hok : (p.runLoop trig c st0 ins).1[k]? = some ok) (hoj : (p.runLoop trig c st0 ins).1[j]? = some oj)
    (hk : ok.calls.head? = some (.size, .err)) (hj : oj.calls.head? = some (.size, o)) : ik.now1 + c.R ≤ ij.now1 := by
  rw [trans_runLoop p theShape theShape_wf c hM trig st0 ins hov] at hok hoj
  exact C15_size_retry_kept_wf theShape theShape_wf c trig st0 prev ins hwt k j ik ij ok oj o hkj hik hij hok hoj hk hj

/-- `C15_deadline_not_postponed` for the translated loop: under an arbitrary stream of interrupts `retryAt` does not change
    (unless the queue fails anew after the deadline), every iteration before the deadline arms its timer for exactly the deadline
    and asks the queue nothing, and from the deadline on the back-off case is not taken -/
theorem C15_deadline_not_postponed_trans (p : Par) (c : Cfg) (hM : c.M = maxDur) (trig : Trig) (st : BState) (r : Int)
    (hr : st.retryAt = some r) (ins : List In) (hov : NoOvfRun c trig st ins) (hall : ∀ i ∈ ins, i.interrupted = true)
    (hok : ∀ i ∈ ins, r ≤ i.now1 → i.size.isSome = true ∧ i.head ≠ .err) :
    (p.runLoop trig c st ins).2 = st ∧
    ∀ (k : Nat) (ik : In) (ok : Out), ins[k]? = some ik → (p.runLoop trig c st ins).1[k]? = some ok →
      (ik.now1 < r → ik.now2 + ok.armed = r ∧ ok.calls = []) ∧
      (r ≤ ik.now1 → inBackoff theShape st ik.now1 = false) := by
  rw [trans_runLoop p theShape theShape_wf c hM trig st ins hov]
  exact C15_deadline_not_postponed theShape theShape_wf c trig st r hr ins hall hok

/-- `C15_no_double_fire` for the translated loop over a queue that stores what is pushed: no (job, fire time) is dispatched twice -/
theorem C15_no_double_fire_trans (p : Par) (c : Cfg) (hM : c.M = maxDur) (hthr : 0 ≤ c.thr) (trig : Trig)
    (hmono : ∀ k p t, trig k p = some t → p < t) (q0 : Queue) (hq : (q0.map (·.key)).Nodup) (st0 : BState)
    (ps : List Plan) (hov : NoOvfRunQ c trig ⟨st0, q0⟩ ps) :
    (dispatchLog (p.runQ trig c ⟨st0, q0⟩ ps).1).Nodup := by
  rw [trans_runQ p theShape theShape_wf c hM trig ⟨st0, q0⟩ ps hov]
  exact C15_no_double_fire theShape c hthr trig hmono q0 hq st0 ps

/-- `NoOvf` with its two quantifiers resolved (decidable) -/
def NoOvf' (c : Cfg) (st : BState) (i : In) : Prop :=
  (match st.retryAt with
    | some r => i.now1 < r → satDuration (r - i.now2) = r - i.now2
    | none => True) ∧
  (match i.head with
    | .ok f => f > i.now2 → i64 (f - i.now2) = f - i.now2
    | _ => True) ∧
  i64 (i.nowVal - c.thr) = i.nowVal - c.thr

theorem noOvf_iff (c : Cfg) (st : BState) (i : In) : NoOvf c st i ↔ NoOvf' c st i := by
  unfold NoOvf NoOvf'
  refine and_congr ?_ (and_congr ?_ Iff.rfl)
  · cases st.retryAt <;> simp
  · cases i.head <;> simp

instance (c : Cfg) (st : BState) (i : In) : Decidable (NoOvf' c st i) := by
  unfold NoOvf'
  cases st.retryAt <;> cases i.head <;> simp only <;> infer_instance

instance (c : Cfg) (st : BState) (i : In) : Decidable (NoOvf c st i) :=
  decidable_of_iff _ (noOvf_iff c st i).symm

instance decNoOvfRunQ (c : Cfg) (trig : Trig) : (s : LState) → (ps : List Plan) → Decidable (NoOvfRunQ c trig s ps)
  | _, [] => isTrue trivial
  | s, pl :: ps => by
    unfold NoOvfRunQ
    have := decNoOvfRunQ c trig (Faults.iterQ theShape c trig s pl).2 ps
    infer_instance

instance decNoOvfRun (c : Cfg) (trig : Trig) : (st : BState) → (ins : List In) → Decidable (NoOvfRun c trig st ins)
  | _, [] => isTrue trivial
  | st, i :: is => by
    unfold NoOvfRun
    have := decNoOvfRun c trig (Faults.iter theShape c trig st i).st is
    infer_instance

/-- a configuration whose `M` is `maxTimerDuration` -/
def cfg1 : Cfg := { R := 50, M := maxDur, thr := 100 }

/-- The TRANSLATED loop on the scenario of C15's own example: `Pop()` fails at time 10 (deadline 60); an interrupt at 20 does
    not move the deadline (timer armed with 40, then 39); the loop ticks at 60 and dispatches; no overflow anywhere. -/
example :
    NoOvfRunQ cfg1 trig0 ⟨{}, [⟨1, 5⟩]⟩ plans0 ∧
    (par0.runQ trig0 cfg1 ⟨{}, [⟨1, 5⟩]⟩ plans0).1.map (·.armed) = [0, 40, 39, 0] ∧
    dispatchLog (par0.runQ trig0 cfg1 ⟨{}, [⟨1, 5⟩]⟩ plans0).1 = [(1, 5), (1, 35)] ∧
    (par0.runQ trig0 cfg1 ⟨{}, [⟨1, 5⟩]⟩ plans0).1.map (·.tickErr) = [true, false, false, false] ∧
    (par0.runQ trig0 cfg1 ⟨{}, [⟨1, 5⟩]⟩ plans0).2 = ⟨{ retryAt := some 60 }, [⟨1, 65⟩]⟩ := by
  decide +kernel

/-- the hypotheses of `C15_deadline_not_postponed_trans` are satisfiable: two interrupts before the deadline 60 -/
example :
    let ins : List In := [inOf [⟨1, 5⟩] { Plan.at 20 with interrupted := true }, inOf [⟨1, 5⟩] { Plan.at 30 with interrupted := true }]
    NoOvfRun cfg1 trig0 { retryAt := some 60 } ins ∧ (∀ i ∈ ins, i.interrupted = true) ∧
    (par0.runLoop trig0 cfg1 { retryAt := some 60 } ins).1.map (·.armed) = [40, 30] := by
  decide +kernel

/-- the worker-pool mode and the goroutine mode dispatch as well; the exit case ends the loop -/
example :
    let i := inOf [⟨1, 5⟩] (Plan.at 10)
    (iterT par0.eE par0.eO trig0 cfg1 false 3 .send_dispatch true {} i).dispatched = some ⟨1, 5⟩ ∧
    (iterT par0.eE par0.eO trig0 cfg1 false 0 .recv_ctx_Done true {} i).dispatched = some ⟨1, 5⟩ ∧
    (startExecutionLoop.iter (scriptQ par0.eE par0.eO i) (scriptT trig0) (envOf cfg1 true 0)
      { inpOf i .send_dispatch true with startExecutionLoop_sel1 := .recv_ctx_Done } σ0 (some 7)).2 = (some 7, false) := by
  decide +kernel

/-- the case the model does not have (and `trans_iter` excludes): a worker-pool dispatch that loses against `ctx.Done()`
    pops and reschedules the job but does not run it -/
example :
    let i := inOf [⟨1, 5⟩] (Plan.at 10)
    (iterT par0.eE par0.eO trig0 cfg1 false 3 .recv_ctx_Done true {} i).dispatched = none ∧
    (iterT par0.eE par0.eO trig0 cfg1 false 3 .recv_ctx_Done true {} i).popped = some ⟨1, 5⟩ ∧
    (Faults.iter theShape cfg1 trig0 {} i).dispatched = some ⟨1, 5⟩ := by
  decide +kernel

end TransLoop
