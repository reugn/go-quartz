import QuartzModel.Proofs.TransParseLemmas
import QuartzModel.Theorems.C07
/-!
# The hand-written model of the cron PARSER is the translated Go code

`Generated.TransParse` (regenerated from `quartz/cron.go`, `quartz/util.go`, `quartz/error.go` by `harness/cmd/gotolean-parse`
on every run) contains the translation of the text level of the parser: `ValidateCronExpression`, `NewCronTrigger(WithLoc)`,
`parseCronExpression`, `trimCronExpression`, `buildCronField`, `parseField`, `parseListField`, `parseRangeField`,
`parseStepField`, `parseDayOfMonthField`, `parseDayOfWeekField`, `normalize`, `translateLiteral(s)`, `extract*Values`, the
glossaries, the macro table, the regexp patterns and the error constructors.  The library functions it calls are the
parameter `(X : StrExt)`; here `X := TransParse.modelExt`, the re-implementations of `Cron/Parse.lean`
(**assumption**: Go's `strings.Split/ContainsRune/ToUpper/TrimSpace/TrimSuffix`, `strconv.Atoi`, the five regexps and
`sort.Ints` compute what `Cron.splitOn`, `List.contains`, `Cron.upperChar`, `Cron.trimSpace`, `TransParse.trimSuffix`,
`Cron.atoi`, `Cron.match…`/`Cron.collapseSpace` and insertion sort compute — exercised by the C07 differential run, not proved).

Equivalences (ALL inputs; `Agrees t m f` = the translated result `t` is the model's value `m` through `f` with a nil error,
or — when the model rejects — SOME non-nil error that wraps `ErrCronParse`; fuel ≥ `parseFuel` = 3943 for everything that
reaches `fillRangeValues`/`fillStepValues`):
`trans_translateLiteral`, `trans_normalize`, `trans_translateLiterals`, `trans_extractStepValues`, `trans_extractRangeValues`,
`trans_parseRangeField`, `trans_parseStepField`, `trans_parseListField`, `trans_parseField`, `trans_parseDayOfMonthField`,
`trans_parseDayOfWeekField`, `trans_buildCronField`, `trans_parseCronExpression`, `trans_trimCronExpression`,
`trans_ValidateCronExpression`, `trans_NewCronTriggerWithLoc`, `trans_NewCronTrigger` (proved in `Proofs/TransParseLemmas.lean`,
audited here), `trans_parse_data` (glossaries, macro table, patterns).

Transfers of C07 to the translated code: `parse_wellFormed_trans`, `C07_rejects_field_count_trans`,
`C07_rejects_both_days_trans`, `C07_macros_trans`, `C07_missing_year_trans`, `trans_errors_wrap_ErrCronParse`.

Composition with `TransCron.trans_nextFireTime`: `trans_newTrigger_nextFire` (and the one-equation form
`trans_newTrigger_nextFire_eq`): the translated `NewCronTrigger e` followed by the translated `NextFireTime` is
`Cron.newTrigger e` followed by `Cron.nextFire`.
-/
namespace TransParse
open Generated Generated.TransParse TransRepr

/-- every listed function was translated and every idiom was found in the source -/
theorem trans_parse_nothing_missing : Generated.TransParse.missing = [] := by decide +kernel

/-- the data read from the source is the model's: glossaries, macro table, and each regexp pattern is one the model
interprets (an edited pattern text matches nothing in `modelExt`, which breaks these equations) -/
theorem trans_parse_data :
    months = Cron.monthNames ∧ days = Cron.dayNames ∧ special = Cron.specialTable ∧
    (∀ s, modelExt.reMatch cronLastMonthDayRegex s = Cron.matchLastMonthDay s) ∧
    (∀ s, modelExt.reMatch cronWeekdayRegex s = Cron.matchWeekday s) ∧
    (∀ s, modelExt.reMatch cronLastWeekdayRegex s = Cron.matchLastWeekday s) ∧
    (∀ s, modelExt.reMatch cronHashRegex s = Cron.matchHash s) ∧
    (∀ s, modelExt.reReplaceAll whitespacePattern s [' '] = Cron.collapseSpace s) ∧
    errorCtors.lookup "newCronParseError" = some "ErrCronParse" ∧
    errorCtors.lookup "newInvalidCronFieldError" = some "ErrCronParse" :=
  ⟨months_eq, days_eq, special_eq, fun s => (ext_reMatch _ s).trans (re_lastMonthDay s),
    fun s => (ext_reMatch _ s).trans (re_weekday s), fun s => (ext_reMatch _ s).trans (re_lastWeekday s),
    fun s => (ext_reMatch _ s).trans (re_hash s), fun s => (ext_reReplaceAll _ s _).trans (re_whitespace s),
    errorCtors_cronParse, errorCtors_cronField⟩

/-- `ValidateCronExpression` returns nil exactly when the model's `parse` accepts … -/
theorem trans_validate_accepts (s : Str) (fuel : Nat) (hf : parseFuel ≤ fuel) :
    ValidateCronExpression modelExt s fuel = some none ↔ (Cron.parse {} s).isSome = true := by
  have h := trans_ValidateCronExpression s fuel hf
  cases hm : Cron.parse {} s with
  | none =>
    rw [hm] at h
    obtain ⟨e, he, _⟩ := h
    simp [he]
  | some f => rw [hm] at h; simp [h]

/-- … and otherwise an error that wraps `ErrCronParse` (never out of fuel, never another error) -/
theorem trans_validate_rejects (s : Str) (fuel : Nat) (hf : parseFuel ≤ fuel) (h : Cron.parse {} s = none) :
    ∃ e, ValidateCronExpression modelExt s fuel = some (some e) ∧ wraps e "ErrCronParse" = true := by
  have := trans_ValidateCronExpression s fuel hf
  rw [h] at this
  exact this

/-- every error of the translated `ValidateCronExpression` / `NewCronTrigger` wraps `ErrCronParse` -/
theorem trans_errors_wrap_ErrCronParse (s : Str) (fuel : Nat) (hf : parseFuel ≤ fuel) :
    (∀ e, ValidateCronExpression modelExt s fuel = some (some e) → wraps e "ErrCronParse" = true) ∧
    (∀ ct e, NewCronTrigger modelExt s fuel = some (ct, some e) → wraps e "ErrCronParse" = true) := by
  constructor
  · intro e he
    have h := trans_ValidateCronExpression s fuel hf
    split at h
    · rw [h] at he
      cases he
    · obtain ⟨e', he', hw⟩ := h
      rw [he'] at he
      cases he
      exact hw
  · intro ct e he
    exact (trans_NewCronTrigger s fuel hf).wraps_of_err he

/-- the translated `NewCronTrigger`, on acceptance: the trimmed expression, the model's fields (after the full-wildcard
adjustment) and `lastDefined` -/
theorem trans_newCronTrigger_accepts (s : Str) (fuel : Nat) (hf : parseFuel ≤ fuel) (f : Cron.Fields)
    (h : Cron.newTrigger {} s = some f) :
    ∃ ld, NewCronTrigger modelExt s fuel = some (TransCron.mkTrigger (String.ofList (Cron.trimExpr s)) f ld, none) := by
  unfold Cron.newTrigger at h
  cases hm : Cron.parse {} s with
  | none => rw [hm] at h; cases h
  | some g =>
    rw [hm] at h
    injection h with h; subst h
    exact ⟨_, (trans_NewCronTrigger s fuel hf).ok hm⟩

/-- `parse_wellFormed` / `newTrigger_wellFormed` for the translated code: whatever `NewCronTrigger` accepts has well-formed fields -/
theorem parse_wellFormed_trans (s : Str) (fuel : Nat) (hf : parseFuel ≤ fuel) (ct : TransCron.CronTrigger)
    (h : NewCronTrigger modelExt s fuel = some (ct, none)) :
    ∃ f : Cron.Fields, ct.fields = mkFields f ∧ Cron.WellFormed f = true ∧ Cron.newTrigger {} s = some f := by
  rcases (trans_NewCronTrigger s fuel hf).cases with ⟨g, hm, ht⟩ | ⟨a, e, _, ht, _⟩
  · rw [ht] at h
    injection h with h; injection h with h _; subst h
    exact ⟨Cron.finish g, rfl, Cron.finish_wellFormed (Cron.parse_wellFormed s g hm), by simp [Cron.newTrigger, hm]⟩
  · rw [ht] at h; cases h

/-! The hypotheses of the next three theorems are about the TRANSLATED tokenisation (`mapLookup special`, `modelExt.split` of
`trimCronExpression`), so that they can be read off the Go code. -/

/-- wrong field count is rejected (after whitespace normalisation; macros aside) — for the translated code -/
theorem C07_rejects_field_count_trans (s : Str) (fuel : Nat) (hf : parseFuel ≤ fuel)
    (hm : (mapLookup special (trimCronExpression modelExt s)).2 = false)
    (h : (modelExt.split (trimCronExpression modelExt s) [' ']).length < 6 ∨
         (modelExt.split (trimCronExpression modelExt s) [' ']).length > 7) :
    ∃ e, ValidateCronExpression modelExt s fuel = some (some e) ∧ wraps e "ErrCronParse" = true := by
  rw [trans_trimCronExpression] at hm h
  exact trans_validate_rejects s fuel hf (Cron.C07_rejects_field_count s (lookup_of_mapLookup hm) h)

/-- both day fields set is rejected — for the translated code -/
theorem C07_rejects_both_days_trans (s : Str) (fuel : Nat) (hf : parseFuel ≤ fuel)
    (hm : (mapLookup special (trimCronExpression modelExt s)).2 = false)
    (h3 : strIdx (modelExt.split (trimCronExpression modelExt s) [' ']) 3 ≠ ['?'] ∧
          strIdx (modelExt.split (trimCronExpression modelExt s) [' ']) 3 ≠ ['*'])
    (h5 : strIdx (modelExt.split (trimCronExpression modelExt s) [' ']) 5 ≠ ['?'] ∧
          strIdx (modelExt.split (trimCronExpression modelExt s) [' ']) 5 ≠ ['*']) :
    ∃ e, ValidateCronExpression modelExt s fuel = some (some e) ∧ wraps e "ErrCronParse" = true := by
  rw [trans_trimCronExpression] at hm h3 h5
  -- `strIdx l 3` is `l.getD 3 []` by computation
  exact trans_validate_rejects s fuel hf (Cron.C07_rejects_both_days s (lookup_of_mapLookup hm)
    ⟨Bool.eq_false_iff.2 fun h => ((Cron.anyDay_iff _).1 h).elim h3.1 h3.2,
     Bool.eq_false_iff.2 fun h => ((Cron.anyDay_iff _).1 h).elim h5.1 h5.2⟩)

/-- macros equal their expansions — for the translated code: same fields, same `lastDefined`, both accepted -/
theorem C07_macros_trans (fuel : Nat) (hf : parseFuel ≤ fuel) : ∀ p ∈ special,
    ∃ ct ct' : TransCron.CronTrigger,
      NewCronTrigger modelExt p.1 fuel = some (ct, none) ∧ NewCronTrigger modelExt p.2 fuel = some (ct', none) ∧
      ct.fields = ct'.fields ∧ ct.lastDefined = ct'.lastDefined := by
  intro p hp
  rw [special_eq] at hp
  have hsome : ∀ q ∈ Cron.specialTable, (Cron.parse {} q.2).isSome = true := by decide +kernel
  have h1 := trans_NewCronTrigger p.1 fuel hf
  rw [Cron.C07_macros p hp] at h1
  rcases (trans_NewCronTrigger p.2 fuel hf).cases with ⟨g, hm, h2⟩ | ⟨_, _, hm, _, _⟩
  · rw [hm] at h1
    -- the triggers as constructor terms: `rfl` on `(mkTrigger ..).fields` would first compare the two expression texts
    exact ⟨⟨_, _, _⟩, ⟨_, _, _⟩, h1, h2, rfl, rfl⟩
  · have := hsome p hp
    rw [hm] at this
    cases this

/-- a missing year means every year — for the translated code: the six-field expression and the same text with ` *`
appended are parsed to the same model value -/
theorem C07_missing_year_trans (s : Str) (fuel : Nat) (hf : parseFuel ≤ fuel)
    (hm : (mapLookup special (trimCronExpression modelExt s)).2 = false)
    (h6 : (modelExt.split (trimCronExpression modelExt s) [' ']).length = 6) :
    ∃ m : Option Cron.Fields,
      Agrees (parseCronExpression modelExt (trimCronExpression modelExt s) fuel) m mkFields ∧
      Agrees (parseCronExpression modelExt (trimCronExpression modelExt s ++ [' ', '*']) fuel) m mkFields := by
  rw [trans_trimCronExpression] at hm h6 ⊢
  refine ⟨Cron.parse {} s, trans_parseCronExpression _ fuel hf, ?_⟩
  rw [Cron.C07_missing_year s (lookup_of_mapLookup hm) h6]
  exact trans_parseCronExpression _ fuel hf

section compose
open Generated.TransCron Cron Cal Odo TransCsm TransCron

/-- Go: `ct, err := NewCronTrigger(e); if err != nil { return 0, err }; return ct.NextFireTime(prev)` with the translated
`NewCronTrigger` (`Generated.TransParse`) and the translated `NextFireTime` (`Generated.TransCron`) in the location `L` -/
def goNewThenNext (L : LocExt) (e : List Char) (prev : Int) (fuel : Nat) : Option (Int × Option String) :=
  (NewCronTrigger modelExt e fuel).bind fun r =>
    match r.2 with
    | some err => some (0, some err)
    | none => CronTrigger.NextFireTime goTime goClock L r.1 prev fuel

/-- the same with the hand-written model: `Cron.newTrigger` then `Cron.nextFire` (`none` = the parser rejects) -/
def modelNewThenNext (z : Zone) (e : List Char) (prev : Int) : Option Outcome :=
  (Cron.newTrigger {} e).map fun f => Cron.nextFire {} f z prev

/-- **the translated `NewCronTrigger e` followed by the translated `NextFireTime` is `Cron.newTrigger e` followed by
`Cron.nextFire`**: for every expression string, every location with bounded offsets, every int64 `prev` and every fuel
above `csmFuel`.  On rejection the Go error wraps `ErrCronParse`. -/
theorem trans_newTrigger_nextFire (e : List Char) (z : Zone) (hz : ∀ u, -100000 ≤ z.offsetAt u ∧ z.offsetAt u ≤ 100000)
    (prev : Int) (hmin : -9223372036854775808 ≤ prev) (hmax : prev ≤ 9223372036854775807)
    (fuel : Nat) (hfuel : csmFuel + 1 ≤ fuel) :
    match modelNewThenNext z e prev with
    | some o => goNewThenNext (locOfZone z) e prev fuel = ofOutcome o
    | none => ∃ err, goNewThenNext (locOfZone z) e prev fuel = some (0, some err) ∧ wraps err "ErrCronParse" = true := by
  have hpf : parseFuel ≤ fuel := Nat.le_trans (by decide +kernel) hfuel
  unfold modelNewThenNext goNewThenNext Cron.newTrigger
  rcases (trans_NewCronTrigger e fuel hpf).cases with ⟨g, hm, ht⟩ | ⟨a, err, hm, ht, hw⟩
  · rw [hm, ht]
    exact trans_nextFireTime _ (Cron.finish_wellFormed (Cron.parse_wellFormed e g hm)) z hz _ rfl prev hmin hmax fuel hfuel
  · rw [hm, ht]
    exact ⟨err, rfl, hw⟩

/-- an error value reduced to the sentinel it wraps (`"newX: …"` ↦ the entry of `errorCtors`; a bare sentinel stays) -/
def sentinelOf (e : String) : String := (errorCtors.lookup (errCtor e)).getD e

/-- the model's composite as a Go result: rejection = `(0, ErrCronParse)` -/
def ofNewNext : Option Outcome → Option (Int × Option String)
  | none => some (0, some "ErrCronParse")
  | some o => ofOutcome o

theorem sentinelOf_of_wraps {e : String} (h : wraps e "ErrCronParse" = true) : sentinelOf e = "ErrCronParse" := by
  unfold wraps at h
  unfold sentinelOf
  cases hl : errorCtors.lookup (errCtor e) with
  | none => rw [hl] at h; cases h
  | some s =>
    rw [hl] at h
    simp only [beq_iff_eq, Option.some.injEq] at h
    simp [h]

/-- the same as ONE equation, errors compared by the sentinel they wrap -/
theorem trans_newTrigger_nextFire_eq (e : List Char) (z : Zone) (hz : ∀ u, -100000 ≤ z.offsetAt u ∧ z.offsetAt u ≤ 100000)
    (prev : Int) (hmin : -9223372036854775808 ≤ prev) (hmax : prev ≤ 9223372036854775807)
    (fuel : Nat) (hfuel : csmFuel + 1 ≤ fuel) :
    (goNewThenNext (locOfZone z) e prev fuel).map (fun r => (r.1, r.2.map sentinelOf)) =
      ofNewNext (modelNewThenNext z e prev) := by
  have h := trans_newTrigger_nextFire e z hz prev hmin hmax fuel hfuel
  cases hm : modelNewThenNext z e prev with
  | none =>
    rw [hm] at h
    obtain ⟨err, he, hw⟩ := h
    rw [he]
    simp [ofNewNext, sentinelOf_of_wraps hw]
  | some o =>
    rw [hm] at h
    rw [h]
    have hs : sentinelOf "ErrTriggerExpired" = "ErrTriggerExpired" := by decide +kernel
    cases o <;> simp [ofNewNext, ofOutcome, hs]

end compose

/-- `0 15 10 ? * 6L` as the model parses it -/
def exLastFriday : Cron.Fields :=
  { sec := { values := [0] }, min := { values := [15] }, hour := { values := [10] }, dom := { values := [] },
    month := { values := [] }, dow := { values := [5], n := -1 }, year := { values := [] } }

/-- the hypotheses are satisfiable and the translated parser computes: a documented example through the theorem -/
example : NewCronTrigger modelExt "0 15 10 ? * 6L".toList parseFuel =
    some (TransCron.mkTrigger "0 15 10 ? * 6L" exLastFriday 5, none) := by
  have hm : Cron.parse {} "0 15 10 ? * 6L".toList = some exLastFriday := by decide_parse
  -- the text reaches the theorem through `hm`: applied to the literal, its `Agrees` would be evaluated by the elaborator
  rw [(trans_NewCronTrigger _ parseFuel (Nat.le_refl _)).ok hm]
  decide_text

/-- four rejections through `trans_validate_rejects`: field count, both day fields set, a list member out of range, `#6` -/
example : ∃ e, ValidateCronExpression modelExt "0 0 0 * *".toList parseFuel = some (some e) ∧ wraps e "ErrCronParse" = true :=
  trans_validate_rejects _ _ (Nat.le_refl _) (by decide_parse)
example : ∃ e, ValidateCronExpression modelExt "0 0 0 1 * 2".toList parseFuel = some (some e) ∧ wraps e "ErrCronParse" = true :=
  trans_validate_rejects _ _ (Nat.le_refl _) (by decide_parse)
example : ∃ e, ValidateCronExpression modelExt "0,99 * * * * *".toList parseFuel = some (some e) ∧ wraps e "ErrCronParse" = true :=
  trans_validate_rejects _ _ (Nat.le_refl _) (by decide_parse)
example : ∃ e, ValidateCronExpression modelExt "0 15 10 ? * 6#6".toList parseFuel = some (some e) ∧ wraps e "ErrCronParse" = true :=
  trans_validate_rejects _ _ (Nat.le_refl _) (by decide_parse)

/-- `C07_rejects_field_count_trans` / `C07_rejects_both_days_trans` / `C07_missing_year_trans`: hypotheses satisfiable -/
example : ∃ e, ValidateCronExpression modelExt " 0 0 0 * * ? * * ".toList parseFuel = some (some e) ∧ wraps e "ErrCronParse" = true :=
  C07_rejects_field_count_trans _ _ (Nat.le_refl _) (by decide_text) (Or.inr (by decide_text))
example : ∃ e, ValidateCronExpression modelExt "0 0 0 1 * MON".toList parseFuel = some (some e) ∧ wraps e "ErrCronParse" = true :=
  C07_rejects_both_days_trans _ _ (Nat.le_refl _) (by decide_text) ⟨by decide_text, by decide_text⟩ ⟨by decide_text, by decide_text⟩
example : ∃ m : Option Cron.Fields,
    Agrees (parseCronExpression modelExt (trimCronExpression modelExt "0 0/5 14,18 * JAN-mar ?".toList) parseFuel) m mkFields ∧
    Agrees (parseCronExpression modelExt (trimCronExpression modelExt "0 0/5 14,18 * JAN-mar ?".toList ++ [' ', '*']) parseFuel) m mkFields :=
  C07_missing_year_trans _ _ (Nat.le_refl _) (by decide_text) (by decide_text)

/-- the translated text-level functions compute (small fuel, kernel evaluation) -/
example : normalize modelExt "mAr".toList months = (3, none) := by decide_text
example : (parseField modelExt "dec,1-3,2/5,Jun".toList ⟨1, 12⟩ months 20).map (fun r => (r.1.values, r.2)) =
    some ([1, 2, 2, 3, 6, 7, 12, 12], none) := by decide_text
example : (parseDayOfMonthField modelExt "L-2".toList ⟨1, 31⟩ [] 40).map (fun r => (r.1, r.2)) = some (⟨[], -2⟩, none) := by decide_text
example : (parseDayOfWeekField modelExt "fri#3".toList ⟨1, 7⟩ days 10).map (fun r => (r.1, r.2)) = some (⟨[6], 3⟩, none) := by decide_text
example : trimCronExpression modelExt "  0\t 0/5  14,18\n*   JAN-mar ? \r\n".toList = "0 0/5 14,18 * JAN-mar ?".toList := by decide_text

/- Applied to a text, `trans_newTrigger_nextFire` would have the elaborator run the parser to reduce the `match` of its
statement; below `modelNewThenNext` is unfolded by name instead. -/
attribute [local irreducible] modelNewThenNext

/-- end to end: the spring-forward location of `Theorems/C14.lean`, the expression as TEXT -/
example : goNewThenNext (TransCron.locOfZone Cron.exSpring) "0 30 * * * ?".toList 999000000000000 (Cron.csmFuel + 1) =
    some (1002600000000000, none) := by
  have h := trans_newTrigger_nextFire "0 30 * * * ?".toList Cron.exSpring Cron.exSpring_bounded 999000000000000
    (by decide) (by decide) _ (Nat.le_refl _)
  have hm : modelNewThenNext Cron.exSpring "0 30 * * * ?".toList 999000000000000 =
      some (Cron.nextFire {} Cron.exHalf Cron.exSpring 999000000000000) := by
    have : Cron.newTrigger {} "0 30 * * * ?".toList = some Cron.exHalf := by unfold Cron.newTrigger; decide_parse
    unfold modelNewThenNext
    rw [this]
    rfl
  rw [hm, Cron.exSpring_skip] at h
  exact h

end TransParse

#print axioms TransParse.trans_parse_nothing_missing
#print axioms TransParse.trans_parse_data
#print axioms TransParse.trans_translateLiteral
#print axioms TransParse.trans_normalize
#print axioms TransParse.trans_translateLiterals
#print axioms TransParse.trans_extractStepValues
#print axioms TransParse.trans_extractRangeValues
#print axioms TransParse.trans_parseRangeField
#print axioms TransParse.trans_parseStepField
#print axioms TransParse.trans_parseListField
#print axioms TransParse.trans_parseField
#print axioms TransParse.trans_parseDayOfMonthField
#print axioms TransParse.trans_parseDayOfWeekField
#print axioms TransParse.trans_buildCronField
#print axioms TransParse.trans_parseCronExpression
#print axioms TransParse.trans_trimCronExpression
#print axioms TransParse.trans_ValidateCronExpression
#print axioms TransParse.trans_NewCronTriggerWithLoc
#print axioms TransParse.trans_NewCronTrigger
#print axioms TransParse.trans_validate_accepts
#print axioms TransParse.trans_validate_rejects
#print axioms TransParse.trans_errors_wrap_ErrCronParse
#print axioms TransParse.trans_newCronTrigger_accepts
#print axioms TransParse.parse_wellFormed_trans
#print axioms TransParse.C07_rejects_field_count_trans
#print axioms TransParse.C07_rejects_both_days_trans
#print axioms TransParse.C07_macros_trans
#print axioms TransParse.C07_missing_year_trans
#print axioms TransParse.trans_newTrigger_nextFire
#print axioms TransParse.trans_newTrigger_nextFire_eq
