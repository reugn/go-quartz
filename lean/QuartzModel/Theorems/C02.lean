import QuartzModel.Theorems.C01
/-!
# C02 — `NextFireTime` returns the *earliest* matching instant, and "expired" exactly when none is left

For a well-formed expression and a fixed-offset location: no whole second strictly between `prev`
and the returned value matches the expression; the trigger reports expiry iff no matching instant
after `prev` exists (`Matches` includes `year ≤ lastYear`, i.e. inside the representable range);
iterating therefore enumerates the matching instants in strictly increasing order with none skipped.
-/
namespace Cron
open Cal Odo

theorem C02_minimal (f : Fields) (hwf : WellFormed f = true) (c prev : Int)
    (hc : -100000 ≤ c ∧ c ≤ 100000) (hp : -9223372036854775808 ≤ prev)
    (r : Int) (h : nextFire {} f (fixedZone c) prev = .ok r) :
    ∀ u : Int, prev < u → u < r → u % 1000000000 = 0 →
      ¬ Matches f (Civil.ofSeconds (u / 1000000000 + c)) := by
  intro u hpu hur hu hmu
  obtain ⟨t, ht, rfl⟩ := nextFire_fixed_ok f hwf c prev hc hp r h
  obtain ⟨hm, _, hleast⟩ := csmNext_spec_some f hwf _ t ht
  obtain ⟨hwv, hws⟩ := wall0_valid c prev hc hp
  obtain ⟨huv, hus⟩ := wall0_valid c u hc (by omega)
  have hv := matches_valid f t hm
  have h1 : Civil.lexLt (Civil.ofSeconds (prev / 1000000000 + c)) (Civil.ofSeconds (u / 1000000000 + c)) :=
    (Civil.toSeconds_lt_iff _ _ hwv huv).mp (by omega)
  have h2 : Civil.lexLt (Civil.ofSeconds (u / 1000000000 + c)) t :=
    (Civil.toSeconds_lt_iff _ _ huv hv).mp (by omega)
  exact hleast _ hmu h1 h2

theorem C02_expired_iff (f : Fields) (hwf : WellFormed f = true) (c prev : Int)
    (hc : -100000 ≤ c ∧ c ≤ 100000) (hp : -9223372036854775808 ≤ prev) :
    nextFire {} f (fixedZone c) prev = .expired ↔
      ¬ ∃ u : Int, prev < u ∧ u % 1000000000 = 0 ∧
        Matches f (Civil.ofSeconds (u / 1000000000 + c)) := by
  constructor
  · intro h
    have hnone := csmNext_spec_none f hwf _ (nextFire_fixed_expired f hwf c prev hc hp h)
    rintro ⟨u, hpu, hu, hmu⟩
    obtain ⟨hwv, hws⟩ := wall0_valid c prev hc hp
    obtain ⟨huv, hus⟩ := wall0_valid c u hc (by omega)
    exact hnone ⟨_, hmu, (Civil.toSeconds_lt_iff _ _ hwv huv).mp (by omega)⟩
  · intro hno
    obtain ⟨nw, _, hnf⟩ := nextFire_fixed f hwf c prev hc hp
    cases nw with
    | none => exact hnf
    | some t =>
      exfalso
      obtain ⟨h1, h2, h3⟩ := C01_sound f hwf c prev hc hp _ hnf
      exact hno ⟨_, h2, h1, h3⟩

/-- iterating enumerates the matching instants in strictly increasing order, none skipped -/
theorem C02_chain (f : Fields) (hwf : WellFormed f = true) (c prev : Int)
    (hc : -100000 ≤ c ∧ c ≤ 100000) (hp : -9223372036854775808 ≤ prev)
    (r r' : Int) (h : nextFire {} f (fixedZone c) prev = .ok r)
    (h' : nextFire {} f (fixedZone c) r = .ok r') :
    r < r' ∧ ∀ u : Int, r < u → u < r' → u % 1000000000 = 0 →
      ¬ Matches f (Civil.ofSeconds (u / 1000000000 + c)) := by
  have hpr := (C01_sound f hwf c prev hc hp r h).2.1
  have hr0 : -9223372036854775808 ≤ r := by omega
  exact ⟨(C01_sound f hwf c r hc hr0 r' h').2.1, C02_minimal f hwf c r hc hr0 r' h'⟩

/-- `C02_minimal` / `C02_chain` on `0 0 12 * * ?`: noon on day 1, then noon on day 2 -/
theorem exNoon_second :
    nextFire {} exNoon (fixedZone 0) 43200000000000 = .ok 129600000000000 := by decide +kernel

example : ∀ u : Int, 0 < u → u < 43200000000000 → u % 1000000000 = 0 →
    ¬ Matches exNoon (Civil.ofSeconds (u / 1000000000 + 0)) :=
  C02_minimal exNoon exNoon_wf 0 0 (by omega) (by omega) _ exNoon_first

example : (43200000000000 : Int) < 129600000000000 ∧
    ∀ u : Int, 43200000000000 < u → u < 129600000000000 → u % 1000000000 = 0 →
      ¬ Matches exNoon (Civil.ofSeconds (u / 1000000000 + 0)) :=
  C02_chain exNoon exNoon_wf 0 0 (by omega) (by omega) _ _ exNoon_first exNoon_second

/-- `0 0 12 * * ? 1970` — only in 1970 -/
def exNoon1970 : Fields := { exNoon with year := ⟨[1970], 0⟩ }

theorem exNoon1970_wf : WellFormed exNoon1970 = true := by decide

/-- both sides of `C02_expired_iff` hold on an instance: after 2001-09-09T01:46:40Z nothing in 1970 is
    left (the right-hand side is proved directly, then the theorem yields expiry) -/
example : nextFire {} exNoon1970 (fixedZone 0) 1000000000000000000 = .expired := by
  rw [C02_expired_iff exNoon1970 exNoon1970_wf 0 _ (by omega) (by omega)]
  rintro ⟨u, hpu, _, hm⟩
  have hy : memOrAny [1970] (Civil.ofSeconds (u / 1000000000 + 0)).year := hm.2.2.2.2.2.2.2.2.2.1
  have hmono := Civil.ofSeconds_year_mono 1000000000 (u / 1000000000 + 0)
    (by show -((719529 : Nat) : Int) * 86400 + 86400 ≤ _; omega) (by omega)
  have e : (Civil.ofSeconds 1000000000).year = 2001 := by decide +kernel
  rw [e] at hmono
  rcases hy with hy | hy
  · cases hy
  · simp only [List.mem_singleton] at hy
    omega

/-- and both sides fail on an instance: a result exists, so the trigger is not expired -/
example : ¬ (nextFire {} exNoon (fixedZone 0) 0 = .expired) ∧
    ∃ u : Int, 0 < u ∧ u % 1000000000 = 0 ∧ Matches exNoon (Civil.ofSeconds (u / 1000000000 + 0)) := by
  constructor
  · rw [exNoon_first]; exact fun h => by cases h
  · exact ⟨43200000000000, by omega, by omega,
      (C01_sound exNoon exNoon_wf 0 0 (by omega) (by omega) _ exNoon_first).2.2⟩

theorem exEvery_zero : nextFire {} exEvery (fixedZone 0) 0 = .ok 1000000000 := by decide +kernel

/-- `C02_minimal` at a negative `prev`: nothing matching strictly between −0.5 s and the epoch -/
example : ∀ u : Int, -500000000 < u → u < 0 → u % 1000000000 = 0 →
    ¬ Matches exEvery (Civil.ofSeconds (u / 1000000000 + 0)) :=
  C02_minimal exEvery exEvery_wf 0 (-500000000) (by omega) (by omega) _ exEvery_neg

/-- `C02_minimal` with both ends before 1970 -/
example : ∀ u : Int, -86400000000001 < u → u < -43200000000000 → u % 1000000000 = 0 →
    ¬ Matches exNoon (Civil.ofSeconds (u / 1000000000 + 0)) :=
  C02_minimal exNoon exNoon_wf 0 (-86400000000001) (by omega) (by omega) _ exNoon_neg

/-- `C02_chain` from a negative `prev`: the epoch, then 1 s -/
example : (0 : Int) < 1000000000 ∧ ∀ u : Int, 0 < u → u < 1000000000 → u % 1000000000 = 0 →
    ¬ Matches exEvery (Civil.ofSeconds (u / 1000000000 + 0)) :=
  C02_chain exEvery exEvery_wf 0 (-500000000) (by omega) (by omega) _ _ exEvery_neg exEvery_zero

/-- `C02_expired_iff` at a negative `prev`: a match is left, so the trigger is not expired -/
example : ¬ (nextFire {} exEvery (fixedZone 0) (-500000000) = .expired) := by
  rw [C02_expired_iff exEvery exEvery_wf 0 (-500000000) (by omega) (by omega)]
  exact fun h => h ⟨0, by omega, by omega,
    (C01_sound exEvery exEvery_wf 0 (-500000000) (by omega) (by omega) _ exEvery_neg).2.2⟩

end Cron
