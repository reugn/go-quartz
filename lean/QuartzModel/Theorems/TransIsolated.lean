import QuartzModel.Generated.TransLogger
import QuartzModel.Theorems.C17
/-!
# The translated isolated job (`Generated.TransLogger`: `isolatedJob.Execute`, `NewIsolatedJob`, regenerated from /repo/job/isolated_job.go
# by `harness/cmd/gotolean-logger`) performs the per-thread program of the hand-written model `Jobs.Isolated`

* `trans_isolated_call` : one `Execute` call in closed form, for every environment (Swap(true); busy error | delegate; Store(false) on EVERY exit)
* `pcStep` / `pcRun` : the model's per-thread program as an acceptor of events; `pcStep_is_Step` : every accepted event IS a `Step true`
* `trans_execute_program` : the event sequence of one translated call is accepted, ends where the model says, with the model's result
* transfers: `C17_fail_fast_trans`, `C17_fail_fast_steps`, `C17_reopens_trans`; `trans_isolated_facts` (the extractor's string facts are implied)
-/
set_option autoImplicit false

namespace TransLogger
open Generated.TransLogger

variable {W A : Type}

/-- nothing of job/isolated_job.go is untranslated (an untranslatable change of package logger does not touch this one) -/
theorem trans_isolated_nothing_missing : Generated.TransLogger.missingJob = [] := rfl

section Isolated
open Jobs.Isolated

/-- the constructor keeps the job it was handed (whatever it is) and nothing else; the flag is not mentioned: it starts false
(idiom `ctor-isolatedJob`) -/
theorem trans_NewIsolatedJob (u : Option Ref) : NewIsolatedJob u = { Job := u } := rfl

/-- the error of a refused call -/
def busyErr : Option Err := some ⟨"job is running"⟩

/-- **one call of `(*isolatedJob).Execute`, in closed form**, for EVERY environment: one atomic `Swap(true)`; if it answers `true` the
call returns `errors.New("job is running")` and does nothing else (no delegate, NO store); otherwise the delegate runs once with the
caller's context, then `Store(false)` runs — whether the delegate returned nil, returned an error or PANICKED — and the delegate's own
outcome (its error, its panic) is what the caller gets. -/
theorem trans_isolated_call [Inhabited A] (X : Ext W A) (σ : St W A) (j : isolatedJob) (ctx : Option Ref) :
    isolatedJob.Execute X σ j ctx =
      if (X.swap σ.world "j.isRunning" true).2 = true then
        ({ world := (X.swap σ.world "j.isRunning" true).1, out := σ.out ++ [.swap "j.isRunning" true true] }, .returned busyErr)
      else
        ({ world := X.store (X.execute (X.swap σ.world "j.isRunning" true).1 j.Job ctx).1 "j.isRunning" false,
           out := σ.out ++ [.swap "j.isRunning" true false,
                            .execute j.Job ctx (X.execute (X.swap σ.world "j.isRunning" true).1 j.Job ctx).2,
                            .store "j.isRunning" false] },
         (X.execute (X.swap σ.world "j.isRunning" true).1 j.Job ctx).2) := by
  unfold isolatedJob.Execute isolatedJob.Execute.body
  simp only [St.swap, St.execute, St.store, busyErr]
  by_cases h : (X.swap σ.world "j.isRunning" true).2 = true
  · simp [h]
  · simp only [Bool.eq_false_iff.mpr h, Bool.false_eq_true, if_false]
    cases (X.execute (X.swap σ.world "j.isRunning" true).1 j.Job ctx).2 <;> simp

/-- how the delegate was left, in the model's terms -/
def exitOf : CallResult (Option Err) → Exit
  | .returned none => .ok
  | .returned (some _) => .err
  | .panicked => .panic

/-- **the per-thread program of the hand model**, as an acceptor of events: which atomic action a thread at program counter `pc` may
perform, and where it goes (`none`: the model's thread cannot do this here).  `Swap` must write `true`, `Store` must write `false`. -/
def pcStep : PC → Event A → Option PC
  | .idle, .swap _ true old => some (if old then .rejected else .running)
  | .running, .execute _ _ r => some (.exiting (exitOf r))
  | .exiting e, .store _ false => some (.finished (.delegated e))
  | _, _ => none

def pcRun : PC → List (Event A) → Option PC
  | pc, [] => some pc
  | pc, e :: es => (pcStep pc e).bind (fun pc' => pcRun pc' es)

/-- what an event does to the shared flag -/
def flagAfter (flag : Bool) : Event A → Bool
  | .swap _ v _ => v
  | .store _ v => v
  | _ => flag

/-- **every accepted event IS a `Step true` of the model**: at any global state `s` in which thread `t` is at `pc`, provided a `Swap`
answered the flag's real value (one atomic read-modify-write), performing the event — flag effect `flagAfter`, thread `t` moves to the
accepted `pc'`, nobody else moves — is a step of `Jobs.Isolated.Step true`. -/
theorem pcStep_is_Step {n : Nat} (s : State n) (t : Fin n) (ev : Event A) (pc' : PC) (h : pcStep (s.pc t) ev = some pc')
    (hsw : ∀ f v old, ev = .swap f v old → old = s.flag) :
    Step true s t { flag := flagAfter s.flag ev, pc := setPc s.pc t pc' } := by
  unfold pcStep at h
  split at h <;> cases h
  next f old hpc =>
    obtain rfl := hsw f true old rfl
    exact Step.swap s t hpc
  next _ _ r hpc => exact Step.leave s t (exitOf r) hpc (.inl rfl)
  next e _ hpc => exact Step.store s t e hpc

/-- the events one call adds to the record -/
def isoEvents [Inhabited A] (X : Ext W A) (σ : St W A) (j : isolatedJob) (ctx : Option Ref) : List (Event A) :=
  (isolatedJob.Execute X σ j ctx).1.out.drop σ.out.length

theorem isoEvents_eq [Inhabited A] (X : Ext W A) (σ : St W A) (j : isolatedJob) (ctx : Option Ref) :
    isoEvents X σ j ctx =
      if (X.swap σ.world "j.isRunning" true).2 = true then [.swap "j.isRunning" true true]
      else [.swap "j.isRunning" true false, .execute j.Job ctx (X.execute (X.swap σ.world "j.isRunning" true).1 j.Job ctx).2,
            .store "j.isRunning" false] := by
  unfold isoEvents
  rw [trans_isolated_call]
  split <;> simp

/-- **the sequence of atomic actions of one translated `Execute` call is a run of the model's per-thread program**, from `idle`:
either `swap(true)→true` ending in `rejected` (whose only step is `Step.refuse`: return the error `busy`), with the Go result
`errors.New("job is running")`; or `swap(true)→false, delegate, store(false)` ending in `finished (delegated e)` with `e` the way the
delegate was left — and the Go result is the delegate's own.  Nothing else is possible, for any environment. -/
theorem trans_execute_program [Inhabited A] (X : Ext W A) (σ : St W A) (j : isolatedJob) (ctx : Option Ref) :
    (isoEvents X σ j ctx = [.swap "j.isRunning" true true] ∧
      pcRun .idle (isoEvents X σ j ctx) = some .rejected ∧ (isolatedJob.Execute X σ j ctx).2 = .returned busyErr) ∨
    (∃ res, isoEvents X σ j ctx = [.swap "j.isRunning" true false, .execute j.Job ctx res, .store "j.isRunning" false] ∧
      pcRun .idle (isoEvents X σ j ctx) = some (.finished (.delegated (exitOf res))) ∧
      (isolatedJob.Execute X σ j ctx).2 = res) := by
  rw [isoEvents_eq, trans_isolated_call]
  split
  · exact .inl ⟨rfl, rfl, rfl⟩
  · exact .inr ⟨_, rfl, rfl, rfl⟩

/-- `C17_fail_fast` for the translated code: a call whose `Swap` finds the flag set does not invoke the delegate, does not touch the flag
again, and returns the error; conversely the delegate is only ever invoked after a `Swap` that found the flag clear. -/
theorem C17_fail_fast_trans [Inhabited A] (X : Ext W A) (σ : St W A) (j : isolatedJob) (ctx : Option Ref) :
    ((X.swap σ.world "j.isRunning" true).2 = true →
      isoEvents X σ j ctx = [.swap "j.isRunning" true true] ∧ (isolatedJob.Execute X σ j ctx).2 = .returned busyErr) ∧
    (∀ jb c r, Event.execute jb c r ∈ isoEvents X σ j ctx →
      (X.swap σ.world "j.isRunning" true).2 = false ∧ isoEvents X σ j ctx = [.swap "j.isRunning" true false, .execute jb c r, .store "j.isRunning" false]) := by
  rw [isoEvents_eq, trans_isolated_call]
  split
  · next h => simp [h]
  · next h =>
    refine ⟨fun h' => absurd h' h, fun jb c r hm => ?_⟩
    simp at hm
    obtain ⟨rfl, rfl, rfl⟩ := hm
    exact ⟨by simpa using h, rfl⟩

/-- the model's `C17_fail_fast`, instantiated on the steps the translated events denote: at a state where the flag is set, the call's
first event moves the thread to `rejected` and leaves the flag set; nobody else moves -/
theorem C17_fail_fast_steps {n : Nat} (s : State n) (t : Fin n) (hidle : s.pc t = .idle) (hflag : s.flag = true) :
    let ev : Event A := .swap "j.isRunning" true s.flag
    ∃ s', Step true s t s' ∧ s' = { flag := flagAfter s.flag ev, pc := setPc s.pc t .rejected } ∧
      s'.pc t = .rejected ∧ s'.flag = true ∧ ∀ u, u ≠ t → s'.pc u = s.pc u := by
  intro ev
  have hp : pcStep (A := A) (s.pc t) ev = some .rejected := by rw [hidle]; simp [ev, pcStep, hflag]
  have st := pcStep_is_Step s t ev .rejected hp (by intro f v old h; simp only [ev, Event.swap.injEq] at h; exact h.2.2.symm)
  have ff := C17_fail_fast st
  exact ⟨_, st, rfl, (ff.1 hidle hflag).1, (ff.1 hidle hflag).2, ff.2.2.2⟩

/-- `C17_reopens` for the translated code: whenever the delegate was invoked, the LAST event of the call is `Store(false)` — whether the
delegate returned nil, an error, or panicked -/
theorem C17_reopens_trans [Inhabited A] (X : Ext W A) (σ : St W A) (j : isolatedJob) (ctx : Option Ref)
    (h : (X.swap σ.world "j.isRunning" true).2 = false) :
    (isoEvents X σ j ctx).getLast? = some (.store "j.isRunning" false) ∧
    (isolatedJob.Execute X σ j ctx).1.world = X.store (X.execute (X.swap σ.world "j.isRunning" true).1 j.Job ctx).1 "j.isRunning" false := by
  rw [isoEvents_eq, trans_isolated_call]
  simp [h]

/-- the string facts of the extractor (`C17_facts : generatedShape = {}`) are IMPLIED by the translated code: statement order and
deferred store = `trans_isolated_call`; the constructor = `trans_NewIsolatedJob`; the remaining three (uses of the flag, its type, the
number of methods) are re-derived by the translator's own idiom checks and agree with the extractor's -/
theorem trans_isolated_facts :
    Generated.TransLogger.flagUses = Generated.Isolated.flagUses ∧ Generated.TransLogger.flagType = Generated.Isolated.flagType ∧
    Generated.TransLogger.isolatedMethods.length = Generated.Isolated.numMethods ∧
    Generated.TransLogger.flagUses = ({} : SourceShape).flagUses ∧ Generated.TransLogger.flagType = ({} : SourceShape).flagType ∧
    Generated.TransLogger.isolatedMethods.length = ({} : SourceShape).numMethods :=
  ⟨rfl, rfl, rfl, rfl, rfl, rfl⟩

/-- a world that IS the flag; the delegate's outcome is a parameter -/
def flagExt (r : CallResult (Option Err)) : Ext Bool String :=
  { isoBase with swap := fun w _ v => (v, w), store := fun _ _ v => v, execute := fun w _ _ => (w, r) }
where isoBase : Ext Bool String :=
  { output := fun w _ _ _ => (w, .returned none), enabled := fun w _ _ _ => (w, true), handle := fun w _ _ _ => (w, .returned none),
    swap := fun w _ _ => (w, false), store := fun w _ _ => w, execute := fun w _ _ => (w, .returned none) }

/-- a panicking delegate: swap, execute, store — the flag is clear afterwards and the panic propagates -/
example :
    let r := isolatedJob.Execute (flagExt .panicked) { world := false } (NewIsolatedJob (some 9)) none
    r.1.out = [.swap "j.isRunning" true false, .execute (some 9) none .panicked, .store "j.isRunning" false] ∧
    r.1.world = false ∧ r.2 = .panicked := by decide +kernel

/-- a call while the flag is set: one swap, the error, the flag stays set -/
example :
    let r := isolatedJob.Execute (flagExt (.returned none)) { world := true } (NewIsolatedJob (some 9)) none
    r.1.out = [.swap "j.isRunning" true true] ∧ r.1.world = true ∧ r.2 = .returned busyErr := by decide +kernel

/-- the three events of the panicking call are accepted by the model's per-thread program and end in `finished (delegated panic)` -/
example : pcRun (A := String) .idle [.swap "j.isRunning" true false, .execute (some 9) none .panicked, .store "j.isRunning" false] =
    some (.finished (.delegated .panic)) := by decide +kernel

end Isolated

end TransLogger
