import QuartzModel.Concurrency.Lock
import QuartzModel.Theorems.C11
import QuartzModel.Generated.Facts
/-!
# C11, "thread-safe": every concurrent history of calls on the default queue is equivalent to a
sequential order of the calls, and the queue a thread finds when it gets the lock is a heap with unique keys

`Lock.linearizable` (threads whose multi-step bodies run entirely under one mutex, ANY schedule) is
instantiated with the methods of `jobQueue`. Its premise for the real code is regenerated from
`quartz/queue.go` on every run (`Generated.Queue.lockShape` …): every exported method of `jobQueue` is
`jq.mtx.Lock(); defer jq.mtx.Unlock(); …`, mentions the mutex nowhere else, starts no goroutine and builds
no closure; the heap array `delegate` is touched by those methods and by the helper `scheduledJobs` only,
and that helper is called by locked methods only.

`Push` is modelled as a body of three micro-steps (search, `heap.Remove`, `heap.Push`) — the places where a
missing lock would let another thread in; `pushOp_run` shows that the uninterrupted body is `qpush`.
-/
namespace Queue
open Lock

/-- every exported method of the default queue runs under the queue's mutex from its first statement to its return -/
theorem C11_queue_lock_facts :
    Generated.Queue.lockShape =
      [("Clear", "locked"), ("Get", "locked"), ("Head", "locked"), ("Pop", "locked"), ("Push", "locked"),
       ("Remove", "locked"), ("ScheduledJobs", "locked"), ("Size", "locked")] := rfl

/-- the heap array is touched by the queue's own methods only (the extractor marks any other user with `!`), and the one unlocked helper among them is
called by locked methods only -/
theorem C11_queue_array_confined :
    Generated.Queue.delegateUsers =
      ["Clear", "Get", "Head", "Pop", "Push", "Remove", "ScheduledJobs", "Size", "scheduledJobs"] ∧
    Generated.Queue.helperCallers = [("scheduledJobs", "Push,Remove,ScheduledJobs")] ∧
    Generated.Queue.queueMethodSet =
      ["Clear", "Get", "Head", "Pop", "Push", "Remove", "ScheduledJobs", "Size", "scheduledJobs"] :=
  ⟨rfl, rfl, rfl⟩

inductive QCall where
  | push (e : Entry) | pop | head | get (g n : String) | remove (g n : String)
  | list (ms : List Matcher) | size | clear
deriving Repr

inductive QRes where
  | ok | err (e : QErr) | entry (e : Entry) | entries (l : List Entry) | size (n : Nat)
deriving DecidableEq, Repr

/-- the sequential specification: one call on the queue model -/
def qcall (a : Arr) : QCall → Arr × QRes
  | .push e => match qpush a e with | .ok a' => (a', .ok) | .error x => (a, .err x)
  | .pop => match qpop a with | .ok (a', e) => (a', .entry e) | .error x => (a, .err x)
  | .head => match qhead a with | .ok e => (a, .entry e) | .error x => (a, .err x)
  | .get g n => match qget a g n with | .ok e => (a, .entry e) | .error x => (a, .err x)
  | .remove g n => match qremove a g n with | .ok (a', e) => (a', .entry e) | .error x => (a, .err x)
  | .list ms => (a, .entries (qlist a ms))
  | .size => (a, .size a.size)
  | .clear => (#[], .ok)

structure QLoc where
  res : QRes := .ok
  idx : Option Nat := none
  stop : Bool := false

/-- `jobQueue.Push`, statement by statement: the linear search, `heap.Remove` (or the early return), `heap.Push` -/
def pushSteps (e : Entry) : List (Arr → QLoc → Arr × QLoc) :=
  [ fun a l => (a, { l with idx := findIdx a e.group e.name }),
    fun a l => match l.idx with
      | some i => if e.replace then ((hremove a i).1, l) else (a, { l with res := .err .jobAlreadyExists, stop := true })
      | none => (a, l),
    fun a l => if l.stop then (a, l) else (hpush a e, l) ]

def single (c : QCall) : List (Arr → QLoc → Arr × QLoc) :=
  [fun a l => ((qcall a c).1, { l with res := (qcall a c).2 })]

def qcallOp : QCall → Lock.Op Arr QLoc QRes
  | .push e => { init := {}, result := fun l => l.res, steps := pushSteps e }
  | c => { init := {}, result := fun l => l.res, steps := single c }

theorem pushOp_run (a : Arr) (e : Entry) : (qcallOp (.push e)).run a = qcall a (.push e) := by
  simp only [qcallOp, Lock.Op.run, runSteps, pushSteps, List.foldl, qcall, qpush]
  cases h : findIdx a e.group e.name with
  | none => simp
  | some i =>
    by_cases hr : e.replace = true <;> simp [hr]

theorem qcallOp_run (a : Arr) (c : QCall) : (qcallOp c).run a = qcall a c := by
  cases c with
  | push e => exact pushOp_run a e
  | _ => rfl

/-- the queue after running the calls `order` one after another -/
def seqQueue (calls : Nat → QCall) (a0 : Arr) (order : List Nat) : Arr :=
  order.foldl (fun a i => (qcall a (calls i)).1) a0

theorem seqState_eq (calls : Nat → QCall) (a0 : Arr) (order : List Nat) :
    seqState (fun i => qcallOp (calls i)) a0 order = seqQueue calls a0 order := by
  unfold seqState seqQueue
  congr 1
  funext a i
  rw [qcallOp_run]

/-- **C11 (thread-safe).** For any assignment of calls to threads and any schedule of their micro-steps: whenever the
mutex is free the queue is the one produced by running the calls one after another in lock-acquisition order, and every
completed call returned what the sequential specification `qcall` returns at its place in that order. -/
theorem C11_linearizable (calls : Nat → QCall) (a0 : Arr) (sched : List Nat) :
    let σ := exec (fun i => qcallOp (calls i)) (init a0) sched
    (σ.holder = none → σ.shared = seqQueue calls a0 σ.order) ∧
    (∀ i r, σ.th i = .done r → ∃ pre post, σ.order = pre ++ i :: post ∧
        r = (qcall (seqQueue calls a0 pre) (calls i)).2) := by
  intro σ
  have h := linearizable (fun i => qcallOp (calls i)) a0 sched
  refine ⟨fun hh => by rw [← seqState_eq]; exact h.1 hh, ?_⟩
  intro i r hd
  obtain ⟨pre, post, ho, hr⟩ := h.2 i r hd
  refine ⟨pre, post, ho, ?_⟩
  rw [hr, seqResult, seqState_eq, qcallOp_run]

theorem qcall_inv (a0 : Arr) (c : QCall) (h0 : Inv a0) : Inv (qcall a0 c).1 := by
  cases c with
  | push e =>
    simp only [qcall]
    split
    · exact qpush_inv a0 _ e h0 ‹_›
    · exact h0
  | pop =>
    simp only [qcall]
    split
    · exact qpop_inv a0 _ _ h0 ‹_›
    · exact h0
  | remove g n =>
    simp only [qcall]
    split
    · exact qremove_inv a0 _ g n _ h0 ‹_›
    · exact h0
  | clear => exact inv_empty
  | head => simp only [qcall]; split <;> exact h0
  | get g n => simp only [qcall]; split <;> exact h0
  | list ms => exact h0
  | size => exact h0

theorem seqQueue_inv (calls : Nat → QCall) (a0 : Arr) (h0 : Inv a0) (order : List Nat) :
    Inv (seqQueue calls a0 order) :=
  List.foldlRecOn order _ h0 fun a h i _ => qcall_inv a (calls i) h

/-- **C11 (thread-safe, invariant).** Under any schedule, whenever the mutex is free the queue is a heap with unique keys:
no interleaving of Push / Pop / Remove / Clear / reads can tear it. -/
theorem C11_concurrent_inv (calls : Nat → QCall) (sched : List Nat) :
    let σ := exec (fun i => qcallOp (calls i)) (init (#[] : Arr)) sched
    σ.holder = none → Inv σ.shared := by
  intro σ hh
  rw [(C11_linearizable calls #[] sched).1 hh]
  exact seqQueue_inv calls #[] inv_empty _

/-- non-vacuity: a replacing Push racing with a Pop and a Get on a two-entry queue, micro-steps interleaved; all three
calls complete, in lock-acquisition order 0, 1, 2 -/
example :
    let calls : Nat → QCall := fun i =>
      if i = 0 then .push { group := "g", name := "b", prio := 1, replace := true, tag := 9 }
      else if i = 1 then .pop else .get "g" "a"
    let a0 : Arr := #[{ group := "g", name := "a", prio := 5, tag := 1 }, { group := "g", name := "b", prio := 7, tag := 2 }]
    let σ := exec (fun i => qcallOp (calls i)) (init a0) [0, 1, 0, 2, 0, 1, 0, 0, 1, 1, 1, 2, 2, 2]
    σ.order = [0, 1, 2] ∧ σ.holder = none := by
  decide +kernel

end Queue
