import QuartzModel.Theorems.C01
/-!
# C06 — `NextFireTime` terminates with a definite answer

For a well-formed expression and a fixed-offset location the model of `NextFireTime` (which carries
an explicit fuel bound in place of Go's unbounded loops) never runs out of fuel: it returns a value
strictly after `prev`, or reports expiry. The search is a single call of the state machine — the
retry loop that exists for DST transitions returns on its first iteration.
-/
namespace Cron
open Cal Odo

/-- the search is one call of the state machine for a fixed-offset location (the DST retry loop
    returns at once) -/
theorem C06_single_pass (f : Fields) (hwf : WellFormed f = true) (c prev : Int)
    (hc : -100000 ≤ c ∧ c ≤ 100000) (hp : -9223372036854775808 ≤ prev) :
    ∃ nw, csmNext {} f (Civil.ofSeconds (prev / 1000000000 + c)) = some nw ∧
      nextFire {} f (fixedZone c) prev =
        (match nw with
         | none => .expired
         | some t => .ok ((t.toSeconds - c) * 1000000000)) :=
  nextFire_fixed f hwf c prev hc hp

theorem C06_total (f : Fields) (hwf : WellFormed f = true) (c prev : Int)
    (hc : -100000 ≤ c ∧ c ≤ 100000) (hp : -9223372036854775808 ≤ prev) :
    (∃ r, nextFire {} f (fixedZone c) prev = .ok r ∧ prev < r) ∨
      nextFire {} f (fixedZone c) prev = .expired := by
  obtain ⟨nw, _, hnf⟩ := nextFire_fixed f hwf c prev hc hp
  cases nw with
  | none => exact Or.inr hnf
  | some t => exact Or.inl ⟨_, hnf, (C01_sound f hwf c prev hc hp _ hnf).2.1⟩

theorem nextFire_ne_outOfFuel (f : Fields) (hwf : WellFormed f = true) (c prev : Int)
    (hc : -100000 ≤ c ∧ c ≤ 100000) (hp : -9223372036854775808 ≤ prev) :
    nextFire {} f (fixedZone c) prev ≠ .outOfFuel := by
  rcases C06_total f hwf c prev hc hp with ⟨r, h, _⟩ | h <;> rw [h] <;> exact fun h => by cases h

/-- the hypotheses are satisfiable; on `0 0 12 * * ?` from the epoch the first alternative holds -/
example : (∃ r, nextFire {} exNoon (fixedZone 0) 0 = .ok r ∧ 0 < r) ∨
    nextFire {} exNoon (fixedZone 0) 0 = .expired :=
  C06_total exNoon exNoon_wf 0 0 (by omega) (by omega)

example : ∃ r, nextFire {} exNoon (fixedZone 0) 0 = .ok r ∧ 0 < r :=
  ⟨43200000000000, exNoon_first, by omega⟩

/-- a start far beyond the node range (year 33658, where the year digit exceeds every bound used in
    the fuel argument) still gets a definite answer -/
example : nextFire {} exNoon (fixedZone 0) 1000000000000000000000 ≠ .outOfFuel :=
  nextFire_ne_outOfFuel exNoon exNoon_wf 0 _ (by omega) (by omega)

example : ∃ nw, csmNext {} exNoon (Civil.ofSeconds (0 / 1000000000 + 0)) = some nw ∧
    nextFire {} exNoon (fixedZone 0) 0 =
      (match nw with
       | none => .expired
       | some t => .ok ((t.toSeconds - 0) * 1000000000)) :=
  C06_single_pass exNoon exNoon_wf 0 0 (by omega) (by omega)

example : (∃ r, nextFire {} exEvery (fixedZone 0) (-500000000) = .ok r ∧ -500000000 < r) ∨
    nextFire {} exEvery (fixedZone 0) (-500000000) = .expired :=
  C06_total exEvery exEvery_wf 0 (-500000000) (by omega) (by omega)

/-- the smallest `prev` Go can pass (`math.MinInt64` ns, the year 1677) -/
example : nextFire {} exNoon (fixedZone 0) (-9223372036854775808) ≠ .outOfFuel :=
  nextFire_ne_outOfFuel exNoon exNoon_wf 0 _ (by omega) (by omega)

example : ∃ nw, csmNext {} exEvery (Civil.ofSeconds (-500000000 / 1000000000 + 0)) = some nw ∧
    nextFire {} exEvery (fixedZone 0) (-500000000) =
      (match nw with
       | none => .expired
       | some t => .ok ((t.toSeconds - 0) * 1000000000)) :=
  C06_single_pass exEvery exEvery_wf 0 (-500000000) (by omega) (by omega)

end Cron
