import QuartzModel.Proofs.SchedLemmas
/-!
# C09 (sequential part) — the registry API

"keys are unique unless Replace is set, each call returns its documented sentinel error exactly when
its precondition fails, and a call that returns an error leaves the registry unchanged."

Model: `QuartzModel/Sched/Model.lean` (`schedule`, `delete`, `pause`, `resume`, `clear`) over the
default-queue model.  The registry is `SState.q`; trigger objects (`SState.trigs`) may change state in
a failing call (a trigger that was asked has been asked), the registry may not.
`Inv` (heap order + pairwise distinct keys) holds in every reachable state (`C09_keys_unique`).
-/
namespace Sched
open Queue

/-! ## a call that returns an error leaves the registry unchanged -/

/-- in fact a failing `ScheduleJob` changes nothing at all in the scheduler state (the trigger object
handed in is not yet known to the scheduler) -/
theorem C09_schedule_error_state_unchanged (s : SState) (now : Int) (a : SchedArgs)
    (herr : (schedule s now a).2.1 ≠ none) : (schedule s now a).1 = s := by
  rcases schedule_cases s now a with ⟨_, h⟩ | ⟨_, _, h⟩ | ⟨_, _, t, p, t', calls, _, _, ⟨e, _, h⟩ | ⟨q', _, h⟩⟩
  · rw [h] -- row: illegal argument
  · rw [h] -- row: trigger error
  · rw [h] -- row: queue error
  · rw [h] at herr -- row: success
    exact absurd rfl herr

theorem C09_schedule_error_unchanged (s : SState) (now : Int) (a : SchedArgs)
    (herr : (schedule s now a).2.1 ≠ none) : (schedule s now a).1.q = s.q := by
  rw [C09_schedule_error_state_unchanged s now a herr]

theorem C09_delete_error_unchanged (s : SState) (hk : Bool) (g n : String)
    (herr : (delete s hk g n).2 ≠ none) : (delete s hk g n).1.q = s.q := by
  cases hk with
  | false => rfl
  | true =>
    unfold delete at herr ⊢
    cases hr : qremove s.q g n with
    | ok r =>
      rw [hr] at herr
      exact absurd rfl herr
    | error e => rfl

theorem C09_pause_error_unchanged (s : SState) (hk : Bool) (g n : String) (h : Inv s.q)
    (herr : (pause s hk g n).2 ≠ none) : (pause s hk g n).1.q = s.q := by
  rcases pause_cases s hk g n h with ⟨_, hp⟩ | ⟨_, _, hp⟩ | ⟨_, e, _, _, _, ⟨_, hp⟩ | ⟨_, q1, _, _, hp⟩⟩
  · rw [hp] -- row: nil key
  · rw [hp] -- row: key absent
  · rw [hp] -- row: already suspended
  · rw [hp] at herr -- row: success
    exact absurd rfl herr

theorem C09_resume_error_unchanged (s : SState) (now : Int) (hk : Bool) (g n : String) (h : Inv s.q)
    (herr : (resume s now hk g n).2.1 ≠ none) : (resume s now hk g n).1.q = s.q := by
  rcases resume_cases s now hk g n h with ⟨_, hr⟩ | ⟨_, _, hr⟩ |
    ⟨_, e, _, _, _, ⟨_, hr⟩ | ⟨_, _, hr⟩ | ⟨_, p, q1, _, _, _, hr⟩⟩
  · rw [hr] -- row: nil key
  · rw [hr] -- row: key absent
  · rw [hr] -- row: job is active
  · rw [hr] -- row: trigger error; only the trigger object has changed
    rfl
  · rw [hr] at herr -- row: success
    exact absurd rfl herr

/-! ## each call returns its sentinel error exactly when its precondition fails -/

/-- in a key-distinct queue a property of "the entry with key (g, n)" can be read off any witness -/
theorem the_entry_iff {a : Arr} (h : Inv a) {e : Entry} (he : e ∈ a.toList) {g n : String}
    (hg : e.group = g) (hn : e.name = n) (P : Entry → Prop) :
    (∃ x ∈ a.toList, x.group = g ∧ x.name = n ∧ P x) ↔ P e := by
  constructor
  · rintro ⟨x, hx, hxg, hxn, hP⟩
    have : x = e := keysDistinct_unique a h.2 x e hx he ⟨by rw [hxn, hn], by rw [hxg, hg]⟩
    rwa [this] at hP
  · intro hP; exact ⟨e, he, hg, hn, hP⟩

/-- ... and with the key absent there is no such entry -/
theorem no_entry {a : Arr} {g n : String} (hk : ¬ hasKey a g n) (P : Entry → Prop) :
    ¬ ∃ x ∈ a.toList, x.group = g ∧ x.name = n ∧ P x :=
  fun ⟨x, hx, hg, hn, _⟩ => hk ⟨x, hx, hg, hn⟩

/-- `ScheduleJob`: illegalArgument iff a nil / empty argument; otherwise triggerError iff the
(non-suspended) trigger answers with an error; otherwise jobAlreadyExists iff the key is present and
`Replace` is not set; otherwise success. -/
theorem C09_schedule_error_iff (s : SState) (now : Int) (a : SchedArgs) (h : Inv s.q) :
    ((schedule s now a).2.1 = some .illegalArgument ↔ a.illegal) ∧
    ((schedule s now a).2.1 = some .triggerError ↔ ¬ a.illegal ∧ a.trigFails now) ∧
    ((schedule s now a).2.1 = some .jobAlreadyExists ↔
      ¬ a.illegal ∧ ¬ a.trigFails now ∧ hasKey s.q a.group a.name ∧ a.replace = false) ∧
    ((schedule s now a).2.1 = none ↔
      ¬ a.illegal ∧ ¬ a.trigFails now ∧ ¬ (hasKey s.q a.group a.name ∧ a.replace = false)) := by
  rcases schedule_cases s now a with ⟨hl, hs⟩ | ⟨hl, hf, hs⟩ |
    ⟨hl, hf, t, p, t', calls, _, _, ⟨e, hq, hs⟩ | ⟨q', hq, hs⟩⟩ <;> rw [hs]
  · simp [hl]
  · simp [hl, hf]
  · rcases sched_push_cases s.q a p h with ⟨hq', hk, hr⟩ | ⟨_, hq'⟩ | ⟨_, _, q', _, _, _, hq', _⟩
    · rw [hq] at hq'; cases hq' -- row: key present, no Replace
      simp [hl, hf, hk, hr, ofQErr]
    · rw [hq] at hq'; cases hq' -- row: new key, the push succeeds
    · rw [hq] at hq'; cases hq' -- row: Replace, the push succeeds
  · rcases sched_push_cases s.q a p h with ⟨hq', hk, hr⟩ | ⟨hk, _⟩ | ⟨hr, _⟩
    · rw [hq] at hq'; cases hq'
    · simp [hl, hf, hk]
    · simp [hl, hf, hr]

/-- `DeleteJob`: illegalArgument iff nil key; otherwise jobNotFound iff the key is absent -/
theorem C09_delete_error_iff (s : SState) (hk : Bool) (g n : String) (h : Inv s.q) :
    ((delete s hk g n).2 = some .illegalArgument ↔ hk = false) ∧
    ((delete s hk g n).2 = some .jobNotFound ↔ hk = true ∧ ¬ hasKey s.q g n) ∧
    ((delete s hk g n).2 = none ↔ hk = true ∧ hasKey s.q g n) := by
  rcases delete_cases s hk g n h with ⟨rfl, hd⟩ | ⟨rfl, hkey, hd⟩ | ⟨rfl, q1, e, he, hg, hn, _, _, _, hd⟩ <;>
    rw [hd]
  · simp
  · simp [hkey]
  · simp [show hasKey s.q g n from ⟨e, he, hg, hn⟩]

/-- `PauseJob`: illegalArgument iff nil key; otherwise jobNotFound iff the key is absent; otherwise
jobIsSuspended iff the entry is marked suspended -/
theorem C09_pause_error_iff (s : SState) (hk : Bool) (g n : String) (h : Inv s.q) :
    ((pause s hk g n).2 = some .illegalArgument ↔ hk = false) ∧
    ((pause s hk g n).2 = some .jobNotFound ↔ hk = true ∧ ¬ hasKey s.q g n) ∧
    ((pause s hk g n).2 = some .jobIsSuspended ↔
      hk = true ∧ ∃ e ∈ s.q.toList, e.group = g ∧ e.name = n ∧ e.suspended = true) ∧
    ((pause s hk g n).2 = none ↔
      hk = true ∧ ∃ e ∈ s.q.toList, e.group = g ∧ e.name = n ∧ e.suspended = false) := by
  rcases pause_cases s hk g n h with ⟨rfl, hp⟩ | ⟨rfl, hkey, hp⟩ | ⟨rfl, e, he, hg, hn, hc⟩
  · rw [hp]; simp
  · rw [hp]
    simp only [no_entry hkey, hkey]
    simp
  · rw [the_entry_iff h he hg hn (fun x => x.suspended = true),
      the_entry_iff h he hg hn (fun x => x.suspended = false)]
    have hkey : hasKey s.q g n := ⟨e, he, hg, hn⟩
    rcases hc with ⟨hs, hp⟩ | ⟨hs, q1, _, _, hp⟩ <;> rw [hp] <;> simp [hkey, hs]

/-- `ResumeJob`: illegalArgument iff nil key; otherwise jobNotFound iff the key is absent; otherwise
jobIsActive iff the entry is not suspended; otherwise triggerError iff its trigger, asked with the
clock reading of the call, answers with an error -/
theorem C09_resume_error_iff (s : SState) (now : Int) (hk : Bool) (g n : String) (h : Inv s.q) :
    ((resume s now hk g n).2.1 = some .illegalArgument ↔ hk = false) ∧
    ((resume s now hk g n).2.1 = some .jobNotFound ↔ hk = true ∧ ¬ hasKey s.q g n) ∧
    ((resume s now hk g n).2.1 = some .jobIsActive ↔
      hk = true ∧ ∃ e ∈ s.q.toList, e.group = g ∧ e.name = n ∧ e.suspended = false) ∧
    ((resume s now hk g n).2.1 = some .triggerError ↔
      hk = true ∧ ∃ e ∈ s.q.toList, e.group = g ∧ e.name = n ∧
        (e.suspended = true ∧ ((s.trig e.tag).fire now).1 = none)) ∧
    ((resume s now hk g n).2.1 = none ↔
      hk = true ∧ ∃ e ∈ s.q.toList, e.group = g ∧ e.name = n ∧
        (e.suspended = true ∧ ((s.trig e.tag).fire now).1 ≠ none)) := by
  rcases resume_cases s now hk g n h with ⟨rfl, hr⟩ | ⟨rfl, hkey, hr⟩ | ⟨rfl, e, he, hg, hn, hc⟩
  · rw [hr]; simp
  · rw [hr]
    simp only [no_entry hkey, hkey]
    simp
  · rw [the_entry_iff h he hg hn (fun x => x.suspended = false),
      the_entry_iff h he hg hn (fun x => x.suspended = true ∧ ((s.trig x.tag).fire now).1 = none),
      the_entry_iff h he hg hn (fun x => x.suspended = true ∧ ((s.trig x.tag).fire now).1 ≠ none)]
    have hkey : hasKey s.q g n := ⟨e, he, hg, hn⟩
    rcases hc with ⟨hs, hr⟩ | ⟨hs, hf, hr⟩ | ⟨hs, p, q1, hf, _, _, hr⟩ <;> rw [hr]
    · simp [hkey, hs]
    · simp [hkey, hs, hf]
    · simp [hkey, hs, hf]

/-! ## keys are unique (unless Replace is set: then the old entry is replaced) -/

/-- every state reachable from the empty scheduler, by any history whatsoever, is a heap with
pairwise distinct job keys -/
theorem C09_keys_unique (thr : Int) (evs : List Ev) : Inv (run thr {} evs).1.q :=
  (run_wf0 thr evs {} wf0_empty).inv

theorem C09_keys_unique_entry (thr : Int) (evs : List Ev) (x y : Entry)
    (hx : x ∈ (run thr {} evs).1.q.toList) (hy : y ∈ (run thr {} evs).1.q.toList)
    (hk : x.group = y.group ∧ x.name = y.name) : x = y :=
  keysDistinct_unique _ (C09_keys_unique thr evs).2 x y hx hy ⟨hk.2, hk.1⟩

/-- the positions of a key in the queue array: at most one -/
theorem C09_keys_unique_count (thr : Int) (evs : List Ev) (g n : String) :
    ((run thr {} evs).1.q.toList.filter (fun e => e.group == g && e.name == n)).length ≤ 1 := by
  have hp := (keysDistinct_iff_pairwise _).mp (C09_keys_unique thr evs).2
  generalize (run thr {} evs).1.q.toList = l at hp
  induction l with
  | nil => simp
  | cons x l ih =>
    rw [List.pairwise_cons] at hp
    rw [List.filter_cons]
    split
    · rename_i hx
      have hx' : x.group = g ∧ x.name = n := by simpa using hx
      have : l.filter (fun e => e.group == g && e.name == n) = [] := by
        rw [List.filter_eq_nil_iff]
        intro y hy hyk
        have hy' : y.group = g ∧ y.name = n := by simpa using hyk
        exact hp.1 y hy ⟨by rw [hx'.2, hy'.2], by rw [hx'.1, hy'.1]⟩
      rw [this]; simp
    · exact ih hp.2

/-- `ScheduleJob` with `Replace` on an existing key: it succeeds unless the arguments are illegal or the
trigger fails, and afterwards the registry is the old one with `old` taken out and the new entry
(new tag, new trigger, its own first fire time) put in: exactly one entry with that key, every other
entry untouched. -/
theorem C09_replace_exact (s : SState) (now : Int) (a : SchedArgs) (old : Entry) (h : Inv s.q)
    (ho : old ∈ s.q.toList) (hk : old.group = a.group ∧ old.name = a.name) (hr : a.replace = true)
    (hl : ¬ a.illegal) (hf : ¬ a.trigFails now) :
    (schedule s now a).2.1 = none ∧
    ∃ p, (a.suspended = true ∧ p = maxInt64 ∨
          a.suspended = false ∧ ∃ t, a.trig = some t ∧ (t.fire now).1 = some p) ∧
      (schedule s now a).1.q.toList.Perm (a.entry p :: s.q.toList.erase old) ∧
      (∀ x ∈ (schedule s now a).1.q.toList, x.group = a.group ∧ x.name = a.name → x = a.entry p) ∧
      (∀ x ∈ (schedule s now a).1.q.toList, x ≠ a.entry p → x ∈ s.q.toList ∧ x ≠ old) ∧
      (∀ x ∈ s.q.toList, x ≠ old → x ∈ (schedule s now a).1.q.toList) := by
  rcases schedule_cases s now a with ⟨hl', _⟩ | ⟨_, hf', _⟩ | ⟨_, _, t, p, t', calls, ht, hpc, hc⟩
  · exact absurd hl' hl
  · exact absurd hf' hf
  · obtain ⟨q', hq, hperm⟩ := C11_push_replace s.q (a.entry p) old h ho hk hr
    rw [hq] at hc
    obtain ⟨_, hq', _⟩ | ⟨_, hq', hs⟩ := hc
    · cases hq'
    cases hq'
    rw [hs]
    refine ⟨rfl, p, ?_, hperm, ?_, ?_, ?_⟩
    · rcases hpc with ⟨h1, h2, _, _⟩ | ⟨h1, h2, _, _⟩
      · exact Or.inl ⟨h1, h2⟩
      · exact Or.inr ⟨h1, t, ht, h2⟩
    · intro x hx hxk
      exact keysDistinct_unique q' (qpush_inv s.q q' _ h hq).2 x (a.entry p) hx (hperm.mem_iff.mpr List.mem_cons_self)
        ⟨hxk.2, hxk.1⟩
    · intro x hx hne
      rcases List.mem_cons.mp (hperm.mem_iff.mp hx) with h1 | h1
      · exact absurd h1 hne
      · exact (mem_erase_iff_of_inv h old x).mp h1
    · intro x hx hne
      exact hperm.mem_iff.mpr (List.mem_cons_of_mem _ ((mem_erase_iff_of_inv h old x).mpr ⟨hx, hne⟩))

/-- without `Replace` the same call fails with `jobAlreadyExists` and (C09_schedule_error_unchanged)
changes nothing -/
theorem C09_no_replace_rejected (s : SState) (now : Int) (a : SchedArgs) (h : Inv s.q)
    (hk : hasKey s.q a.group a.name) (hr : a.replace = false) (hl : ¬ a.illegal)
    (hf : ¬ a.trigFails now) : (schedule s now a).2.1 = some .jobAlreadyExists :=
  (C09_schedule_error_iff s now a h).2.2.1.mpr ⟨hl, hf, hk, hr⟩

/-! ## non-vacuity: a concrete registry with an active, a paused and an expired-trigger job -/
namespace C09Ex

def exA : SchedArgs := { group := "g", name := "a", tag := 1, trig := some (.simple 10) }
def exB : SchedArgs := { group := "g", name := "b", tag := 2, trig := some (.runOnce 5 false) }
def exC : SchedArgs := { group := "h", name := "c", tag := 3, trig := some (.script [some 7, none]), suspended := true }
/-- same key as `exA`, new trigger object, Replace set -/
def exA' : SchedArgs := { group := "g", name := "a", tag := 4, trig := some (.fixed 42), replace := true }
/-- a trigger that fails at once -/
def exD : SchedArgs := { group := "g", name := "d", tag := 5, trig := some (.script []) }
def exNoName : SchedArgs := { group := "g", name := "", tag := 6, trig := some (.fixed 1) }

def exHist : List Ev := [.schedule 0 exA, .schedule 1 exB, .schedule 2 exC, .pause true "g" "b"]
/-- three jobs: `g/a` active (fires at 10), `g/b` paused with an already used run-once trigger,
`h/c` scheduled suspended -/
def exS : SState := (run 3 {} exHist).1

theorem exS_inv : Inv exS.q := C09_keys_unique 3 exHist

/-- the examples on `exS` rewrite with this, so the history is evaluated once -/
theorem exS_val : exS =
    { q := #[{ group := "g", name := "a", prio := 10, tag := 1 },
        { group := "h", name := "c", prio := maxInt64, suspended := true, tag := 3 },
        { group := "g", name := "b", prio := maxInt64, suspended := true, tag := 2 }],
      trigs := [(3, .script [some 7, none]), (2, .runOnce 5 true), (1, .simple 10)] } :=
  SState.eq_mk (by decide +kernel) (by decide +kernel)

example : exS.q.toList.map (fun e => (e.group, e.name, e.prio, e.suspended, e.tag)) =
    [("g", "a", 10, false, 1), ("h", "c", maxInt64, true, 3), ("g", "b", maxInt64, true, 2)] := by
  rw [exS_val]; decide +kernel

-- every sentinel of every call occurs (so every branch of the `_iff` theorems and the hypotheses of the
-- `_unchanged` theorems are inhabited)
example : (schedule exS 5 exNoName).2.1 = some .illegalArgument := by rw [exS_val]; decide +kernel
example : (schedule exS 5 { exA with trig := none }).2.1 = some .illegalArgument := by rw [exS_val]; decide +kernel
example : (schedule exS 5 exD).2.1 = some .triggerError := by rw [exS_val]; decide +kernel
example : (schedule exS 5 { exA with tag := 9 }).2.1 = some .jobAlreadyExists := by rw [exS_val]; decide +kernel
example : (schedule exS 5 exA').2.1 = none := by rw [exS_val]; decide +kernel
example : (delete exS false "g" "a").2 = some .illegalArgument := by rw [exS_val]; decide +kernel
example : (delete exS true "g" "zz").2 = some .jobNotFound := by rw [exS_val]; decide +kernel
example : (delete exS true "g" "a").2 = none := by rw [exS_val]; decide +kernel
example : (pause exS false "g" "a").2 = some .illegalArgument := by rw [exS_val]; decide +kernel
example : (pause exS true "x" "a").2 = some .jobNotFound := by rw [exS_val]; decide +kernel
example : (pause exS true "g" "b").2 = some .jobIsSuspended := by rw [exS_val]; decide +kernel
example : (pause exS true "g" "a").2 = none := by rw [exS_val]; decide +kernel
example : (resume exS 9 false "g" "a").2.1 = some .illegalArgument := by rw [exS_val]; decide +kernel
example : (resume exS 9 true "x" "a").2.1 = some .jobNotFound := by rw [exS_val]; decide +kernel
example : (resume exS 9 true "g" "a").2.1 = some .jobIsActive := by rw [exS_val]; decide +kernel
-- the run-once trigger of `g/b` was used up by `ScheduleJob`: resuming fails and the job stays (paused)
example : (resume exS 9 true "g" "b").2.1 = some .triggerError ∧
    (resume exS 9 true "g" "b").1.q = exS.q := by rw [exS_val]; decide +kernel
example : (resume exS 9 true "h" "c").2.1 = none := by rw [exS_val]; decide +kernel
-- `C09_replace_exact`: its hypotheses hold for `exA'` over `exS`, and this is what comes out
example : ∃ old ∈ exS.q.toList, (old.group = exA'.group ∧ old.name = exA'.name) ∧ exA'.replace = true ∧
    ¬ exA'.illegal ∧ ¬ exA'.trigFails 5 := by
  refine ⟨{ group := "g", name := "a", prio := 10, tag := 1 }, by rw [exS_val]; decide +kernel, ⟨rfl, rfl⟩, rfl,
    by decide, ?_⟩
  rintro ⟨_, t, ht, hf⟩
  injection ht with ht
  subst ht
  cases hf
example : (schedule exS 5 exA').1.q.toList.map (fun e => (e.group, e.name, e.prio, e.tag)) =
    [("g", "a", 42, 4), ("h", "c", maxInt64, 3), ("g", "b", maxInt64, 2)] := by rw [exS_val]; decide +kernel

end C09Ex

end Sched
