import QuartzModel.Queue.JobQueue
import QuartzModel.Proofs.HeapLemmas
/-!
# C11 — the default `JobQueue` is a key-addressed map ordered by next run time

Model: `QuartzModel/Queue/Heap.lean` (Go `container/heap`), `QuartzModel/Queue/JobQueue.lean`
(`quartz/queue.go`, `matcher/*.go`).
-/
namespace Queue

def IsHeap (a : Arr) : Prop := ∀ k, 0 < k → k < a.size → prioAt a ((k - 1) / 2) ≤ prioAt a k

def KeysDistinct (a : Arr) : Prop :=
  ∀ i j, i < a.size → j < a.size → (a.getD i default).sameKey (a.getD j default) = true → i = j

def Inv (a : Arr) : Prop := IsHeap a ∧ KeysDistinct a

def hasKey (a : Arr) (g n : String) : Prop := ∃ e ∈ a.toList, e.group = g ∧ e.name = n

inductive Op where
  | push (e : Entry) | pop | remove (g n : String) | clear

def step (a : Arr) : Op → Arr
  | .push e => match qpush a e with | .ok a' => a' | .error _ => a
  | .pop => match qpop a with | .ok (a', _) => a' | .error _ => a
  | .remove g n => match qremove a g n with | .ok (a', _) => a' | .error _ => a
  | .clear => #[]

theorem isHeap_iff (a : Arr) : IsHeap a ↔ IsHeapN a a.size := Iff.rfl

theorem sameKey_iff (x y : Entry) : x.sameKey y = true ↔ x.name = y.name ∧ x.group = y.group := by
  simp [Entry.sameKey]

def KeyNe (x y : Entry) : Prop := ¬ (x.name = y.name ∧ x.group = y.group)

theorem KeyNe.symm {x y : Entry} (h : KeyNe x y) : KeyNe y x :=
  fun ⟨h1, h2⟩ => h ⟨h1.symm, h2.symm⟩

theorem keysDistinct_iff_pairwise (a : Arr) : KeysDistinct a ↔ a.toList.Pairwise KeyNe := by
  rw [List.pairwise_iff_getElem]
  constructor
  · intro h i j hi hj hij hk
    have hi' : i < a.size := hi
    have hj' : j < a.size := hj
    have := h i j hi' hj' (by
      rw [← Array.getElem_eq_getD (h := hi'), ← Array.getElem_eq_getD (h := hj'), sameKey_iff]
      exact hk)
    omega
  · intro h i j hi hj hk
    rw [← Array.getElem_eq_getD (h := hi), ← Array.getElem_eq_getD (h := hj), sameKey_iff] at hk
    rcases Nat.lt_trichotomy i j with hlt | heq | hgt
    · exact absurd hk (h i j hi hj hlt)
    · exact heq
    · exact absurd ⟨hk.1.symm, hk.2.symm⟩ (h j i hj hi hgt)

theorem keysDistinct_perm (a b : Arr) (hp : a.toList.Perm b.toList) :
    KeysDistinct a ↔ KeysDistinct b := by
  rw [keysDistinct_iff_pairwise, keysDistinct_iff_pairwise]
  exact hp.pairwise_iff KeyNe.symm

theorem keysDistinct_unique (a : Arr) (h : KeysDistinct a) (x y : Entry) (hx : x ∈ a.toList)
    (hy : y ∈ a.toList) (hk : x.name = y.name ∧ x.group = y.group) : x = y := by
  obtain ⟨i, hi, rfl⟩ := Array.mem_iff_getElem.mp (Array.mem_toList_iff.mp hx)
  obtain ⟨j, hj, rfl⟩ := Array.mem_iff_getElem.mp (Array.mem_toList_iff.mp hy)
  have := h i j hi hj (by
    rw [← Array.getElem_eq_getD (h := hi), ← Array.getElem_eq_getD (h := hj), sameKey_iff]
    exact hk)
  subst this
  rfl

theorem findIdx_some (a : Arr) (g n : String) (i : Nat) (h : findIdx a g n = some i) :
    ∃ hi : i < a.size, a[i].name = n ∧ a[i].group = g := by
  obtain ⟨hi, hp, _⟩ := Array.findIdx?_eq_some_iff_getElem.mp h
  exact ⟨hi, by simpa using hp⟩

theorem findIdx_none_iff (a : Arr) (g n : String) : findIdx a g n = none ↔ ¬ hasKey a g n := by
  unfold findIdx hasKey
  rw [Array.findIdx?_eq_none_iff]
  simp only [Bool.and_eq_false_imp, beq_iff_eq, beq_eq_false_iff_ne, ne_eq, Array.mem_toList_iff, not_exists, not_and]
  exact forall₂_congr fun x _ => ⟨fun h hg hn => h hn hg, fun h hn hg => h hg hn⟩

theorem findIdx_of_hasKey (a : Arr) (g n : String) (h : hasKey a g n) :
    ∃ i, findIdx a g n = some i :=
  Option.ne_none_iff_exists'.mp fun hf => (findIdx_none_iff a g n).mp hf h

theorem inv_empty : Inv #[] := by
  constructor
  · intro k _ hk; simp at hk
  · intro i j hi; simp at hi

theorem keysDistinct_cons (a b : Arr) (e : Entry) (hb : KeysDistinct b)
    (hp : a.toList.Perm (e :: b.toList)) (hne : ∀ x ∈ b.toList, KeyNe e x) : KeysDistinct a := by
  rw [keysDistinct_iff_pairwise] at hb ⊢
  exact (hp.pairwise_iff KeyNe.symm).mpr (List.pairwise_cons.mpr ⟨hne, hb⟩)

theorem keysDistinct_of_cons (a b : Arr) (e : Entry) (ha : KeysDistinct a)
    (hp : a.toList.Perm (e :: b.toList)) : KeysDistinct b ∧ ∀ x ∈ b.toList, KeyNe e x := by
  rw [keysDistinct_iff_pairwise] at ha ⊢
  have := List.pairwise_cons.mp ((hp.pairwise_iff KeyNe.symm).mp ha)
  exact ⟨this.2, this.1⟩

/-- what `Push` (replacing) and `Remove` do with the slot `findIdx` found -/
theorem hremove_found (a : Arr) (g n : String) (i : Nat) (hf : findIdx a g n = some i) :
    ∃ a' x, hremove a i = (a', some x) ∧ x ∈ a.toList ∧ x.name = n ∧ x.group = g ∧
      a.toList.Perm (x :: a'.toList) ∧ (IsHeap a → IsHeap a') := by
  obtain ⟨hi, hn, hg⟩ := findIdx_some a g n i hf
  obtain ⟨a', x, hre, _, hx, hperm, hheap⟩ := hremove_core a i hi
  rw [Array.getElem?_eq_getElem hi] at hx
  cases hx
  exact ⟨a', _, hre, Array.getElem_mem_toList hi, hn, hg, hperm, hheap⟩

theorem qpush_inv (a a' : Arr) (e : Entry) (h : Inv a) (hq : qpush a e = .ok a') : Inv a' := by
  unfold qpush at hq
  split at hq
  · rename_i i hf
    split at hq
    · cases hq
      obtain ⟨a1, old, hre, _, hn, hg, hperm, hheap⟩ := hremove_found a _ _ i hf
      rw [hre]
      refine ⟨hpush_heapN _ _ (hheap h.1), ?_⟩
      obtain ⟨hkd, hne⟩ := keysDistinct_of_cons a a1 old h.2 hperm
      apply keysDistinct_cons _ a1 e hkd (hpush_perm _ _)
      intro x hx hk
      apply hne x hx
      rw [hn, hg]
      exact hk
    · cases hq
  · rename_i hf
    cases hq
    refine ⟨hpush_heapN _ _ h.1, ?_⟩
    apply keysDistinct_cons _ a e h.2 (hpush_perm _ _)
    intro x hx hk
    exact (findIdx_none_iff a _ _).mp hf ⟨x, hx, hk.2.symm, hk.1.symm⟩

theorem qpop_spec (a : Arr) (hne : a.size ≠ 0) :
    ∃ a' e, qpop a = .ok (a', e) ∧ a'.size + 1 = a.size ∧ a[0]? = some e ∧
      a.toList.Perm (e :: a'.toList) ∧ (IsHeap a → IsHeap a') := by
  obtain ⟨a', e, hp, r⟩ := hpop_core a hne
  exact ⟨a', e, by unfold qpop; rw [hp], r⟩

theorem qpop_empty (a : Arr) (h : a.size = 0) : qpop a = .error .queueEmpty := by
  unfold qpop
  rw [hpop_empty a h]

/-- a successful `Pop` took the first slot -/
theorem qpop_ok (a a' : Arr) (e : Entry) (hq : qpop a = .ok (a', e)) :
    a'.size + 1 = a.size ∧ a[0]? = some e ∧ a.toList.Perm (e :: a'.toList) ∧ (IsHeap a → IsHeap a') := by
  by_cases hne : a.size = 0
  · rw [qpop_empty a hne] at hq
    cases hq
  · obtain ⟨a1, e1, hp, r⟩ := qpop_spec a hne
    rw [hp] at hq
    cases hq
    exact r

theorem qpop_inv (a a' : Arr) (e : Entry) (h : Inv a) (hq : qpop a = .ok (a', e)) : Inv a' :=
  have ⟨_, _, hperm, hheap⟩ := qpop_ok a a' e hq
  ⟨hheap h.1, (keysDistinct_of_cons a a' e h.2 hperm).1⟩

/-- a successful `Remove` took an entry with the key asked for -/
theorem qremove_ok (a a' : Arr) (g n : String) (e : Entry) (hq : qremove a g n = .ok (a', e)) :
    e ∈ a.toList ∧ e.name = n ∧ e.group = g ∧ a.toList.Perm (e :: a'.toList) ∧ (IsHeap a → IsHeap a') := by
  unfold qremove at hq
  split at hq
  · rename_i i hf
    obtain ⟨a1, x, hre, r⟩ := hremove_found a g n i hf
    rw [hre] at hq
    cases hq
    exact r
  · cases hq

theorem qremove_inv (a a' : Arr) (g n : String) (e : Entry) (h : Inv a)
    (hq : qremove a g n = .ok (a', e)) : Inv a' :=
  have ⟨_, _, _, hperm, hheap⟩ := qremove_ok a a' g n e hq
  ⟨hheap h.1, (keysDistinct_of_cons a a' e h.2 hperm).1⟩

theorem C11_inv_step (a : Arr) (op : Op) (h : Inv a) : Inv (step a op) := by
  cases op with
  | push e =>
    simp only [step]
    split
    · exact qpush_inv a _ e h ‹_›
    · exact h
  | pop =>
    simp only [step]
    split
    · exact qpop_inv a _ _ h ‹_›
    · exact h
  | remove g n =>
    simp only [step]
    split
    · exact qremove_inv a _ g n _ h ‹_›
    · exact h
  | clear => exact inv_empty

theorem C11_inv_reachable (ops : List Op) : Inv (ops.foldl step #[]) :=
  List.foldlRecOn ops step inv_empty fun a h op _ => C11_inv_step a op h

theorem C11_push_new (a : Arr) (e : Entry) (_h : Inv a) (hk : ¬ hasKey a e.group e.name) :
    ∃ a', qpush a e = .ok a' ∧ a'.toList.Perm (e :: a.toList) := by
  refine ⟨hpush a e, ?_, hpush_perm a e⟩
  unfold qpush
  rw [(findIdx_none_iff a _ _).mpr hk]

theorem C11_push_duplicate (a : Arr) (e : Entry) (hk : hasKey a e.group e.name)
    (hr : e.replace = false) : qpush a e = .error .jobAlreadyExists := by
  obtain ⟨i, hf⟩ := findIdx_of_hasKey a _ _ hk
  unfold qpush
  rw [hf]
  simp [hr]

theorem C11_push_replace (a : Arr) (e old : Entry) (h : Inv a) (ho : old ∈ a.toList)
    (hk : old.group = e.group ∧ old.name = e.name) (hr : e.replace = true) :
    ∃ a', qpush a e = .ok a' ∧ a'.toList.Perm (e :: a.toList.erase old) := by
  obtain ⟨i, hf⟩ := findIdx_of_hasKey a _ _ ⟨old, ho, hk⟩
  obtain ⟨a1, x, hre, hxm, hn, hg, hperm, _⟩ := hremove_found a _ _ i hf
  have hxo : x = old := keysDistinct_unique a h.2 x old hxm ho ⟨hn.trans hk.2.symm, hg.trans hk.1.symm⟩
  subst hxo
  refine ⟨hpush a1 e, ?_, ?_⟩
  · unfold qpush
    rw [hf]
    simp [hr, hre]
  · refine (hpush_perm a1 e).trans (List.Perm.cons e ?_)
    have := hperm.erase x
    rw [List.erase_cons_head] at this
    exact this.symm

theorem C11_pop_min (a : Arr) (h : Inv a) (hne : a.size ≠ 0) :
    ∃ a' e, qpop a = .ok (a', e) ∧ a.toList.Perm (e :: a'.toList) ∧
      ∀ x ∈ a.toList, e.prio ≤ x.prio := by
  obtain ⟨a', e, hq, _, h0, hperm, _⟩ := qpop_spec a hne
  exact ⟨a', e, hq, hperm, heapN_root_min a h.1 e h0⟩

theorem C11_head_min (a : Arr) (h : Inv a) (hne : a.size ≠ 0) :
    ∃ e, qhead a = .ok e ∧ e ∈ a.toList ∧ ∀ x ∈ a.toList, e.prio ≤ x.prio := by
  have h0 : 0 < a.size := Nat.pos_of_ne_zero hne
  have he : a[0]? = some a[0] := Array.getElem?_eq_getElem h0
  refine ⟨a[0], ?_, Array.getElem_mem_toList h0, heapN_root_min a h.1 _ he⟩
  unfold qhead
  rw [he]

theorem C11_empty_errors (a : Arr) (h : a.size = 0) :
    qpop a = .error .queueEmpty ∧ qhead a = .error .queueEmpty := by
  refine ⟨qpop_empty a h, ?_⟩
  unfold qhead
  rw [Array.getElem?_eq_none (by omega)]

theorem C11_get (a : Arr) (h : Inv a) (g n : String) :
    (∀ e, qget a g n = .ok e ↔ (e ∈ a.toList ∧ e.group = g ∧ e.name = n)) ∧
    (qget a g n = .error .jobNotFound ↔ ¬ hasKey a g n) := by
  cases hf : findIdx a g n with
  | none =>
    have hnk := (findIdx_none_iff a g n).mp hf
    have hq : qget a g n = .error .jobNotFound := by unfold qget; rw [hf]
    rw [hq]
    exact ⟨fun e => ⟨(fun hh => by cases hh), fun ⟨he, hg, hn⟩ => absurd ⟨e, he, hg, hn⟩ hnk⟩,
      fun _ => hnk, fun _ => rfl⟩
  | some i =>
    obtain ⟨hi, hn, hg⟩ := findIdx_some a g n i hf
    have hq : qget a g n = .ok a[i] := by
      unfold qget; rw [hf]; simp only; rw [Array.getElem?_eq_getElem hi]
    have hmem : a[i] ∈ a.toList := Array.getElem_mem_toList hi
    rw [hq]
    refine ⟨fun e => ⟨fun hh => ?_, fun ⟨he, heg, hen⟩ => ?_⟩, (fun hh => by cases hh),
      fun hh => absurd ⟨a[i], hmem, hg, hn⟩ hh⟩
    · cases hh; exact ⟨hmem, hg, hn⟩
    · rw [keysDistinct_unique a h.2 _ _ hmem he ⟨hn.trans hen.symm, hg.trans heg.symm⟩]

theorem C11_remove (a : Arr) (h : Inv a) (g n : String) :
    (hasKey a g n → ∃ a' e, qremove a g n = .ok (a', e) ∧ e.group = g ∧ e.name = n ∧
      a.toList.Perm (e :: a'.toList)) ∧
    (¬ hasKey a g n → qremove a g n = .error .jobNotFound) := by
  -- `h` is not needed: `hremove` hands back the slot `findIdx` found, whatever the order of the array
  constructor
  · intro hk
    obtain ⟨i, hf⟩ := findIdx_of_hasKey a g n hk
    obtain ⟨a1, x, hre, _, hn, hg, hperm, _⟩ := hremove_found a g n i hf
    refine ⟨a1, x, ?_, hg, hn, hperm⟩
    unfold qremove
    rw [hf]
    simp only
    rw [hre]
  · intro hk
    unfold qremove
    rw [(findIdx_none_iff a g n).mpr hk]

theorem C11_list_exact (a : Arr) (ms : List Matcher) (e : Entry) :
    e ∈ qlist a ms ↔ (e ∈ a.toList ∧ ∀ m ∈ ms, m.isMatch e = true) := by
  unfold qlist
  rw [List.mem_filter, List.all_eq_true]

theorem C11_list_all (a : Arr) : qlist a [] = a.toList := by
  unfold qlist
  simp

/-! ## string operators mean what their names say -/

theorem StrOp.startsWith_iff (s p : String) :
    StrOp.startsWith.apply s p = true ↔ ∃ t, s.toList = p.toList ++ t := by
  show p.toList.isPrefixOf s.toList = true ↔ _
  rw [List.isPrefixOf_iff_prefix]
  exact exists_congr fun t => eq_comm

theorem StrOp.endsWith_iff (s p : String) :
    StrOp.endsWith.apply s p = true ↔ ∃ t, s.toList = t ++ p.toList := by
  show p.toList.reverse.isPrefixOf s.toList.reverse = true ↔ _
  rw [List.isPrefixOf_iff_prefix, List.reverse_prefix]
  exact exists_congr fun t => eq_comm

theorem isInfix_iff (p s : List Char) : isInfix p s = true ↔ ∃ t u, s = t ++ p ++ u := by
  have h : isInfix p s = true ↔ p <:+: s := by
    induction s with
    | nil => simp [isInfix]
    | cons c cs ih => rw [isInfix, Bool.or_eq_true, List.isPrefixOf_iff_prefix, ih, List.infix_cons_iff]
  rw [h]
  exact exists_congr fun t => exists_congr fun u => eq_comm

theorem StrOp.contains_iff (s p : String) :
    StrOp.contains.apply s p = true ↔ ∃ t u, s.toList = t ++ p.toList ++ u := by
  show isInfix p.toList s.toList = true ↔ _
  exact isInfix_iff _ _

theorem StrOp.equals_iff (s p : String) : StrOp.equals.apply s p = true ↔ s = p := by
  show (s == p) = true ↔ _
  exact beq_iff_eq

/-! ## corollaries: the map view (Get after Push / Remove) and Size -/

/-- a successful `Push e` makes `Get e.key` return exactly `e` (new key or replaced key) -/
theorem C11_get_after_push (a a' : Arr) (e : Entry) (h : Inv a) (hq : qpush a e = .ok a') :
    qget a' e.group e.name = .ok e := by
  have hinv : Inv a' := qpush_inv a a' e h hq
  have hmem : e ∈ a'.toList := by
    unfold qpush at hq
    split at hq
    · split at hq
      · cases hq
        exact (hpush_perm _ e).mem_iff.mpr List.mem_cons_self
      · cases hq
    · cases hq
      exact (hpush_perm _ e).mem_iff.mpr List.mem_cons_self
  exact ((C11_get a' hinv e.group e.name).1 e).mpr ⟨hmem, rfl, rfl⟩

/-- after a successful `Remove key` the key is gone and every other entry is still there -/
theorem C11_get_after_remove (a a' : Arr) (g n : String) (e : Entry) (h : Inv a)
    (hq : qremove a g n = .ok (a', e)) :
    qget a' g n = .error .jobNotFound ∧
    ∀ x ∈ a.toList, x ≠ e → qget a' x.group x.name = .ok x := by
  have hinv : Inv a' := qremove_inv a a' g n e h hq
  obtain ⟨_, hn, hg, hperm, _⟩ := qremove_ok a a' g n e hq
  obtain ⟨_, hne⟩ := keysDistinct_of_cons a a' e h.2 hperm
  refine ⟨(C11_get a' hinv g n).2.mpr fun ⟨x, hx, hxg, hxn⟩ =>
    hne x hx ⟨hn.trans hxn.symm, hg.trans hxg.symm⟩, fun x hx hxe => ?_⟩
  rcases List.mem_cons.mp (hperm.mem_iff.mp hx) with heq | hmem
  · exact absurd heq hxe
  · exact ((C11_get a' hinv x.group x.name).1 x).mpr ⟨hmem, rfl, rfl⟩

theorem C11_size_push_new (a a' : Arr) (e : Entry) (hk : ¬ hasKey a e.group e.name)
    (hq : qpush a e = .ok a') : a'.size = a.size + 1 := by
  unfold qpush at hq
  rw [(findIdx_none_iff a _ _).mpr hk] at hq
  cases hq
  exact hpush_size a e

theorem C11_size_pop (a a' : Arr) (e : Entry) (h : Inv a) (hq : qpop a = .ok (a', e)) :
    a'.size + 1 = a.size := by
  -- `h` is not needed: `hpop` cuts one slot off whatever the order of the array
  exact (qpop_ok a a' e hq).1

/-! ## non-vacuity: a concrete five-entry queue -/

def ex5 : Arr := #[
  { group := "g1", name := "a", prio := 10, tag := 1 },
  { group := "g1", name := "b", prio := 20, tag := 2 },
  { group := "g2", name := "a", prio := 15, suspended := true, tag := 3 },
  { group := "g2", name := "c", prio := 30, tag := 4 },
  { group := "g1", name := "d", prio := 25, tag := 5 }]

/-- Bool checker for `IsHeap` (decidable on literals) -/
def isHeapB (a : Arr) : Bool :=
  (List.range a.size).all (fun k => k == 0 || decide (prioAt a ((k - 1) / 2) ≤ prioAt a k))

/-- Bool checker for `KeysDistinct` -/
def keysDistinctB (a : Arr) : Bool :=
  (List.range a.size).all (fun i => (List.range a.size).all (fun j =>
    !((a.getD i default).sameKey (a.getD j default)) || i == j))

theorem isHeapB_sound (a : Arr) (h : isHeapB a = true) : IsHeap a := by
  intro k hk hks
  have := List.all_eq_true.mp h k (List.mem_range.mpr hks)
  simp only [Bool.or_eq_true, beq_iff_eq, decide_eq_true_eq] at this
  exact this.resolve_left (Nat.ne_of_gt hk)

theorem keysDistinctB_sound (a : Arr) (h : keysDistinctB a = true) : KeysDistinct a := by
  intro i j hi hj hk
  have := List.all_eq_true.mp (List.all_eq_true.mp h i (List.mem_range.mpr hi)) j (List.mem_range.mpr hj)
  simpa only [hk, Bool.not_true, Bool.false_or, beq_iff_eq] using this

theorem ex5_inv : Inv ex5 :=
  ⟨isHeapB_sound ex5 (by decide +kernel), keysDistinctB_sound ex5 (by decide +kernel)⟩

/-- the checkers are not trivially true: a non-heap and a duplicate key are rejected -/
example : isHeapB (ex5.swap 0 1) = false := by decide +kernel
example : keysDistinctB (ex5.push { group := "g1", name := "a", prio := 99 }) = false := by decide +kernel

def exNew : Entry := { group := "g3", name := "z", prio := 5, tag := 6 }
def exDup : Entry := { group := "g2", name := "c", prio := 1, tag := 7 }
def exRep : Entry := { group := "g2", name := "c", prio := 1, replace := true, tag := 8 }
def exOld : Entry := { group := "g2", name := "c", prio := 30, tag := 4 }

-- heap layer: hypotheses of `hpush_heapN`, `hpop_core`, `hremove_core`, `heapN_root_min`, `hpop_empty`
example : IsHeap ex5 ∧ ex5.size ≠ 0 ∧ 3 < ex5.size ∧ ex5[0]? = some ex5[0] :=
  ⟨ex5_inv.1, by decide +kernel, by decide +kernel, rfl⟩
example : (#[] : Arr).size = 0 := rfl
-- `C11_inv_step`, `C11_pop_min`, `C11_head_min`, `C11_get`, `C11_remove`
example : Inv ex5 ∧ ex5.size ≠ 0 := ⟨ex5_inv, by decide +kernel⟩
example : ∃ e, qhead ex5 = .ok e ∧ e.prio = 10 := ⟨_, rfl, rfl⟩
-- `C11_inv_reachable`: a non-trivial op sequence
example : Inv ([Op.push exNew, .push exDup, .push exRep, .pop, .remove "g3" "z"].foldl step #[]) :=
  C11_inv_reachable _
-- `C11_push_new`
example : Inv ex5 ∧ ¬ hasKey ex5 exNew.group exNew.name :=
  ⟨ex5_inv, by unfold hasKey; decide +kernel⟩
-- `C11_push_duplicate`
example : hasKey ex5 exDup.group exDup.name ∧ exDup.replace = false :=
  ⟨⟨exOld, by decide +kernel, rfl, rfl⟩, rfl⟩
-- `C11_push_replace`
example : Inv ex5 ∧ exOld ∈ ex5.toList ∧ (exOld.group = exRep.group ∧ exOld.name = exRep.name) ∧
    exRep.replace = true := ⟨ex5_inv, by decide +kernel, ⟨rfl, rfl⟩, rfl⟩
-- `C11_remove`: both branches are inhabited
example : hasKey ex5 "g2" "c" ∧ ¬ hasKey ex5 "g2" "zz" :=
  ⟨⟨exOld, by decide +kernel, rfl, rfl⟩, by unfold hasKey; decide +kernel⟩
-- `C11_list_exact` / `C11_list_all`: a matcher list that keeps some entries and drops others
example : qlist ex5 [.group .startsWith "g", .status false, .name .contains ""] =
    [ex5[0], ex5[1], ex5[3], ex5[4]] := by decide +kernel
example : qlist ex5 [.name .equals "a", .group .endsWith "2"] = [ex5[2]] := by decide +kernel
-- string operators: positive and negative instances
example : StrOp.startsWith.apply "hello" "he" = true ∧ StrOp.startsWith.apply "hello" "el" = false := by
  decide +kernel
example : StrOp.endsWith.apply "hello" "llo" = true ∧ StrOp.endsWith.apply "hello" "ell" = false := by
  decide +kernel
example : StrOp.contains.apply "hello" "ell" = true ∧ StrOp.contains.apply "hello" "lel" = false := by
  decide +kernel
example : StrOp.equals.apply "hello" "hello" = true ∧ StrOp.equals.apply "hello" "hell" = false := by
  decide +kernel

end Queue
