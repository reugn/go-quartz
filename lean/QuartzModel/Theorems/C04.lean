import QuartzModel.Proofs.SchedLemmas
/-!
# C04 — every dequeued fire time is accounted for

"each fire time the scheduler dequeues is either executed, after which the next fire time is computed
from that scheduled fire time rather than from the clock (no drift), or, only if the scheduler is more
than OutdatedThreshold late, skipped, offered to MisfiredChan and re-based on the current time.  No fire
time is silently dropped or invented, and when the trigger reports that no further fire time exists the
job leaves the registry, after its last fire time has run if that was on time (a run-once job runs
exactly once)."

`thr` is `OutdatedThreshold` in nanoseconds; `StepOut.misfired` is the (non-blocking) offer to
`MisfiredChan`.  Clock readings are not assumed monotone.
-/
namespace Sched
open Queue

/-- Every non-suspended entry a step pops is accounted for in exactly one of three ways (the three
`cls` values are different, so the cases exclude each other):
* valid: dispatched, the trigger is asked with the SCHEDULED fire time `e.prio` (not the clock);
* outdated — only if `now - e.prio > thr`: not dispatched, offered to the misfire channel, the trigger
  is asked with the clock reading `now`;
* not due: not dispatched, no trigger call, the very same entry goes back.
In the first two cases the entry goes back with the trigger's answer as its new fire time, or not at
all if the trigger answered with an error.  Nothing else in the registry changes. -/
theorem C04_accounted (s : SState) (now thr : Int) (h : Inv s.q) (e : Entry)
    (hp : (step s now thr).2.popped = some e) (hs : e.suspended = false) :
    (∃ rest : List Entry, s.q.toList.Perm (e :: rest) ∧
      (step s now thr).1.q.toList.Perm ((step s now thr).2.pushed.toList ++ rest)) ∧
    (((step s now thr).2.cls = some .valid ∧ (step s now thr).2.dispatched = true ∧
        (step s now thr).2.misfired = false ∧ now - thr ≤ e.prio ∧ e.prio ≤ now ∧
        ∃ r, r = ((s.trig e.tag).fire e.prio).1 ∧
          (step s now thr).2.calls = [⟨e.tag, e.prio, r⟩] ∧
          (step s now thr).2.pushed = r.map (fun p => { e with prio := p }) ∧
          (step s now thr).1.trig e.tag = ((s.trig e.tag).fire e.prio).2) ∨
     ((step s now thr).2.cls = some .outdated ∧ (step s now thr).2.dispatched = false ∧
        (step s now thr).2.misfired = true ∧ now - e.prio > thr ∧
        ∃ r, r = ((s.trig e.tag).fire now).1 ∧
          (step s now thr).2.calls = [⟨e.tag, now, r⟩] ∧
          (step s now thr).2.pushed = r.map (fun p => { e with prio := p }) ∧
          (step s now thr).1.trig e.tag = ((s.trig e.tag).fire now).2) ∨
     ((step s now thr).2.cls = some .notDue ∧ (step s now thr).2.dispatched = false ∧
        (step s now thr).2.misfired = false ∧ now < e.prio ∧
        (step s now thr).2.calls = [] ∧ (step s now thr).2.pushed = some e ∧
        (step s now thr).1.trigs = s.trigs)) := by
  obtain ⟨q1, hperm, _, _, hst⟩ := step_popped s now thr h e hp
  -- the class fixes what is asked; the table of `step` then gives the rest
  rcases classify_cases e now thr with ⟨_, h2, _⟩ | ⟨hc, _, h3, ha⟩ | ⟨hc, _, _, h4, ha, hk⟩ | ⟨hc, _, h3, h4, ha⟩
  · rw [hs] at h2; cases h2
  · rcases hst with ⟨ha', _⟩ | ⟨pv, ha', hf, hst⟩ | ⟨pv, p, ha', hf, hst⟩
    · rw [ha] at ha'; cases ha'
    · rw [ha] at ha'; cases ha'
      rw [hst, outBase_class hc]
      exact ⟨⟨_, hperm, .refl _⟩, Or.inr (Or.inl ⟨rfl, rfl, rfl, by omega, none, hf.symm, rfl, rfl,
        trig_setTrig_same _ _ _⟩)⟩
    · rw [ha] at ha'; cases ha'
      rw [hst, outBase_class hc]
      exact ⟨⟨_, hperm, hpush_perm _ _⟩, Or.inr (Or.inl ⟨rfl, rfl, rfl, by omega, some p, hf.symm, rfl, rfl,
        trig_setTrig_same _ _ _⟩)⟩
  · rcases hst with ⟨_, hst⟩ | ⟨pv, ha', _⟩ | ⟨pv, p, ha', _⟩
    · rw [hst, outBase_class hc, hk]
      exact ⟨⟨_, hperm, hpush_perm _ _⟩, Or.inr (Or.inr ⟨rfl, rfl, rfl, h4, rfl, rfl, rfl⟩)⟩
    · rw [ha] at ha'; cases ha'
    · rw [ha] at ha'; cases ha'
  · rcases hst with ⟨ha', _⟩ | ⟨pv, ha', hf, hst⟩ | ⟨pv, p, ha', hf, hst⟩
    · rw [ha] at ha'; cases ha'
    · rw [ha] at ha'; cases ha'
      rw [hst, outBase_class hc]
      exact ⟨⟨_, hperm, .refl _⟩, Or.inl ⟨rfl, rfl, rfl, h3, h4, none, hf.symm, rfl, rfl,
        trig_setTrig_same _ _ _⟩⟩
    · rw [ha] at ha'; cases ha'
      rw [hst, outBase_class hc]
      exact ⟨⟨_, hperm, hpush_perm _ _⟩, Or.inl ⟨rfl, rfl, rfl, h3, h4, some p, hf.symm, rfl, rfl,
        trig_setTrig_same _ _ _⟩⟩

/-- a suspended entry that is popped is neither executed nor reported nor asked: it goes back with the
sentinel priority -/
theorem C04_suspended_untouched (s : SState) (now thr : Int) (h : Inv s.q) (e : Entry)
    (hp : (step s now thr).2.popped = some e) (hs : e.suspended = true) :
    (step s now thr).2.dispatched = false ∧ (step s now thr).2.misfired = false ∧
    (step s now thr).2.calls = [] ∧ (step s now thr).2.pushed = some { e with prio := maxInt64 } ∧
    (step s now thr).1.trigs = s.trigs := by
  obtain ⟨q1, _, _, _, hst⟩ := step_popped s now thr h e hp
  rcases classify_cases e now thr with ⟨hc, _, ha, hk⟩ | ⟨_, h2, _⟩ | ⟨_, h2, _⟩ | ⟨_, h2, _⟩
  · rcases hst with ⟨_, hst⟩ | ⟨pv, ha', _⟩ | ⟨pv, p, ha', _⟩
    · rw [hst, outBase_class hc, hk]
      exact ⟨rfl, rfl, rfl, rfl, rfl⟩
    · rw [ha] at ha'; cases ha'
    · rw [ha] at ha'; cases ha'
  all_goals rw [hs] at h2; cases h2

/-- A fire time is reported as misfired (and skipped) exactly when the loop is more than the threshold
late for it; no assumption on the state. -/
theorem C04_misfire_iff_late (s : SState) (now thr : Int) (e : Entry)
    (hp : (step s now thr).2.popped = some e) :
    (step s now thr).2.misfired = true ↔ (e.suspended = false ∧ now - e.prio > thr) := by
  rcases step_out_basic s now thr with ⟨_, hs⟩ | ⟨q1, e', _, hp', _, _, hm⟩
  · rw [hs] at hp; cases hp
  · rw [hp] at hp'
    injection hp' with hp'
    subst hp'
    rw [hm]
    rcases classify_cases e now thr with ⟨hc, h2⟩ | ⟨hc, h2, h3⟩ | ⟨hc, h2, h3, h4⟩ | ⟨hc, h2, h3, h4⟩ <;>
      rw [hc]
    · simp [h2]
    · simp only [beq_self_eq_true, true_iff]; exact ⟨h2, by omega⟩
    · simp only [show (Class.notDue == Class.outdated) = false from rfl, Bool.false_eq_true, false_iff]
      intro hh; omega
    · simp only [show (Class.valid == Class.outdated) = false from rfl, Bool.false_eq_true, false_iff]
      intro hh; omega

theorem C04_misfire_only_if_late (s : SState) (now thr : Int) (e : Entry)
    (hm : (step s now thr).2.misfired = true) (hp : (step s now thr).2.popped = some e) :
    now - e.prio > thr ∧ e.suspended = false ∧ (step s now thr).2.dispatched = false := by
  have h1 := (C04_misfire_iff_late s now thr e hp).mp hm
  refine ⟨h1.2, h1.1, ?_⟩
  rcases step_out_basic s now thr with ⟨_, hs⟩ | ⟨q1, e', _, _, _, hd, hm'⟩
  · rw [hs] at hp; cases hp
  · rw [hm'] at hm
    rw [hd, eq_of_beq hm]
    rfl

/-- When the trigger reports that no further fire time exists the job leaves the registry (everything
else stays), and if the popped fire time was on time it has still been handed to a worker. -/
theorem C04_leaves_registry (s : SState) (now thr : Int) (h : Inv s.q) (e : Entry)
    (hp : (step s now thr).2.popped = some e)
    (hnone : ∃ pv, (step s now thr).2.calls = [⟨e.tag, pv, none⟩]) :
    ¬ hasKey (step s now thr).1.q e.group e.name ∧ (step s now thr).2.pushed = none ∧
    (step s now thr).1.q.toList.Perm (s.q.toList.erase e) ∧
    ((step s now thr).2.cls = some .valid ∨ (step s now thr).2.cls = some .outdated) ∧
    ((step s now thr).2.cls = some .valid → (step s now thr).2.dispatched = true) ∧
    ((step s now thr).2.cls = some .outdated → (step s now thr).2.misfired = true) := by
  obtain ⟨pv', hcalls⟩ := hnone
  obtain ⟨q1, hperm, _, hnk, hst⟩ := step_popped s now thr h e hp
  rcases hst with ⟨_, hst⟩ | ⟨pv, ha, hf, hst⟩ | ⟨pv, p, _, _, hst⟩
  · rw [hst] at hcalls; cases hcalls
  · rw [hst]
    refine ⟨hnk, rfl, (perm_erase_of_cons hperm).symm, ?_⟩
    obtain ⟨_, ⟨hc, _⟩ | ⟨hc, _⟩⟩ := askedWith_some_active ha <;> rw [outBase_class hc] <;>
      simp
  · rw [hst] at hcalls
    simp [outBase] at hcalls

/-- **No drift.**  A job with a `SimpleTrigger` of interval `I` whose next fire time is `f0 = x.prio`;
ANY history of loop steps at arbitrary clock readings (spurious, late within the threshold, out of
order, interleaved with steps that serve other jobs) in which no step finds the job more than `thr`
late.  Then the fire times dispatched for the job are exactly `f0, f0 + I, f0 + 2 I, …` — whatever the
actual clock readings were — each `NextFireTime` call was made with the scheduled fire time (not the
clock) as argument, and the job sits in the registry with fire time `f0 + k I`.

`hov` (no overflow): the interval addition saturates at `maxInt64` (`addNanos`, see `C04_saturates`), so the
arithmetic progression holds as long as `clock + I` is representable at every step of the history.  This is a
statement about the clock readings only, not about the fire times: a fire time is dispatched only when it is
due (`x.prio + i I ≤ now`, `C03_never_early`), so `x.prio + i I + I ≤ now + I ≤ maxInt64` at every
dispatching step, and a step that does not dispatch asks nothing.  For real clock readings (UnixNano, about
`1.8e18`) it holds for every interval up to about 234 years. -/
theorem C04_no_drift (thr I : Int) (s : SState) (hwf : WF s) (x : Entry) (hx : x ∈ s.q.toList)
    (hxs : x.suspended = false) (htr : s.trig x.tag = .simple I) (evs : List Ev)
    (hos : OnlySteps evs) (hno : NeverOutdated x.tag (run thr s evs).2)
    (hov : I ≤ 0 ∨ ∀ now, Ev.step now ∈ evs → now + I ≤ maxInt64) :
    ∃ k : Nat,
      dispatchTimes x.tag (run thr s evs).2 =
        (List.range k).map (fun (i : Nat) => x.prio + (i : Int) * I) ∧
      (callLog (run thr s evs).2).filter (fun c => c.tag == x.tag) =
        (List.range k).map (fun (i : Nat) =>
          (⟨x.tag, x.prio + (i : Int) * I, some (x.prio + (i : Int) * I + I)⟩ : TrigCall)) ∧
      ({ x with prio := x.prio + (k : Int) * I } : Entry) ∈ (run thr s evs).1.q.toList ∧
      (run thr s evs).1.trig x.tag = .simple I := by
  -- `hxs` is not needed: a suspended entry is never asked nor dispatched, the statement holds of it with `k = 0`
  obtain ⟨k, h1, h2, h3, h4⟩ := no_drift_aux thr I x.tag evs s x hwf hx rfl htr hos hno hov
  refine ⟨k, h1, ?_, h3, h4⟩
  rw [h2, h1, List.map_map]
  rfl

/-- the hypotheses of `C04_no_drift` right after `ScheduleJob` with a simple trigger at clock reading
`now0`: first fire time `f0 = satAdd now0 I`, that is `now0 + I`, or `maxInt64` if that overflows
(`C04_saturates`, `satAdd_eq`) -/
theorem C04_no_drift_start (s : SState) (hwf : WF s) (now0 I : Int) (a : SchedArgs)
    (ha : a.trig = some (.simple I)) (hs : a.suspended = false) (hfresh : AbsentTag a.tag s)
    (hok : (schedule s now0 a).2.1 = none) :
    WF (schedule s now0 a).1 ∧ a.entry (satAdd now0 I) ∈ (schedule s now0 a).1.q.toList ∧
    (a.entry (satAdd now0 I)).suspended = false ∧
    (schedule s now0 a).1.trig (a.entry (satAdd now0 I)).tag = .simple I := by
  obtain ⟨t, p, ht, _, hc | hc, hmem, _⟩ := schedule_ok_facts s now0 a hwf.inv hok
  · rw [hs] at hc; cases hc.1
  · rw [ha] at ht
    cases ht
    obtain ⟨_, hp, htr, _⟩ := hc
    obtain rfl : satAdd now0 I = p := Option.some.inj hp
    exact ⟨schedule_wf hwf now0 a hfresh, hmem, hs, htr⟩

/-- **Run once.**  `ScheduleJob` at clock reading `now0` with a `RunOnceTrigger` of delay `d` (a new
trigger object) succeeded: the job is registered with the single fire time `f = satAdd now0 d`, that is
`now0 + d`, or `maxInt64` if that overflows (`C04_saturates`, `satAdd_eq`).  Then for EVERY
continuation `evs` (loop steps at any clock readings, any API calls — later `ScheduleJob`s bring their
own trigger objects):
1. the job is dispatched at most once in total, and only for the fire time `f`; every later call
   on its trigger answers "no further fire time";
2. if some step at a clock reading within `[f, f + thr]` pops the (active) job, that step
   dispatches it; in total the job is then dispatched exactly once; afterwards it is never popped,
   asked or dispatched again, its tag is not in the registry, and its key is not in the registry unless
   a later `ScheduleJob` brings that key again. -/
theorem C04_run_once (thr : Int) (s s1 : SState) (calls : List TrigCall) (hwf : WF s) (now0 d : Int)
    (a : SchedArgs) (ha : a.trig = some (.runOnce d false)) (hs : a.suspended = false)
    (hfresh : AbsentTag a.tag s) (hsched : schedule s now0 a = (s1, none, calls)) :
    a.entry (satAdd now0 d) ∈ s1.q.toList ∧ calls = [⟨a.tag, now0, some (satAdd now0 d)⟩] ∧
    ∀ evs : List Ev, FreshTags evs → FreshFor s1 evs →
      (dispatchTimes a.tag (run thr s1 evs).2 = [] ∨
        dispatchTimes a.tag (run thr s1 evs).2 = [satAdd now0 d]) ∧
      (∀ c ∈ callLog (run thr s1 evs).2, c.tag = a.tag → c.result = none) ∧
      ∀ (evs1 : List Ev) (now : Int) (evs2 : List Ev), evs = evs1 ++ .step now :: evs2 →
        ∀ e, (step (run thr s1 evs1).1 now thr).2.popped = some e → e.tag = a.tag →
          e.suspended = false → satAdd now0 d ≤ now → now ≤ satAdd now0 d + thr →
          (step (run thr s1 evs1).1 now thr).2.dispatched = true ∧
          e = a.entry (satAdd now0 d) ∧
          dispatchTimes a.tag (run thr s1 evs).2 = [satAdd now0 d] ∧
          (∀ o ∈ (run thr (step (run thr s1 evs1).1 now thr).1 evs2).2, o.quiet a.tag) ∧
          AbsentTag a.tag (run thr s1 evs).1 ∧
          ((∀ ev ∈ evs2, ev.schedulesKey a.group a.name = false) →
            ¬ hasKey (run thr s1 evs).1.q a.group a.name) := by
  have hwf1 := schedule_wf hwf now0 a hfresh
  have hfacts := schedule_ok_facts s now0 a hwf.inv (by rw [hsched])
  rw [hsched] at hwf1 hfacts
  obtain ⟨t, p, ht, _, hc | hc, hmem, _⟩ := hfacts
  · rw [hs] at hc; cases hc.1
  rw [ha] at ht
  cases ht
  obtain ⟨_, hp, htr, hcl⟩ := hc
  obtain rfl : satAdd now0 d = p := Option.some.inj hp
  have htr1 : s1.trig a.tag = .runOnce d true := htr
  have hT : ∀ pv, (Trig.runOnce d true).fire pv = (none, .runOnce d true) := fun _ => rfl
  refine ⟨hmem, hcl, ?_⟩
  intro evs hft hff
  have hns : a.tag ∉ schedTags evs := fun hh => hff a.tag hh _ hmem rfl
  -- entries with this tag: exactly the new one
  have hR1 : ∀ x ∈ s1.q.toList, x.tag = a.tag → x.suspended = false → x ∈ some (a.entry (satAdd now0 d)) :=
    fun x hx hxt _ => congrArg some (hwf1.tags _ hmem x hx hxt.symm)
  obtain ⟨r1, r2, _, _⟩ :=
    run_spent_once thr a.tag (some (a.entry (satAdd now0 d))) _ hT evs s1 hwf1 hft hff hns htr1 hR1
  refine ⟨r1, r2, ?_⟩
  intro evs1 now evs2 hevs e hpop het hes hlo hhi
  subst hevs
  obtain ⟨hwf2, hft2, hff2⟩ := run_fresh thr evs1 (.step now :: evs2) s1 hwf1 hft hff
  have hns1 : a.tag ∉ schedTags evs1 := by
    rw [schedTags_append] at hns
    exact fun hh => hns (List.mem_append_left _ hh)
  have hns2 : a.tag ∉ schedTags evs2 := by
    rw [schedTags_append, schedTags_cons] at hns
    exact fun hh => hns (List.mem_append_right _ (List.mem_append_right _ hh))
  obtain ⟨_, _, htr2, hR2⟩ := run_spent_once thr a.tag (some (a.entry (satAdd now0 d))) _ hT evs1 s1 hwf1
    (freshTags_append_left hft) (fun t ht => hff t (by rw [schedTags_append]; exact List.mem_append_left _ ht))
    hns1 htr1 hR1
  generalize hs2 : (run thr s1 evs1).1 = s2 at *
  have hk2 := apply_kind thr s2 hwf2.wf0 (.step now)
  have he2 : e ∈ s2.q.toList := (kind_log hk2).pop _ e rfl hpop
  have hee : e = a.entry (satAdd now0 d) := (Option.some.inj (hR2 e he2 het hes)).symm
  have hprio : e.prio = satAdd now0 d := by rw [hee]; rfl
  obtain ⟨_, hacc⟩ := C04_accounted s2 now thr hwf2.inv e hpop hes
  have hvalid : (step s2 now thr).2.dispatched = true ∧
      (step s2 now thr).2.calls = [⟨e.tag, e.prio, none⟩] := by
    rcases hacc with ⟨_, hd, _, _, _, r, hr, hcs, _⟩ | ⟨_, _, _, hlate, _⟩ | ⟨_, _, _, hearly, _⟩
    · refine ⟨hd, ?_⟩
      rw [hcs, hr, het, htr2]
      rfl
    · omega
    · omega
  obtain ⟨hnk, _, hperm, _⟩ := C04_leaves_registry s2 now thr hwf2.inv e hpop ⟨e.prio, hvalid.2⟩
  have hwf3 : WF0 (step s2 now thr).1 := kind_wf0 hwf2.wf0 hk2
  have habs3 : AbsentTag a.tag (step s2 now thr).1 := by
    intro x hx hxt
    have := (mem_erase_iff_of_inv hwf2.inv e x).mp (hperm.mem_iff.mp hx)
    exact this.2 (hwf2.tags x this.1 e he2 (by rw [hxt, het]))
  obtain ⟨habs4, hquiet⟩ := run_absent thr a.tag evs2 _ hwf3 habs3 hns2
  have hrun : run thr s1 (evs1 ++ .step now :: evs2) =
      ((run thr (step s2 now thr).1 evs2).1,
        (run thr s1 evs1).2 ++ (apply thr s2 (.step now)).2 :: (run thr (step s2 now thr).1 evs2).2) := by
    rw [run_append, run_cons, hs2]
    rfl
  -- the step's own observation dispatches `satAdd now0 d`
  have hdt : (apply thr s2 (.step now)).2.dispTime? a.tag = some (satAdd now0 d) := by
    apply (dispTime_some_iff _ _ _).mpr
    refine ⟨⟨0, e.tag, e.prio⟩, ?_, het, hprio⟩
    show Obs.disp? { calls := (step s2 now thr).2.calls, out := some (step s2 now thr).2 } 0 = _
    unfold Obs.disp?
    simp only [hvalid.1, hpop, if_true]
  rw [hrun] at r1 ⊢
  have hexact : dispatchTimes a.tag ((run thr s1 evs1).2 ++
      (apply thr s2 (.step now)).2 :: (run thr (step s2 now thr).1 evs2).2) = [satAdd now0 d] := by
    rcases r1 with r1 | r1
    · rw [dispatchTimes_append, dispatchTimes_cons, hdt] at r1
      simp at r1
    · exact r1
  refine ⟨hvalid.1, hee, hexact, hquiet, habs4, ?_⟩
  · exact run_nokey thr a.group a.name evs2 _ hwf3 (by rw [hee] at hnk; exact hnk)

/-- the hypotheses of `C04_run_once` / `C04_no_drift_start` hold at every `ScheduleJob` of every fresh
history from the empty scheduler -/
theorem C04_hyps_reachable (thr : Int) (evs0 : List Ev) (now0 : Int) (a : SchedArgs) (evs : List Ev)
    (hft : FreshTags (evs0 ++ .schedule now0 a :: evs)) :
    WF (run thr {} evs0).1 ∧ AbsentTag a.tag (run thr {} evs0).1 ∧ FreshTags evs ∧
      FreshFor (schedule (run thr {} evs0).1 now0 a).1 evs := by
  obtain ⟨hwf, h2, h3⟩ := run_fresh thr evs0 (.schedule now0 a :: evs) {} wf_empty hft (freshFor_empty _)
  obtain ⟨h4, h5, h6⟩ := fresh_cons h2 h3 (apply_kind thr _ hwf.wf0 _)
  exact ⟨hwf, h4 a.tag rfl, h5, h6⟩

/-! ## overflow of the interval addition: the fire time saturates, the loop does not spin

`SimpleTrigger` / `RunOnceTrigger` compute `prev + interval` with `addNanos` (`satAdd`): an interval beyond
about 292 years from `prev` (for instance `time.Duration(math.MaxInt64)` used as "never") answers the largest
representable time instead of wrapping around to a time in the distant past. -/

/-- **Saturation.**  A `SimpleTrigger` of interval `I > 0` (resp. an unexpired `RunOnceTrigger` of delay `I`)
asked at `prev` with `prev + I` not representable answers exactly `maxInt64`. -/
theorem C04_saturates (I prev : Int) (hI : I > 0) (hov : prev + I > maxInt64) :
    Trig.fire (.simple I) prev = (some maxInt64, .simple I) ∧
    Trig.fire (.runOnce I false) prev = (some maxInt64, .runOnce I true) := by
  rw [fire_simple, fire_runOnce, satAdd_sat hI hov]
  exact ⟨rfl, rfl⟩

/-- The answer of the two interval triggers in general: the exact sum whenever that is representable (or the
interval is not positive); for a positive interval and a representable `prev` never a time before `prev`
(what the wrapping addition violated) and never beyond `maxInt64`; strictly later than `prev` unless `prev`
is `maxInt64` itself. -/
theorem C04_interval_answer (I prev : Int) :
    (Trig.fire (.simple I) prev).1 = some (satAdd prev I) ∧
    (Trig.fire (.runOnce I false) prev).1 = some (satAdd prev I) ∧
    (¬ (I > 0 ∧ prev + I > maxInt64) → satAdd prev I = prev + I) ∧
    (I > 0 → prev ≤ maxInt64 → prev ≤ satAdd prev I ∧ satAdd prev I ≤ maxInt64) ∧
    (I > 0 → prev < maxInt64 → prev < satAdd prev I) :=
  ⟨rfl, rfl, satAdd_eq, fun hI hp => ⟨satAdd_ge hI hp, satAdd_le_max hp⟩, satAdd_gt⟩

/-- `ScheduleJob` with such a trigger registers the job with fire time `maxInt64` (the trigger was asked once,
with the clock reading, and answered `maxInt64`). -/
theorem C04_saturated_registered (s : SState) (hwf : WF s) (now0 I : Int) (a : SchedArgs)
    (ha : a.trig = some (.simple I) ∨ a.trig = some (.runOnce I false)) (hs : a.suspended = false)
    (hI : I > 0) (hov : now0 + I > maxInt64) (hok : (schedule s now0 a).2.1 = none) :
    a.entry maxInt64 ∈ (schedule s now0 a).1.q.toList ∧
    (schedule s now0 a).2.2 = [⟨a.tag, now0, some maxInt64⟩] := by
  obtain ⟨t, p, ht, _, hc | hc, hmem, _⟩ := schedule_ok_facts s now0 a hwf.inv hok
  · rw [hs] at hc; cases hc.1
  · obtain ⟨_, hp, _, hcalls⟩ := hc
    have hf : (t.fire now0).1 = some (satAdd now0 I) := by
      rcases ha with ha | ha <;> rw [ha] at ht <;> cases ht <;> rfl
    rw [hf, satAdd_sat hI hov] at hp
    cases hp
    exact ⟨hmem, hcalls⟩

/-- **A saturated fire time is not due — one step.**  A step at a clock reading `now < maxInt64` (threshold
`thr ≥ 0`) that pops an active entry with fire time `maxInt64` classifies it `notDue`: not dispatched, not
reported as misfired, the trigger is NOT asked (no re-basing on the clock), the very same entry goes back, no
trigger object changes.  And the step popped it only because nothing earlier was there: every entry of the
registry has fire time `≥ maxInt64` (the queue hands out a minimum, `C11_pop_min`), so the saturated entry
never precedes — never starves — an entry with a representable fire time. -/
theorem C04_saturated_not_due (s : SState) (now thr : Int) (h : Inv s.q) (hthr : 0 ≤ thr)
    (hnow : now < maxInt64) (e : Entry) (hp : (step s now thr).2.popped = some e)
    (hs : e.suspended = false) (hprio : e.prio = maxInt64) :
    (step s now thr).2.cls = some .notDue ∧ (step s now thr).2.dispatched = false ∧
    (step s now thr).2.misfired = false ∧ (step s now thr).2.calls = [] ∧
    (step s now thr).2.pushed = some e ∧ (step s now thr).1.trigs = s.trigs ∧
    (step s now thr).1.q.toList.Perm s.q.toList ∧
    ∀ y ∈ s.q.toList, maxInt64 ≤ y.prio := by
  obtain ⟨⟨rest, hperm, hperm'⟩, hacc⟩ := C04_accounted s now thr h e hp hs
  have hmin : ∀ y ∈ s.q.toList, maxInt64 ≤ y.prio := by
    obtain ⟨_, _, hmin, _⟩ := step_popped s now thr h e hp
    rw [← hprio]
    exact hmin
  rcases hacc with ⟨_, _, _, _, hdue, _⟩ | ⟨_, _, _, hlate, _⟩ | ⟨h1, h2, h3, _, h5, h6, h7⟩
  · omega
  · omega
  · refine ⟨h1, h2, h3, h5, h6, h7, ?_, hmin⟩
    rw [h6] at hperm'
    exact hperm'.trans hperm.symm

/-- **No spin — whole histories.**  An active job whose fire time is `maxInt64` (a saturated answer), ANY
history of loop steps at clock readings before `maxInt64`: the job is never dispatched, its trigger is never
asked again (so it is never re-based, never reported as misfired), it stays in the registry as it is.  (With
the wrapping addition the fire time was negative instead: `C04_overflow_spins_unrepaired`.) -/
theorem C04_saturated_never_spins (thr : Int) (hthr : 0 ≤ thr) (s : SState) (hwf : WF s) (x : Entry)
    (hx : x ∈ s.q.toList) (hxs : x.suspended = false) (hprio : x.prio = maxInt64) (evs : List Ev)
    (hos : OnlySteps evs) (hnows : ∀ now, Ev.step now ∈ evs → now < maxInt64) :
    dispatchTimes x.tag (run thr s evs).2 = [] ∧
    (∀ c ∈ callLog (run thr s evs).2, c.tag ≠ x.tag) ∧
    x ∈ (run thr s evs).1.q.toList ∧ (run thr s evs).1.trig x.tag = s.trig x.tag :=
  -- `hxs` is not needed: a suspended entry is not asked either, whatever its fire time
  parked_aux thr hthr s hwf x hx hprio evs hos hnows

/-! ### negative control: the unrepaired (wrapping) addition spins -/

/-- `prev + interval` in int64 arithmetic as the code before repair d24dc25 computed it (wrap-around at the
upper end; the arguments of interest are non-negative) -/
def wrapAdd (t d : Int) : Int := if t + d > maxInt64 then t + d - 2 ^ 64 else t + d

theorem wrapAdd_neg (t d : Int) (ht : t ≤ maxInt64) (hd : d ≤ maxInt64) (hov : t + d > maxInt64) :
    wrapAdd t d < 0 := by
  unfold wrapAdd
  rw [if_pos hov]
  unfold maxInt64 at *
  omega

/-- `addNanos` read literally in int64 arithmetic: the wrapped sum, replaced by `math.MaxInt64` when the interval is
positive and the wrapped sum is smaller than `t` -/
def goAddNanos (t d : Int) : Int := if d > 0 ∧ wrapAdd t d < t then maxInt64 else wrapAdd t d

/-- **The model's `satAdd` is `addNanos`** on int64 arguments: for a positive interval always (the test
`next < t` on the wrapped sum detects exactly the sums beyond `maxInt64`), for a non-positive interval as long as
the sum does not fall below `MinInt64` (then nothing wraps). -/
theorem C04_addNanos_is_satAdd (t d : Int) (ht : -maxInt64 - 1 ≤ t ∧ t ≤ maxInt64) (hd : d ≤ maxInt64)
    (hlow : 0 < d ∨ -maxInt64 - 1 ≤ t + d) : goAddNanos t d = satAdd t d := by
  -- `hlow` is not needed: `wrapAdd` wraps at the upper end only, so a sum below `MinInt64` is left as it
  -- is on both sides
  unfold goAddNanos wrapAdd satAdd
  by_cases hov : t + d > maxInt64
  · -- the sum wrapped: it came out below `t`, and `d` was positive
    have hd0 : d > 0 := by omega
    have hlt : t + d - 2 ^ 64 < t := by unfold maxInt64 at hd; omega
    rw [if_pos hov, if_pos ⟨hd0, hlt⟩, if_pos ⟨hd0, hov⟩]
  · rw [if_neg hov, if_neg (fun h : d > 0 ∧ t + d < t => by omega),
      if_neg (fun h : d > 0 ∧ t + d > maxInt64 => hov h.2)]

/-- **The unrepaired trigger spins.**  An active entry with a negative fire time (what the wrapping addition
answered for an overflowing interval: `wrapAdd_neg`) popped at a clock reading `now ≥ thr`: the step finds it
outdated, does not dispatch it, reports a misfire and asks the trigger with the clock reading; if the trigger
answers as the unrepaired code did (`wrapAdd now I`, overflowing again because `now` is at least the earlier
clock reading) the entry goes back with a negative fire time AGAIN — the hypothesis of this lemma holds of
the entry after the step, so by induction every later step finds it outdated; and being negative it precedes
every entry with a real (non-negative) fire time: nothing else is ever dispatched. -/
theorem C04_overflow_spins_unrepaired (s : SState) (now thr I : Int) (h : Inv s.q) (e : Entry)
    (hp : (step s now thr).2.popped = some e) (hs : e.suspended = false) (hneg : e.prio < 0)
    (hnow : thr ≤ now) (hmax : now ≤ maxInt64) (hI : I ≤ maxInt64) (hov : now + I > maxInt64)
    (hf : ((s.trig e.tag).fire now).1 = some (wrapAdd now I)) :
    (step s now thr).2.cls = some .outdated ∧ (step s now thr).2.dispatched = false ∧
    (step s now thr).2.misfired = true ∧
    (step s now thr).2.calls = [⟨e.tag, now, some (wrapAdd now I)⟩] ∧
    (step s now thr).2.pushed = some { e with prio := wrapAdd now I } ∧
    ({ e with prio := wrapAdd now I } : Entry).prio < 0 ∧
    ({ e with prio := wrapAdd now I } : Entry) ∈ (step s now thr).1.q.toList := by
  obtain ⟨⟨rest, _, hperm'⟩, hacc⟩ := C04_accounted s now thr h e hp hs
  rcases hacc with ⟨_, _, _, hlo, _⟩ | ⟨h1, h2, h3, _, r, hr, h5, h6, _⟩ | ⟨_, _, _, hearly, _⟩
  · omega
  · rw [hf] at hr
    subst hr
    refine ⟨h1, h2, h3, h5, h6, wrapAdd_neg now I hmax hI hov, ?_⟩
    rw [h6] at hperm'
    exact hperm'.mem_iff.mpr (by simp)
  · omega

/-! ## non-vacuity -/
namespace C04Ex

def exA : SchedArgs := { group := "g", name := "a", tag := 1, trig := some (.simple 10) }
def exB : SchedArgs := { group := "g", name := "b", tag := 2, trig := some (.runOnce 5 false) }
def exC : SchedArgs := { group := "g", name := "c", tag := 3, trig := some (.fixed 40) }

def exS : SState := (run 3 {} [.schedule 0 exA, .schedule 1 exB]).1

/-- the examples on `exS` rewrite with this first, so that the run behind `exS` is evaluated once -/
theorem exS_val : exS =
    { q := #[{ group := "g", name := "b", prio := 6, tag := 2 }, { group := "g", name := "a", prio := 10, tag := 1 }],
      trigs := [(2, .runOnce 5 true), (1, .simple 10)] } :=
  SState.eq_mk (by decide +kernel) (by decide +kernel)

-- `C04_accounted`: the three cases all occur (threshold 3; `g/b` is due at 6, `g/a` at 10)
example : ((step exS 6 3).2.cls, (step exS 6 3).2.dispatched, (step exS 6 3).2.calls) =
    (some .valid, true, [⟨2, 6, none⟩]) := by rw [exS_val]; decide +kernel
example : ((step exS 5 3).2.cls, (step exS 5 3).2.dispatched, (step exS 5 3).2.calls) =
    (some .notDue, false, []) := by rw [exS_val]; decide +kernel
example : ((step exS 10 3).2.cls, (step exS 10 3).2.misfired, (step exS 10 3).2.calls) =
    (some .outdated, true, [⟨2, 10, none⟩]) := by rw [exS_val]; decide +kernel
-- `C04_leaves_registry`: on time, the run-once job is dispatched and leaves; late, it is reported and leaves
example : (step exS 6 3).1.q.toList.map (·.name) = ["a"] ∧ (step exS 10 3).1.q.toList.map (·.name) = ["a"] := by
  rw [exS_val]; decide +kernel
-- `C04_suspended_untouched`
example : (step (pause (pause exS true "g" "a").1 true "g" "b").1 50 3).2.popped.map (·.suspended) = some true := by
  rw [exS_val]; decide +kernel

def exD : SchedArgs := { group := "g", name := "d", tag := 4, trig := some (.simple 36) }
/-- `C04_no_drift`: job `g/a` (interval 10, first fire time 10) next to `g/d` (fires at 36); steps at 10,
12 (spurious: not due), 22 (2 late), 5 (clock went back: not due), 33 (3 late = the threshold), 36 (serves
the other job), 41 (1 late), 41 (not due) -/
def exSteps : List Ev := [.step 10, .step 12, .step 22, .step 5, .step 33, .step 36, .step 41, .step 41]
def exS1 : SState := (run 3 {} [.schedule 0 exA, .schedule 0 exD]).1
example : OnlySteps exSteps := by
  intro ev hev
  simp only [exSteps, List.mem_cons, List.not_mem_nil, or_false] at hev
  rcases hev with rfl | rfl | rfl | rfl | rfl | rfl | rfl | rfl <;> exact ⟨_, rfl⟩
example : ((run 3 exS1 exSteps).2.map (fun o => (o.out.bind (·.cls), o.out.bind (·.popped) |>.map (·.tag)))) =
    [(some .valid, some 1), (some .notDue, some 1), (some .valid, some 1), (some .notDue, some 1),
     (some .valid, some 1), (some .valid, some 4), (some .valid, some 1), (some .notDue, some 1)] := by
  decide +kernel
-- the dispatched fire times are 10, 20, 30, 40 although the steps ran at 10, 22, 33, 41
example : dispatchTimes 1 (run 3 exS1 exSteps).2 = [10, 20, 30, 40] := by decide +kernel
example : (callLog (run 3 exS1 exSteps).2).filter (fun c => c.tag == 1) =
    [⟨1, 10, some 20⟩, ⟨1, 20, some 30⟩, ⟨1, 30, some 40⟩, ⟨1, 40, some 50⟩] := by decide +kernel

/-- `C04_run_once`: history after scheduling the run-once job `g/b` at 1 (fire time 6) -/
def exAfter : List Ev := [.step 4, .schedule 5 exC, .step 7, .step 8, .pause true "g" "a", .step 60]
example : FreshTags ([.schedule 0 exA, .schedule 1 exB] ++ exAfter) := by decide
example : dispatchTimes 2 (run 3 exS exAfter).2 = [6] := by rw [exS_val]; decide +kernel
example : (run 3 exS exAfter).1.q.toList.map (·.name) = ["c", "a"] := by rw [exS_val]; decide +kernel

-- the hypotheses of `C04_no_drift` (state `exS1`, entry of `g/a`) ...
example : WF exS1 ∧ ({ group := "g", name := "a", prio := 10, tag := 1 } : Entry) ∈ exS1.q.toList ∧
    exS1.trig 1 = .simple 10 :=
  ⟨run_wf 3 _ {} wf_empty (by decide) (freshFor_empty _), by decide +kernel, by decide +kernel⟩
-- ... and of `C04_run_once` / `C04_no_drift_start` (state before the `ScheduleJob` of the run-once job)
def exS0 : SState := (run 3 {} [.schedule 0 exA]).1
example : WF exS0 ∧ AbsentTag exB.tag exS0 ∧ exB.trig = some (.runOnce 5 false) ∧
    ∃ s1 calls, schedule exS0 1 exB = (s1, none, calls) := by
  refine ⟨run_wf 3 _ {} wf_empty (by decide) (freshFor_empty _), ?_, rfl, _, _,
    Prod.ext rfl (Prod.ext ?_ rfl)⟩
  · unfold AbsentTag; decide +kernel
  · show (schedule exS0 1 exB).2.1 = none
    decide +kernel
-- the on-time step of `C04_run_once` (2): at 7 ∈ [6, 6 + 3] the run-once job is popped
example : (step (run 3 exS [.step 4, .schedule 5 exC]).1 7 3).2.popped.map (·.tag) = some 2 := by
  rw [exS_val]; decide +kernel

-- `C04_no_drift`, hypothesis `hov`: the clock readings of `exSteps` are far from the end of time
example : (10 : Int) ≤ 0 ∨ ∀ now, Ev.step now ∈ exSteps → now + 10 ≤ maxInt64 := by
  right
  intro now hm
  simp only [exSteps, List.mem_cons, List.not_mem_nil, or_false] at hm
  have h : now ≤ 41 := by
    rcases hm with h | h | h | h | h | h | h | h <;> injection h with h <;> omega
  unfold maxInt64; omega

/-- "never": a `SimpleTrigger` with `time.Duration(math.MaxInt64)` -/
def exN : SchedArgs := { group := "g", name := "never", tag := 5, trig := some (.simple maxInt64) }
/-- the first addition fits (from clock reading 100), the second one saturates -/
def exL : SchedArgs := { group := "g", name := "long", tag := 6, trig := some (.simple (maxInt64 / 4 * 3)) }
def bigI : Int := maxInt64 / 4 * 3

-- `C04_saturates` / `C04_interval_answer`
example : Trig.fire (.simple maxInt64) 100 = (some maxInt64, .simple maxInt64) ∧
    Trig.fire (.runOnce maxInt64 false) 100 = (some maxInt64, .runOnce maxInt64 true) :=
  C04_saturates maxInt64 100 (by decide) (by decide)
example : (Trig.fire (.simple bigI) 100).1 = some (100 + bigI) ∧
    (Trig.fire (.simple bigI) (100 + bigI)).1 = some maxInt64 := by decide +kernel
-- the boundary: the largest representable sum is not saturated away, one more is
example : satAdd 1 (maxInt64 - 1) = maxInt64 ∧ satAdd 0 maxInt64 = maxInt64 ∧ satAdd 2 (maxInt64 - 1) = maxInt64 ∧
    satAdd (maxInt64 - 5) 5 = maxInt64 ∧ satAdd (maxInt64 - 5) 4 = maxInt64 - 1 ∧ satAdd 7 (-9) = -2 := by
  decide +kernel

/-- the concrete starvation input: "never" beside a job with interval 10, both scheduled at 100 -/
def exS2 : SState := (run 3 {} [.schedule 100 exN, .schedule 100 exA]).1
def exSteps2 : List Ev := [.step 105, .step 110, .step 121, .step 130, .step 135]
-- `C04_saturated_registered`: the hypotheses hold, the job sits at `maxInt64`
example : WF ({} : SState) ∧ (schedule {} 100 exN).2.1 = none ∧ (100 : Int) + maxInt64 > maxInt64 ∧
    exS2.q.toList.map (fun e => (e.name, e.prio)) = [("a", 110), ("never", maxInt64)] :=
  ⟨wf_empty, by decide +kernel, by decide, by decide +kernel⟩
-- `C04_saturated_never_spins`: the other job fires at 110, 120, 130; "never" is not asked, not dispatched
example : dispatchTimes 1 (run 3 exS2 exSteps2).2 = [110, 120, 130] ∧
    dispatchTimes 5 (run 3 exS2 exSteps2).2 = [] ∧
    (callLog (run 3 exS2 exSteps2).2).filter (fun c => c.tag == 5) = [] := by decide +kernel
-- `C04_saturated_not_due`: alone in the registry the saturated entry IS popped (there is nothing earlier) and
-- goes back untouched
example : ((step (schedule {} 100 exN).1 200 3).2.popped.map (·.prio), (step (schedule {} 100 exN).1 200 3).2.cls,
    (step (schedule {} 100 exN).1 200 3).2.calls) = (some maxInt64, some .notDue, []) := by decide +kernel
-- first addition fits, second saturates: dispatched once at `100 + bigI`, then parked at `maxInt64`
example : dispatchTimes 6 (run 3 (schedule {} 100 exL).1 [.step 200, .step (100 + bigI + 1), .step (100 + bigI + 2)]).2 =
      [100 + bigI] ∧
    (run 3 (schedule {} 100 exL).1 [.step 200, .step (100 + bigI + 1), .step (100 + bigI + 2)]).1.q.toList.map (·.prio) =
      [maxInt64] := by decide +kernel

/-! ### negative control: the same input with the wrapping addition -/

/-- the unrepaired `SimpleTrigger(math.MaxInt64)` as a scripted trigger: it is asked at 100 (`ScheduleJob`),
then with the clock readings of the steps (105, 110) because every step finds it outdated -/
def exWAnswers : List (Option Int) :=
  [some (wrapAdd 100 maxInt64), some (wrapAdd 105 maxInt64), some (wrapAdd 110 maxInt64)]
def exW : SchedArgs := { group := "g", name := "never", tag := 5, trig := some (.script exWAnswers) }
def exS3 : SState := (run 3 {} [.schedule 100 exW, .schedule 100 exA]).1
example : wrapAdd 100 maxInt64 = -9223372036854775709 ∧ wrapAdd 105 maxInt64 < 0 ∧ wrapAdd 0 5 = 5 := by
  decide +kernel
-- `C04_addNanos_is_satAdd`: the literal int64 reading of `addNanos` on an overflowing, a fitting and a negative case
example : goAddNanos 100 maxInt64 = maxInt64 ∧ wrapAdd 100 maxInt64 < 100 ∧ goAddNanos 100 5 = 105 ∧
    goAddNanos 100 (-7) = 93 ∧ goAddNanos (maxInt64 - 5) 5 = maxInt64 ∧ goAddNanos maxInt64 1 = maxInt64 := by
  decide +kernel
-- both steps pop "never" (negative fire time: ahead of everything), find it outdated and ask it with the
-- clock; job `g/a`, due at 110, is not dispatched at 110: starved
example : (run 3 exS3 [.step 105, .step 110]).2.map
      (fun o => (o.out.bind (·.popped) |>.map (·.name), o.out.bind (·.cls), o.calls.map (·.prev))) =
    [(some "never", some .outdated, [105]), (some "never", some .outdated, [110])] ∧
    dispatchTimes 1 (run 3 exS3 [.step 105, .step 110]).2 = [] := by decide +kernel
-- the hypotheses of `C04_overflow_spins_unrepaired` at the first of these steps
example : ∃ e, (step exS3 105 3).2.popped = some e ∧ e.suspended = false ∧ e.prio < 0 ∧
    ((exS3.trig e.tag).fire 105).1 = some (wrapAdd 105 maxInt64) :=
  ⟨{ group := "g", name := "never", prio := wrapAdd 100 maxInt64, tag := 5 }, by decide +kernel, rfl,
    by decide +kernel, by decide +kernel⟩

end C04Ex

end Sched
