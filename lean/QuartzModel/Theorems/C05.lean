import QuartzModel.Generated.Facts
import QuartzModel.Proofs.WakeupLemmas
/-!
# C05 — a due job is dispatched promptly after any queue change (no lost wake-up)

Model: `Sched/Wakeup.lean` (execution loop × API calls × the `interrupt` channel, all interleavings, any number of
API calls, no fairness or timing assumption). The theorems are stated for an arbitrary parameter record `P`
satisfying the decidable well-formedness `WF P`; the facts regenerated from /repo's source are plugged in at the end
(`C05_facts_wf`, `C05_holds`), so a changed channel capacity, a blocking `Reset()`, a dropped or misplaced `Reset()`
call or a changed loop order breaks the `decide` and with it the proof.

What is proved: in every reachable state, a loop that is blocked in `select` with no token pending and no API call
between its mutation and its `Reset()` has a timer armed no later than the earliest fire time of the *current* queue
(`C05_parked_correct`), and a pending token always leads back to `Size()` (`C05_token_rereads`).
What is observed, not proved: "promptly" in wall-clock terms additionally needs the Go timer to fire close to its
deadline and the loop goroutine to be scheduled; the scenario harness `qh wakeup` measures that on the real scheduler.
-/
namespace Generated.Wakeup

/-- the regenerated facts as a parameter record of the model -/
def facts : _root_.Wakeup.Params where
  cap := interruptCap
  nonBlocking := resetNonBlocking
  sends := fun
    | .schedule => scheduleJob.1 | .delete => deleteJob.1 | .pause => pauseJob.1
    | .resume => resumeJob.1 | .clear => clear.1
  sendAfter := fun
    | .schedule => scheduleJob.2.1 | .delete => deleteJob.2.1 | .pause => pauseJob.2.1
    | .resume => resumeJob.2.1 | .clear => clear.2.1
  underLock := fun
    | .schedule => scheduleJob.2.2 | .delete => deleteJob.2.2 | .pause => pauseJob.2.2
    | .resume => resumeJob.2.2 | .clear => clear.2.2
  stepSends := fetchAndReschedule.1 && fetchAndReschedule.2.1
  rereads := loopRereads && decide (loopOrder = ["backingOff", "Size unless backingOff", "calculateNextTick", "timer.Reset", "select"])

end Generated.Wakeup

namespace Wakeup

/-- In every reachable state: if the earliest fire time has moved forward since the loop last read the queue, then
    a token is pending, or the mutating API call has its `Reset()` still ahead of it, or the loop has not yet passed
    the point where it reads the queue (it will read again before blocking). -/
theorem C05_invariant (P : Params) (hP : WF P) (s : St) (hr : Reachable P s) :
    s.dirty = true → s.token > 0 ∨ sendPending P s = true ∨ s.pc.beforeRead = true := by
  obtain ⟨q0, as, h⟩ := hr
  exact (inv_run P hP (init q0) as (inv_init P q0) s h).1

/-- No lost wake-up, for all interleavings of any number of API calls with the loop: whenever the loop is blocked
    in `select`, no token is pending and no API call is between its mutation and its `Reset()`, the armed timer
    fires no later than the earliest fire time of the current queue. -/
theorem C05_parked_correct (P : Params) (hP : WF P) (q0 : Due) (as : List Act) (s : St)
    (hr : run P (init q0) as = some s) (d : Deadline) (hpc : s.pc = .inSelect d)
    (htok : s.token = 0) (hapi : s.inFlight = false) : d.covers s.q = true := by
  obtain ⟨i1, _, i3⟩ := inv_run P hP (init q0) as (inv_init P q0) s hr
  apply i3 d (Or.inr hpc)
  cases hd : s.dirty
  · rfl
  · rcases i1 hd with h | h | h
    · omega
    · revert h hapi; unfold sendPending St.inFlight; cases s.api <;> simp
    · simp [hpc, Pc.beforeRead] at h

/-- the same, as unreachability of a lost state -/
theorem C05_never_lost (P : Params) (hP : WF P) (s : St) (hr : Reachable P s) : ¬ Lost s := by
  obtain ⟨q0, as, h⟩ := hr
  rintro ⟨d, hpc, htok, hapi, hc⟩
  have := C05_parked_correct P hP q0 as s h d hpc htok (by simp [St.inFlight, hapi])
  simp [this] at hc

/-- A pending token is never ignored: a loop blocked in `select` with a token can take it (nothing else is needed
    for that step), and taking it leads to `Size()`, i.e. to a fresh read of the queue. -/
theorem C05_token_rereads (P : Params) (hP : WF P) (s : St) (d : Deadline) (hpc : s.pc = .inSelect d)
    (htok : s.token > 0) :
    step P s .loopWakeToken = some { s with token := s.token - 1, pc := .atSize } := by
  simp [step, hpc, htok, afterWake, hP.2.2.1]

/-- a send under well-formed facts never blocks (`Reset()` cannot deadlock the caller or the loop) -/
theorem C05_send_never_blocks (P : Params) (hP : WF P) (s : St) : (send P s).isSome = true := by
  obtain ⟨n, _, h⟩ := send_wf hP s
  simp [h]

theorem C05_facts_wf : WF Generated.Wakeup.facts := by decide +kernel

theorem C05_holds (q0 : Due) (as : List Act) (s : St)
    (hr : run Generated.Wakeup.facts (init q0) as = some s) (d : Deadline) (hpc : s.pc = .inSelect d)
    (htok : s.token = 0) (hapi : s.inFlight = false) : d.covers s.q = true :=
  C05_parked_correct Generated.Wakeup.facts C05_facts_wf q0 as s hr d hpc htok hapi

/-! ## Negative controls: each ingredient of `WF` is needed

Starting from any well-formed `P`, changing one fact makes a lost-wake-up state reachable. -/

def setMut (f : Mut → Bool) (m : Mut) (b : Bool) : Mut → Bool := fun x => if x = m then b else f x

/-- the state all four runs below end in: parked on a timer that never fires over a queue with a due entry, no token, no call in flight -/
theorem lost_of_run (P : Params) (as : List Act)
    (h : run P (init none) as = some { q := some 5, token := 0, pc := .inSelect .never, api := .idle, dirty := true }) :
    ∃ s, Reachable P s ∧ Lost s :=
  ⟨_, ⟨none, as, h⟩, .never, rfl, rfl, rfl, rfl⟩

/-- capacity 0 (unbuffered channel, non-blocking send): a `Reset()` issued while the loop is between `timer.Reset`
    and `select` finds no receiver and is dropped. -/
theorem C05_lost_unbuffered (P : Params) (hP : WF P) :
    ∃ s, Reachable { P with cap := 0 } s ∧ Lost s := by
  have hs := (hP.mut .schedule rfl)
  refine lost_of_run _ [.loopSize false, .loopHead .never, .apiLock .schedule, .apiMutate (some 5), .apiSend, .apiUnlock,
    .loopSelect] ?_
  simp [run_cons, run_nil, step, init, send, setQ, Due.lt, Mut.allowed, hs.1, hs.2, hP.2.1]

/-- a mutator that can bring the earliest fire time forward but does not call `Reset()` -/
theorem C05_lost_without_send (P : Params) (hP : WF P) (m : Mut) (hm : m.canDecrease = true) :
    ∃ s, Reachable { P with sends := setMut P.sends m false } s ∧ Lost s := by
  have hs := (hP.mut m hm)
  refine lost_of_run _ [.loopSize false, .loopHead .never, .loopSelect, .apiLock m, .apiMutate (some 5), .apiSend,
    .apiUnlock] ?_
  have ha : m.allowed none (some 5) = true := by cases m <;> simp [Mut.canDecrease] at hm <;> rfl
  simp [run_cons, run_nil, step, init, setQ, Due.lt, ha, hs.2, setMut]

/-- `Reset()` before the mutation: the loop takes the token, reads the still unchanged queue and parks again -/
theorem C05_lost_send_before (P : Params) (hP : WF P) (m : Mut) (hm : m.canDecrease = true) :
    ∃ s, Reachable { P with sendAfter := setMut P.sendAfter m false } s ∧ Lost s := by
  have hs := (hP.mut m hm)
  have hcap : 0 < P.cap := hP.1
  refine lost_of_run _ [.loopSize false, .loopHead .never, .loopSelect, .apiLock m, .apiSend, .loopWakeToken,
    .loopSize false, .loopHead .never, .loopSelect, .apiMutate (some 5), .apiUnlock] ?_
  have ha : m.allowed none (some 5) = true := by cases m <;> simp [Mut.canDecrease] at hm <;> rfl
  simp [run_cons, run_nil, step, init, send, setQ, Due.lt, ha, hs.1, setMut, hcap, afterWake, hP.2.2.1]

/-- a loop that goes back to waiting on the old timer after an interrupt, without reading the queue again -/
theorem C05_lost_without_reread (P : Params) (hP : WF P) :
    ∃ s, Reachable { P with rereads := false } s ∧ Lost s := by
  have hs := (hP.mut .schedule rfl)
  have hcap : 0 < P.cap := hP.1
  refine lost_of_run _ [.loopSize false, .loopHead .never, .loopSelect, .apiLock .schedule, .apiMutate (some 5), .apiSend,
    .apiUnlock, .loopWakeToken, .loopSelect] ?_
  simp [run_cons, run_nil, step, init, send, setQ, Due.lt, Mut.allowed, hs.1, hs.2, hcap, afterWake]

/-- a blocking `Reset()` does not lose wake-ups but deadlocks: the loop signalling itself from
    `fetchAndReschedule` with a full channel blocks forever while holding `queueLocker`. -/
theorem C05_blocking_send_deadlocks (P : Params) (hP : WF P) (hstep : P.stepSends = true) :
    ∃ s, Reachable { P with nonBlocking := false, cap := 1 } s ∧ s.pc = .stepping ∧
      ∀ a, step { P with nonBlocking := false, cap := 1 } s a = none := by
  have hs := (hP.mut .schedule rfl)
  refine ⟨{ q := some 5, token := 1, pc := .stepping, api := .idle, dirty := true },
    ⟨none, [.loopSize false, .loopHead .never, .loopSelect, .apiLock .schedule, .apiMutate (some 5), .apiSend,
      .apiUnlock, .loopTick, .loopLock], ?_⟩, rfl, ?_⟩
  · simp [run_cons, run_nil, step, init, send, setQ, Due.lt, Mut.allowed, hs.1, hs.2]
  · intro a
    cases a <;> simp [step, send, setQ, hstep]

/-- a well-formed parameter record exists and the scenario "loop parked on an empty queue, a job is scheduled,
    the loop wakes, re-reads and parks on the new deadline" is a run of the model ending in a parked state. -/
example : run Generated.Wakeup.facts (init none)
    [.loopSize false, .loopHead .never, .loopSelect, .apiLock .schedule, .apiMutate (some 5), .apiSend, .apiUnlock,
     .loopWakeToken, .loopSize true, .loopHead (.at 5), .loopSelect] =
    some { q := some 5, token := 0, pc := .inSelect (.at 5), api := .idle, dirty := false } := by decide +kernel

/-- the premise of the invariant is satisfiable: `dirty` is set in reachable states -/
example : Reachable Generated.Wakeup.facts
    { q := some 7, token := 1, pc := .inSelect .never, api := .tokenSent .resume, dirty := true } :=
  ⟨none, [.loopSize false, .loopHead .never, .loopSelect, .apiLock .resume, .apiMutate (some 7), .apiSend], by decide⟩

/-- … and so is the in-flight exception: parked on a stale deadline while the caller is before its `Reset()` -/
example : Reachable Generated.Wakeup.facts
    { q := some 7, token := 0, pc := .inSelect .never, api := .mutated .resume, dirty := true } :=
  ⟨none, [.loopSize false, .loopHead .never, .loopSelect, .apiLock .resume, .apiMutate (some 7)], by decide⟩

end Wakeup
