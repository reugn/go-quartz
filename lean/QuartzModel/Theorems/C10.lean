import QuartzModel.Sched.Lifecycle
import QuartzModel.Proofs.LifecycleLemmas
import QuartzModel.Generated.Facts
/-!
# C10 — lifecycle: start / stop / cancel / wait / restart behave and leak nothing

Model: `QuartzModel/Sched/Lifecycle.lean` (Start, Stop, stopRun, stop, IsStarted, Wait, the watcher, loop, worker
and per-execution goroutines of quartz/scheduler.go). Every theorem quantifies over ALL interleavings of the
user's calls (`start`, `stop`, `cancel g`) with the internal steps of all goroutines of all generations.
`Cfg.std n` is the code as it is (generation guard in the watcher, Start completes a pending stop, IsStarted looks
at the run's context); `C10_facts` ties these three switches and the goroutine accounting to the source.
The `…_fails` / `…_unrepaired` / `…_hazard` theorems are negative controls: they prove that without the guard / without the
pre-stop the property is false, i.e. that the theorems really depend on those pieces of code.
-/
namespace Lifecycle

/-- the variant of the model selected by what the extractor found in quartz/scheduler.go -/
def cfgOfFacts (n : Nat) : Cfg :=
  { workers := n,
    guarded := Generated.Lifecycle.watcherCallsStopRun && Generated.Lifecycle.stopRunGuard,
    prestop := Generated.Lifecycle.startPrestop && Generated.Lifecycle.startEarlyReturn,
    ctxAware := Generated.Lifecycle.isStartedCtxAware }

/-- The source has the shape the model transcribes: every `go` statement of package quartz (there are four: watcher
    and loop in `Start`, the workers, the per-execution goroutine) is accounted for in the counter (`wg.Add(1)` right
    before, `defer wg.Done()` first); `Wait` creates no goroutine and writes nothing — it is exactly
    `select { case <-ctx.Done(): case <-sched.wg.zero(): }`; there are no other uses of `sched.wg`; the counter's
    `Add` makes a fresh `done` channel when it leaves zero and closes it when it returns to zero, `zero()` answers
    a closed channel iff `n = 0`; the watcher calls `stopRun` with the captured generation and `stopRun` compares it
    with `sched.run`; `Start` completes a pending stop, returns early when started, and has exactly the modelled
    statement list; `stop` returns early when not started, cancels and clears the flag; `started` is written nowhere
    else; `IsStarted` consults the run's context; the loop leaves on `ctx.Done()`; jobs receive the run's context.
    Encodings (harness/cmd/extract/x_lifecycle.go): `goSites` lists the `go` statements in source order as
    (function, kind), function 0 = `Start`, 1 = `startWorkers`, 2 = `executeAndReschedule` (3 = `Wait`, 9 = any other),
    kind 0 = counted as above (9 = not counted); `wgCalls` = [calls of `wg.Add`, of which `Add(1)` right before a
    counted `go`, calls of `wg.Done`, of which deferred first in a counted goroutine, calls of `wg.zero`, other uses
    of `sched.wg`]. -/
theorem C10_facts :
    (∀ n, cfgOfFacts n = Cfg.std n) ∧
    Generated.Lifecycle.goSites = [(0, 0), (0, 0), (1, 0), (2, 0)] ∧
    Generated.Lifecycle.wgCalls = [4, 4, 4, 4, 1, 0] ∧
    Generated.Lifecycle.counterShape = true ∧
    Generated.Lifecycle.startShape = true ∧ Generated.Lifecycle.stopLocked = true ∧
    Generated.Lifecycle.stopShape = true ∧ Generated.Lifecycle.waitShape = true ∧
    Generated.Lifecycle.loopExitsOnDone = true ∧ Generated.Lifecycle.jobsGetRunCtx = true ∧
    Generated.Lifecycle.startedWritesStd = true := by
  refine ⟨fun n => ?_, by decide, by decide, by decide, by decide, by decide, by decide, by decide, by decide,
    by decide, by decide⟩
  simp [cfgOfFacts, Cfg.std, Generated.Lifecycle.watcherCallsStopRun, Generated.Lifecycle.stopRunGuard,
    Generated.Lifecycle.startPrestop, Generated.Lifecycle.startEarlyReturn, Generated.Lifecycle.isStartedCtxAware]

/-- A second `Start` changes nothing (for every state, every variant); after a `Start` the flag is set, and for the
    code as it is `IsStarted` reports true. -/
theorem C10_start_idempotent (cfg : Cfg) (s s1 : St) (h : step cfg s .start = some s1) :
    step cfg s1 .start = some s1 ∧ s1.started = true ∧
    (cfg.prestop = true → isStarted cfg s1 = true) := by
  cases h
  have e := startBody_eq cfg s
  split at e <;> rw [e]
  · -- `Start` returned early: the flag was set and, with the pre-stop, the current context is live
    rename_i hc
    obtain ⟨hst, hcc⟩ := Bool.and_eq_true_iff.1 hc
    exact ⟨congrArg some e, hst, fun hp => by simp [hp] at hcc; simp [isStarted, hst, hcc]⟩
  · exact ⟨congrArg some (startBody_noop _ _ rfl (curCancelled_append ..)), rfl,
      fun _ => by simp [isStarted, curCancelled_append, newGen]⟩

/-- A second `Stop` changes nothing; after a `Stop` `IsStarted` reports false; `Stop` before any `Start` is a no-op. -/
theorem C10_stop_idempotent (cfg : Cfg) (s s1 : St) (h : step cfg s .stop = some s1) :
    step cfg s1 .stop = some s1 ∧ s1.started = false ∧ isStarted cfg s1 = false ∧
    step cfg init .stop = some init := by
  simp only [step] at h; cases h
  refine ⟨?_, stopBody_started s, by simp [isStarted, stopBody_started], rfl⟩
  simp only [step]; rw [stopBody_of_not_started _ (stopBody_started s)]

/-- For EVERY interleaving `as` of user calls and internal steps, `IsStarted` equals what the user's calls alone
    determine in call order (`expect`): true after a Start, false after a Stop or after the cancellation of the
    context of the current run; cancelling the context of an earlier run has no effect. No quiescence is needed. -/
theorem C10_isStarted_latest (n : Nat) (as : List Act) (s : St) (h : run (Cfg.std n) init as = some s) :
    isStarted (Cfg.std n) s = (expect as).2 ∧ s.gens.length = (expect as).1 := by
  obtain ⟨h1, h2⟩ := latest_run n as init s (0, false) inv_init rfl (by simp [isStarted, init]) h
  exact ⟨h2, h1⟩

/-- …and once the watchers have nothing left to do the `started` field itself says the same. -/
theorem C10_started_at_quiescence (n : Nat) (as : List Act) (s : St) (h : run (Cfg.std n) init as = some s)
    (hq : Quiet s) : s.started = (expect as).2 := by
  rw [← (C10_isStarted_latest n as s h).1, isStarted_std]
  cases hst : s.started with
  | false => rfl
  | true => simp [quiet_started (inv_reach _ s ⟨as, h⟩) hq hst]

/-- From any reachable state: cancelling the current run's context and calling Stop both make `IsStarted` false at
    once, and under EVERY continuation `as` (user calls and internal steps alike) the two systems move in lock-step:
    the same steps are enabled, `IsStarted` agrees at every point, the states differ at most in the `started` field
    (while the watcher has not reacted), and they are identical as soon as the watchers are quiescent. -/
theorem C10_cancel_eq_stop (n : Nat) (s : St) (hr : Reach (Cfg.std n) s) (hst : s.started = true)
    (sc ss : St) (hc : step (Cfg.std n) s (.cancel (s.gens.length - 1)) = some sc)
    (hs : step (Cfg.std n) s .stop = some ss) :
    isStarted (Cfg.std n) sc = false ∧ isStarted (Cfg.std n) ss = false ∧
    ∀ as, (run (Cfg.std n) sc as = none ∧ run (Cfg.std n) ss as = none) ∨
      ∃ sc' ss', run (Cfg.std n) sc as = some sc' ∧ run (Cfg.std n) ss as = some ss' ∧
        isStarted (Cfg.std n) sc' = isStarted (Cfg.std n) ss' ∧ (sc' = ss' ∨ ss' = clr sc') ∧
        (Quiet sc' → sc' = ss') := by
  have hi := inv_reach _ s hr
  have hic := inv_step _ hi hc
  obtain ⟨g, hg⟩ := exists_cur (hi.started_has hst)
  simp only [step, hg] at hc hs
  cases hc; cases hs
  have hcc := curCancelled_cancel_cur hg s.started s.wg
  -- `stop()` is this cancellation followed by clearing the flag
  have hsim : Sim { s with gens := s.gens.set (s.gens.length - 1) { g with cancelled := true } } (stopBody s) :=
    Or.inr ⟨by rw [stopBody_of_started hst, cancelAt_eq hg], hcc⟩
  refine ⟨by rw [isStarted_std, hcc]; exact Bool.and_false _, by rw [isStarted_std, stopBody_started]; rfl,
    fun as => ?_⟩
  rcases sim_run n as _ _ hsim with h | ⟨a', b', h1, h2, hs'⟩
  · exact Or.inl h
  · refine Or.inr ⟨a', b', h1, h2, sim_isStarted n hs', hs'.imp_right And.left, fun hq => ?_⟩
    rcases hs' with h | ⟨h, hcc'⟩
    · exact h
    · -- quiescent with the current context cancelled: the flag is clear already
      have hia : Inv a' := run_invariant (fun _ _ _ _ hi hs => inv_step _ hi hs) hic h1
      have hsa : a'.started = false :=
        Bool.eq_false_iff.2 fun hh => Bool.false_ne_true ((quiet_started hia hq hh).symm.trans hcc')
      rw [h]; cases a'; cases hsa; rfl

/-- A stopped scheduler can be started again, even immediately. After `Stop; Start` — and equally after
    `cancel; Start` — from ANY state, whatever the goroutines of earlier generations (in particular their stale
    watchers) do afterwards, the scheduler is started: `IsStarted` is true, the new run's context is live and its
    execution loop is alive (so it fires its jobs again). A watcher of generation g never stops generation g' > g. -/
theorem C10_restart (n : Nat) (s s' : St) (as : List Act) (hint : ∀ a ∈ as, a.isInternal = true) :
    (run (Cfg.std n) s (.stop :: .start :: as) = some s' → isStarted (Cfg.std n) s' = true ∧ Fresh s') ∧
    (run (Cfg.std n) s (.cancel (s.gens.length - 1) :: .start :: as) = some s' →
      isStarted (Cfg.std n) s' = true ∧ Fresh s') ∧
    (∀ i t, i + 1 < s.gens.length → step (Cfg.std n) s (.watcherStop i) = some t →
      t.started = s.started ∧ isStarted (Cfg.std n) t = isStarted (Cfg.std n) s) := by
  refine ⟨fun h => ?_, fun h => ?_, ?_⟩
  · simp only [run, step, Option.bind_some] at h
    have := fresh_run _ rfl as _ s' (fresh_startBody _ rfl (Or.inl (stopBody_started s))) hint h
    exact ⟨fresh_isStarted _ this, this⟩
  · simp only [run, step] at h
    cases hg : s.gens[s.gens.length - 1]? with
    | none => simp [hg] at h
    | some g =>
      simp only [hg, Option.bind_some] at h
      have := fresh_run _ rfl as _ s' (fresh_startBody _ rfl (Or.inr (curCancelled_cancel_cur hg _ _))) hint h
      exact ⟨fresh_isStarted _ this, this⟩
  · intro i t hi h
    rcases step_cases h with ⟨h, -⟩ | ⟨h, -⟩ | ⟨_, g, e, hg, -, rfl⟩ | ⟨hl, -⟩
    · cases h
    · cases h
    · cases e
      rcases stopRun_cases (Cfg.std n) (lt_of_getElem? hg) with ⟨e, -⟩ | ⟨-, e⟩
      · rw [e]; exact ⟨finishWatcher_started s i, isStarted_finishWatcher _ s i⟩
      · rw [e rfl, Nat.sub_add_cancel (Nat.zero_lt_of_lt hi)] at hi; exact absurd hi (Nat.lt_irrefl _)
    · cases hl

/-- Negative control — the historic defect. In the variant whose watcher calls plain `Stop()` the state
    `Start; Stop; Start; watcher₁` is reachable and has `started = false` (and the NEW run's context cancelled);
    run on to quiescence the scheduler stays
    stopped although the most recent call was `Start`. -/
theorem C10_restart_unguarded_fails :
    run { Cfg.std 0 with guarded := false } init [.start, .stop, .start, .watcherWake 0, .watcherStop 0] =
      some { started := false,
             gens := [{ cancelled := true, watcher := .done, loop := true, workers := 0, jobs := 0 },
                      { cancelled := true, watcher := .waiting, loop := true, workers := 0, jobs := 0 }],
             wg := 3 } ∧
    (∃ s, run { Cfg.std 0 with guarded := false } init
        [.start, .stop, .start, .watcherWake 0, .watcherStop 0, .watcherWake 1, .watcherStop 1] = some s ∧
      Quiet s ∧ s.started = false ∧ isStarted { Cfg.std 0 with guarded := false } s = false ∧
      (expect [.start, .stop, .start, .watcherWake 0, .watcherStop 0, .watcherWake 1, .watcherStop 1]).2 = true) := by
  constructor
  · decide +kernel
  · exact ⟨{ started := false, gens := [{ cancelled := true, watcher := .done, loop := true, workers := 0, jobs := 0 },
               { cancelled := true, watcher := .done, loop := true, workers := 0, jobs := 0 }], wg := 2 },
      (by decide +kernel), (by decide +kernel), rfl, (by decide +kernel), (by decide +kernel)⟩

/-- Negative control — the second defect (repaired by the `runCtx` check). Without Start's pre-stop,
    `Start; cancel; Start` followed by the watcher's reaction ends, quiescent, with the scheduler stopped although
    the most recent call was a `Start`. -/
theorem C10_cancel_start_race_unrepaired :
    ∃ s, run { Cfg.std 0 with prestop := false } init
        [.start, .cancel 0, .start, .watcherWake 0, .watcherStop 0] = some s ∧
      Quiet s ∧ s.started = false ∧ isStarted { Cfg.std 0 with prestop := false } s = false ∧
      (expect [.start, .cancel 0, .start, .watcherWake 0, .watcherStop 0]).2 = true := by
  exact ⟨{ started := false, gens := [{ cancelled := true, watcher := .done, loop := true, workers := 0, jobs := 0 }],
           wg := 1 },
    (by decide +kernel), (by decide +kernel), rfl, (by decide +kernel), (by decide +kernel)⟩

/-- In every reachable state the counter is exactly the number of live counted goroutines of all generations.
    Hence when it is zero no watcher, loop, worker or per-execution goroutine of any generation is alive, the scheduler
    is stopped, and no internal step is enabled at all: no job execution is in progress and none will start until the
    user calls `Start` again. (Fact: these four kinds are ALL the goroutines the package creates — `Wait` itself creates
    none, `C10_facts`.) Holds for every variant. -/
theorem C10_wait_sound (cfg : Cfg) (s : St) (hr : Reach cfg s) :
    s.wg = live s ∧
    (s.wg = 0 →
      (∀ g ∈ s.gens, g.watcher = .done ∧ g.loop = false ∧ g.workers = 0 ∧ g.jobs = 0) ∧
      s.started = false ∧
      ∀ a, a.isInternal = true → step cfg s a = none) := by
  have hi := inv_reach cfg s hr
  refine ⟨hi.wg_live, fun h0 => ?_⟩
  have hat := dead_of_wg_zero hi h0
  refine ⟨hat, ?_, no_internal_of_wg_zero cfg hi h0⟩
  cases hst : s.started with
  | false => rfl
  | true =>
    obtain ⟨g, hg⟩ := exists_cur (hi.started_has hst)
    exact absurd (hat g (List.mem_of_getElem? hg)).1 (hi.cur_watching g hg hst)

/-- When does `Wait` return because of the counter? A caller that enters `Wait` is released at once iff the counter
    is zero at that moment; a blocked caller is released only when the `done` channel it holds is closed, and then
    — provided no `Start` has taken effect since its call — the counter IS zero now: everything of every generation
    has exited (`C10_wait_sound`). (If a `Start` did take effect in between, the counter was zero at some moment
    after the call: the epoch the caller waited for has ended.) All interleavings, any number of callers. -/
theorem C10_wait_returns_at_zero (cfg : Cfg) (w : WSt) (hr : WReach cfg false w) :
    (∀ w', wstep cfg false w .waitCall = some w' →
      (w'.waiters.getLast? = some .released ↔ w.sched.wg = 0)) ∧
    (∀ k e g0 w', w.waiters[k]? = some (.blocked e g0) → wstep cfg false w (.waitWake k) = some w' →
      (e < w.epoch ∨ w.sched.wg = 0) ∧
      (w.sched.gens.length = g0 → w.sched.wg = 0 ∧ w.sched.started = false ∧
        ∀ g ∈ w.sched.gens, g.watcher = .done ∧ g.loop = false ∧ g.workers = 0 ∧ g.jobs = 0)) := by
  have hi := winv_reach cfg false w hr
  refine ⟨?_, ?_⟩
  · intro w' h
    simp only [wstep] at h; cases h
    simp only [List.getLast?_append, List.getLast?_singleton, Option.some_or, Option.some.injEq]
    by_cases h0 : w.sched.wg = 0 <;> simp [h0]
  · intro k e g0 w' hk h
    simp only [wstep, hk] at h
    split at h <;> simp at h
    rename_i hc
    simp only [chanClosed, Bool.or_eq_true, decide_eq_true_eq, Bool.and_eq_true, beq_iff_eq] at hc
    obtain ⟨_, _, h3⟩ := hi.blocked k e g0 hk
    have hz : e < w.epoch ∨ w.sched.wg = 0 := hc.imp_right And.right
    refine ⟨hz, fun hlen => ?_⟩
    have hwg : w.sched.wg = 0 := hz.resolve_left fun hz => Nat.ne_of_gt hz (h3 hlen)
    have := (C10_wait_sound cfg w.sched (wreach_sched cfg false w hr)).2 hwg
    exact ⟨hwg, this.2.1, this.1⟩

/-- Callers of `Wait` — pending, expired or returned, any number of them — are not part of the state that Start, Stop,
    cancellation or any goroutine of the scheduler reads or writes: a scheduler action is enabled in the layered system
    iff it is enabled on the scheduler state alone, and along EVERY layered trace the scheduler component is exactly the
    run of the scheduler model on the trace's scheduler actions (the waiter actions erased). Every theorem above
    therefore holds unchanged in the presence of waiters. -/
theorem C10_wait_independent (cfg : Cfg) (w : WSt) :
    (∀ a, (wstep cfg false w (.sched a)).isSome = (step cfg w.sched a).isSome) ∧
    (∀ as w', wrun cfg false w as = some w' → run cfg w.sched (schedActs as) = some w'.sched) ∧
    (∀ a w', wstep cfg false w a = some w' → (∀ x, a ≠ .sched x) → w'.sched = w.sched ∧ w'.epoch = w.epoch) := by
  refine ⟨?_, fun as w' h => wrun_sched cfg false as w w' h, ?_⟩
  · intro a
    simp only [wstep]
    cases step cfg w.sched a <;> rfl
  · intro a w' h hne
    rcases wstep_cases h with ⟨x, _, rfl, -⟩ | ⟨-, _, rfl, -⟩
    · exact absurd rfl (hne x)
    · exact ⟨rfl, rfl⟩

/-- The counter is reusable across runs: the error state of the old WaitGroup is unreachable, and a `done` channel
    that is closed stays closed whatever happens next — so a caller left over from an earlier run (blocked, or released
    but not yet returned) is neither broken by a later `Start` nor does it disturb it. -/
theorem C10_wait_reusable (cfg : Cfg) (w : WSt) (hr : WReach cfg false w) :
    w.broken = false ∧
    (∀ e a w', chanClosed w e = true → wstep cfg false w a = some w' → chanClosed w' e = true) ∧
    (∀ e as w', chanClosed w e = true → wrun cfg false w as = some w' → chanClosed w' e = true) := by
  obtain ⟨as0, h0⟩ := hr
  exact ⟨wrun_invariant (fun _ _ _ hb hs => not_broken_step cfg hb hs) rfl h0,
    fun e a w' hc h => chanClosed_step cfg false e hc h,
    fun e as w' hc h => wrun_invariant (fun _ _ _ hc hs => chanClosed_step cfg false e hc hs) hc h⟩

/-- Negative control — the hazard of the old implementation (sync.WaitGroup + one helper goroutine per `Wait`),
    `old := true`: a `Wait` whose context expired leaves its helper blocked in `wg.Wait()`; after `Stop` and the exit of
    the run the helper is released, and a `Start` issued before it has returned reaches the error state
    ("WaitGroup is reused before previous Wait has returned"). The same calls on the code as it is (`old := false`,
    where the expired caller is simply gone) end with a running scheduler and no error. -/
theorem C10_waitgroup_reuse_hazard :
    (∃ w, wrun (Cfg.std 0) true winit
        [.sched .start, .waitCall, .waitExpire 0, .sched .stop, .sched (.watcherWake 0), .sched (.watcherStop 0),
         .sched (.loopExit 0), .waitWake 0, .sched .start] = some w ∧ w.broken = true) ∧
    (∃ w, wrun (Cfg.std 0) false winit
        [.sched .start, .waitCall, .waitExpire 0, .sched .stop, .sched (.watcherWake 0), .sched (.watcherStop 0),
         .sched (.loopExit 0), .sched .start] = some w ∧ w.broken = false ∧ isStarted (Cfg.std 0) w.sched = true ∧
      w.waiters = [.expired]) := by
  constructor
  · exact ⟨{ sched := { started := true,
                        gens := [{ cancelled := true, watcher := .done, loop := false, workers := 0, jobs := 0 },
                                 { cancelled := false, watcher := .waiting, loop := true, workers := 0, jobs := 0 }],
                        wg := 2 },
             epoch := 2, waiters := [.released], broken := true }, (by decide +kernel), rfl⟩
  · exact ⟨{ sched := { started := true,
                        gens := [{ cancelled := true, watcher := .done, loop := false, workers := 0, jobs := 0 },
                                 { cancelled := false, watcher := .waiting, loop := true, workers := 0, jobs := 0 }],
                        wg := 2 },
             epoch := 2, waiters := [.expired], broken := false }, (by decide +kernel), rfl, (by decide +kernel), rfl⟩

/-- `Stop` on a started scheduler cancels the context of the current run (the one its jobs received, fact
    `jobsGetRunCtx`); and in every reachable state the context of every generation other than a started current
    one is cancelled — whichever way that run ended (Stop, cancellation, Start's pre-stop, its watcher). -/
theorem C10_ctx_cancelled_on_stop (cfg : Cfg) (s : St) (hr : Reach cfg s) :
    (s.started = true → ∀ s', step cfg s .stop = some s' → curCancelled s' = true ∧ s'.gens.length = s.gens.length) ∧
    (∀ i g, s.gens[i]? = some g → (i + 1 < s.gens.length ∨ s.started = false) → g.cancelled = true) := by
  have hi := inv_reach cfg s hr
  refine ⟨?_, hi.old_cancelled⟩
  intro hst s' h
  simp only [step] at h; cases h
  exact ⟨curCancelled_stopBody s hst (hi.started_has hst), stopBody_length s⟩

/-! ## the statements for the code as read from the source -/

theorem C10_isStarted_latest_code (n : Nat) (as : List Act) (s : St) (h : run (cfgOfFacts n) init as = some s) :
    isStarted (cfgOfFacts n) s = (expect as).2 := by
  rw [C10_facts.1 n] at h ⊢; exact (C10_isStarted_latest n as s h).1

theorem C10_restart_code (n : Nat) (s s' : St) (as : List Act) (hint : ∀ a ∈ as, a.isInternal = true)
    (h : run (cfgOfFacts n) s (.stop :: .start :: as) = some s') : isStarted (cfgOfFacts n) s' = true := by
  rw [C10_facts.1 n] at h ⊢; exact ((C10_restart n s s' as hint).1 h).1

/-- a started scheduler with two workers, a running job and a stale generation whose loop is still alive is reachable -/
example : ∃ s, Reach (Cfg.std 2) s ∧ s.started = true ∧ s.gens.length = 2 ∧ s.wg = 7 ∧ Quiet s :=
  ⟨_, ⟨[.start, .jobSpawn 0, .stop, .start, .watcherWake 0, .watcherStop 0, .workerExit 0, .workerExit 0,
        .jobSpawn 1], rfl⟩, rfl, rfl, rfl, by decide +kernel⟩

/-- `expect` on a history with a stale cancellation and a cancel;Start: the last Start wins -/
example : expect [.start, .stop, .start, .cancel 0, .cancel 1, .start, .watcherWake 1] = (3, true) := by decide +kernel

/-- `Wait` can return: everything of both generations has exited, wg = 0 -/
example : ∃ s, Reach (Cfg.std 1) s ∧ s.wg = 0 ∧ s.gens.length = 2 :=
  ⟨_, ⟨[.start, .jobSpawn 0, .cancel 0, .start, .stop, .watcherWake 0, .watcherStop 0, .watcherWake 1, .watcherStop 1,
        .loopExit 0, .loopExit 1, .workerExit 0, .workerExit 1, .jobExit 0], rfl⟩, rfl, rfl⟩

/-- `C10_wait_returns_at_zero` is not vacuous: a caller blocked since run 1 is woken after that run has drained -/
example : ∃ w w', WReach (Cfg.std 0) false w ∧ w.waiters[0]? = some (.blocked 1 1) ∧
    wstep (Cfg.std 0) false w (.waitWake 0) = some w' ∧ w.sched.gens.length = 1 :=
  ⟨_, _, ⟨[.sched .start, .waitCall, .sched .stop, .sched (.watcherWake 0), .sched (.watcherStop 0),
           .sched (.loopExit 0)], rfl⟩, by decide +kernel, rfl, by decide +kernel⟩

/-- …and a caller of run 1 that is woken only after run 2 has begun (its epoch ended: `e < epoch`, counter not zero) -/
example : ∃ w w', WReach (Cfg.std 0) false w ∧ w.waiters[0]? = some (.blocked 1 1) ∧
    wstep (Cfg.std 0) false w (.waitWake 0) = some w' ∧ w.sched.wg = 2 ∧ w.epoch = 2 :=
  ⟨_, _, ⟨[.sched .start, .waitCall, .sched .stop, .sched (.watcherWake 0), .sched (.watcherStop 0),
           .sched (.loopExit 0), .sched .start], rfl⟩, by decide +kernel, rfl, by decide +kernel, by decide +kernel⟩

/-- the hypotheses of `C10_cancel_eq_stop` are satisfiable -/
example : ∃ s sc ss, Reach (Cfg.std 0) s ∧ s.started = true ∧
    step (Cfg.std 0) s (.cancel (s.gens.length - 1)) = some sc ∧ step (Cfg.std 0) s .stop = some ss :=
  ⟨_, _, _, ⟨[.start], rfl⟩, rfl, rfl, rfl⟩

end Lifecycle
