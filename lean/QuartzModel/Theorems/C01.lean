import QuartzModel.Proofs.ZoneLemmas
/-!
# C01 — `NextFireTime` is sound

For a well-formed expression and a fixed-offset location (UTC / `time.FixedZone`), every value
returned by the model of `CronTrigger.NextFireTime` is a whole second strictly after `prev` whose
civil reading in that location satisfies the expression — including the day rules (L, L-k, dW, LW,
wL, w#k) and the "this date exists" clauses, so an impossible date (Feb 30, Apr 31) is never rolled
over into the following month.

The bound `-100000 ≤ c ∧ c ≤ 100000` on the offset (seconds) is there for `wall0_valid`: the wall clock of
`prev`, an int64 count of nanoseconds, must stay inside the calendar model (on or after 0000-01-01). Real
offsets lie within ±50400 s; any bound that covers them and keeps that start valid would do.
-/
namespace Cron
open Cal Odo

theorem C01_sound (f : Fields) (hwf : WellFormed f = true) (c prev : Int)
    (hc : -100000 ≤ c ∧ c ≤ 100000) (hp : -9223372036854775808 ≤ prev)
    (r : Int) (h : nextFire {} f (fixedZone c) prev = .ok r) :
    r % 1000000000 = 0 ∧ prev < r ∧ Matches f (Civil.ofSeconds (r / 1000000000 + c)) := by
  obtain ⟨t, ht, rfl⟩ := nextFire_fixed_ok f hwf c prev hc hp r h
  obtain ⟨hm, hlt, _⟩ := csmNext_spec_some f hwf _ t ht
  obtain ⟨hwv, hws⟩ := wall0_valid c prev hc hp
  have hv := matches_valid f t hm
  have hsec := (Civil.toSeconds_lt_iff _ t hwv hv).mpr hlt
  refine ⟨by omega, by omega, ?_⟩
  have e : (t.toSeconds - c) * 1000000000 / 1000000000 + c = t.toSeconds := by omega
  rw [e, Civil.ofSeconds_toSeconds t hv]
  exact hm

/-- `0 0 12 * * ?` — every day at noon -/
def exNoon : Fields :=
  { sec := ⟨[0], 0⟩, min := ⟨[0], 0⟩, hour := ⟨[12], 0⟩, dom := ⟨[], 0⟩, month := ⟨[], 0⟩,
    dow := ⟨[], 0⟩, year := ⟨[], 0⟩ }

/-- `0 0 0 31 * ?` — midnight on the 31st (months without a 31st are skipped, not rolled over) -/
def ex31st : Fields :=
  { sec := ⟨[0], 0⟩, min := ⟨[0], 0⟩, hour := ⟨[0], 0⟩, dom := ⟨[31], 0⟩, month := ⟨[], 0⟩,
    dow := ⟨[], 0⟩, year := ⟨[], 0⟩ }

theorem exNoon_wf : WellFormed exNoon = true := by decide
theorem ex31st_wf : WellFormed ex31st = true := by decide

/-- from the epoch, UTC: 1970-01-01T12:00:00Z -/
theorem exNoon_first : nextFire {} exNoon (fixedZone 0) 0 = .ok 43200000000000 := by decide +kernel

/-- from 1970-02-01T00:00:00Z (2678400 s): February has no 31st, the result is 1970-03-31T00:00:00Z -/
theorem ex31st_feb : nextFire {} ex31st (fixedZone 0) 2678400000000000 = .ok 7689600000000000 := by
  decide +kernel

/-- the hypotheses of `C01_sound` are satisfiable, and its conclusion on the instance -/
example : (43200000000000 : Int) % 1000000000 = 0 ∧ (0 : Int) < 43200000000000 ∧
    Matches exNoon (Civil.ofSeconds (43200000000000 / 1000000000 + 0)) :=
  C01_sound exNoon exNoon_wf 0 0 (by omega) (by omega) _ exNoon_first

theorem ex31st_reading : Civil.ofSeconds (7689600000000000 / 1000000000 + 0) = ⟨1970, 3, 31, 0, 0, 0⟩ := by
  decide +kernel

example : Civil.ofSeconds (7689600000000000 / 1000000000 + 0) = ⟨1970, 3, 31, 0, 0, 0⟩ := ex31st_reading

example : Matches ex31st ⟨1970, 3, 31, 0, 0, 0⟩ :=
  ex31st_reading ▸ (C01_sound ex31st ex31st_wf 0 2678400000000000 (by omega) (by omega) _ ex31st_feb).2.2

/-- a fixed offset east of UTC (+02:00): 12:00 local is 10:00 UTC -/
example : nextFire {} exNoon (fixedZone 7200) 0 = .ok 36000000000000 := by decide +kernel

/-! ### a `prev` before 1970 (negative): the hypothesis on `prev` is only "an int64 value" -/

/-- `* * * * * ?` — every second -/
def exEvery : Fields :=
  { sec := ⟨[], 0⟩, min := ⟨[], 0⟩, hour := ⟨[], 0⟩, dom := ⟨[], 0⟩, month := ⟨[], 0⟩,
    dow := ⟨[], 0⟩, year := ⟨[], 0⟩ }

theorem exEvery_wf : WellFormed exEvery = true := by decide

/-- prev = half a second before the epoch: its second is the floor `-1`, the next second is the epoch
    itself (truncation towards zero would answer 1 s) -/
theorem exEvery_neg : nextFire {} exEvery (fixedZone 0) (-500000000) = .ok 0 := by decide +kernel

/-- prev = one day and 1 ns before the epoch: the answer is 1969-12-31T12:00:00Z, itself negative -/
theorem exNoon_neg : nextFire {} exNoon (fixedZone 0) (-86400000000001) = .ok (-43200000000000) := by
  decide +kernel

/-- `C01_sound` at a negative `prev` -/
example : (0 : Int) % 1000000000 = 0 ∧ (-500000000 : Int) < 0 ∧
    Matches exEvery (Civil.ofSeconds (0 / 1000000000 + 0)) :=
  C01_sound exEvery exEvery_wf 0 (-500000000) (by omega) (by omega) _ exEvery_neg

example : Matches exNoon (Civil.ofSeconds (-43200000000000 / 1000000000 + 0)) :=
  (C01_sound exNoon exNoon_wf 0 (-86400000000001) (by omega) (by omega) _ exNoon_neg).2.2

example : Civil.ofSeconds (-43200000000000 / 1000000000 + 0) = ⟨1969, 12, 31, 12, 0, 0⟩ := by
  decide +kernel

end Cron
