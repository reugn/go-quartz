import QuartzModel.Generated.Facts
import QuartzModel.Proofs.FaultsLemmas
/-!
# C15 — the scheduler tolerates a failing or slow custom job queue

Model: `Sched/Faults.lean`. Every theorem quantifies over **all** fault assignments: the result of every queue call,
every clock reading and every `select` outcome (tick or interrupt) is an arbitrary input (`In` / `Plan`). The shape of
the loop's error handling is a parameter `S : Shape`; the theorems need the decidable `WF S`, which is discharged for
the shape regenerated from the source (`C15_facts_wf`).

Formalisation of "retries a failing queue no faster than once per RetryInterval" (`C15_backoff`): in every run whose
clock readings are monotone and whose timers do not fire early (`WellTimed`, the two guarantees of the Go runtime),
* after a `Pop()`/`Push()` error whose clock reading is `t`, no later iteration ticks (and so calls `Pop()`) before
  `t + RetryInterval` — whatever faults and however many interrupts follow;
* after a `Size()`/`Head()` error whose clock reading is `t` the timer of the same iteration is armed with
  `RetryInterval` and the same deadline `t + RetryInterval` is set: no later iteration ticks before it either;
* and until the deadline the loop does not ask the queue ANYTHING: an iteration inside the back-off window makes no
  `Size()` and no `Head()` call (the back-off test comes before `Size()`), so an interrupt token (an API call /
  `Reset()`) that ends the wait early only makes the loop arm the timer for the same deadline again
  (`C15_backoff`, `C15_backoff_step`, `C15_size_retry_kept` in `Theorems/C15F4.lean`; before the repair of finding F4
  every interrupt made the loop ask a failing `Size()` again: `C15_size_retry_full_fails`).
The real call rate is observed by `qh faults` (burst scenarios, also under API traffic).

Recovery (`C15_recovers`, `C15_deadline_not_postponed`): the back-off deadline is fixed when the error happens and
interrupts do not move it; fault-free iterations never touch it; outside the back-off window a fault-free iteration
is exactly an iteration of the loop without any back-off state, and even inside the window the loop pops, dispatches
and reschedules exactly what that loop would.

A queue that reports a size (and perhaps a due head) but has nothing to pop: `fetchAndReschedule` asks `Size()` again
under the queue lock and returns the empty `Pop()` like any other failed `Pop()` unless the answer is 0, so the
back-off applies (`C15_no_spin_on_empty_pop`) — but not to an honestly empty queue (`C15_honest_empty_pop`) — and
`calculateNextTick` arms `RetryInterval` when `Head()` answers `ErrQueueEmpty` (`C15_no_spin_on_spurious_empty`).

Negative controls: the loop without back-off state spins (`C15_backoff_fails_without_flag`); the loop with a `failed`
flag (the first repair) is starved by interrupts (`C15_interrupts_postpone_recovery`); `calculateNextTick` returning
the zero duration on `ErrQueueEmpty` and `fetchAndReschedule` returning `nil` for an empty `Pop()` spin on such queues
(`C15_spurious_empty_spins_unrepaired`, `C15_empty_pop_spins_unrepaired`); returning every empty `Pop()` as an error
(78e46a3) makes an honestly empty queue be polled for ever (`C15_empty_queue_keeps_polling`).

Not proved here: absence of panics and deadlocks of the real code and wall-clock latencies (harness, observed).
-/
namespace Generated.Faults
open _root_.Faults

def armOf (s : String) : Arm :=
  if s = "RetryInterval" then .retry else if s = "maxTimerDuration" then .max
  else if s = "calculateNextTick" then .nextTick else if s = "zero" then .zero
  else if s = "time.Until(retryAt)" then .untilRetry else .other

/-- the regenerated facts as a `Shape`. The case labels must appear in the order of the source; a missing,
    reordered or unknown case yields a shape that fails `WF`. -/
def shape : Shape :=
  let common (first : Bool) (a1 : String) (bo : Backoff) (a2 a3 a4 : String) : Shape :=
    { onSizeErr := armOf a1, backoff := bo, onBackoff := armOf a2, onEmpty := armOf a3, onDefault := armOf a4,
      backoffFirst := first && decide (sizeGuard = "guarded"), stateFromArm := stateFromArm,
      headErr := armOf headErrReturns, headEmpty := if headPositive then armOf headEmptyReturns else .other,
      stateFromTick := stateFromTick && execReturnsFetchErr, popErrReturned := popErrReturned,
      popEmpty := if popEmptyReturned && popEmptyUnlessSizeZero then .unlessSizeZero
        else if popEmptyReturned then .returned else .nil,
      pushErrReturned := pushErrReturned }
  match loopCases with
  | [("backingOff", a2), ("err != nil", a1), ("queueSize == 0", a3), ("default", a4)] =>
    common true a1 .deadline a2 a3 a4
  | [("err != nil", a1), ("time.Now().Before(retryAt)", a2), ("queueSize == 0", a3), ("default", a4)] =>
    common false a1 .deadline a2 a3 a4
  | [("err != nil", a1), ("failed", a2), ("queueSize == 0", a3), ("default", a4)] => common false a1 .flag a2 a3 a4
  | [("err != nil", a1), ("queueSize == 0", a3), ("default", a4)] => common false a1 .none "" a3 a4
  | _ => common false "" .none "" "" ""

def apiName : ApiCall → String
  | .schedulePush => "ScheduleJob.Push" | .deleteRemove => "DeleteJob.Remove" | .clearClear => "Clear.Clear"
  | .getGet => "GetScheduledJob.Get" | .keysList => "GetJobKeys.ScheduledJobs"
  | .pauseGet => "PauseJob.Get" | .pauseRemove => "PauseJob.Remove" | .pausePush => "PauseJob.Push"
  | .resumeGet => "ResumeJob.Get" | .resumeRemove => "ResumeJob.Remove" | .resumePush => "ResumeJob.Push"

/-- does the source return the error of this queue call unchanged? -/
def propagates (c : ApiCall) : Bool := (apiPropagates.lookup (apiName c)).getD false

end Generated.Faults

namespace Faults

/-- One iteration, any inputs:
    (1) a failing `Size()` / `Head()` arms `RetryInterval` in the same iteration and sets the deadline `retryAt` to its
        clock reading plus `RetryInterval` (a failing `Pop()` / `Push()` on the tick that follows can only move it
        further);
    (2) a failing `Pop()` / `Push()` (necessarily on a tick) sets the deadline `retryAt` to the clock reading plus
        `RetryInterval`;
    (3) before the deadline the timer is armed for exactly the deadline and the queue is asked nothing — no `Size()`,
        no `Head()`: the only queue calls of such an iteration are those of the tick, if the timer fires;
    (4) an interrupted iteration without a `Size()` / `Head()` error leaves the back-off state as it is. -/
theorem C15_backoff_step (S : Shape) (hS : WF S) (c : Cfg) (trig : Trig) (st : BState) (i : In) :
    ((iter S c trig st i).armErr = true → (iter S c trig st i).armed = c.R ∧
      (i.interrupted = true → (iter S c trig st i).st.retryAt = some (i.now2 + c.R)) ∧
      (i.now2 ≤ i.nowErr → ∃ r', (iter S c trig st i).st.retryAt = some r' ∧ i.now2 + c.R ≤ r')) ∧
    ((iter S c trig st i).tickErr = true →
      i.interrupted = false ∧ (iter S c trig st i).st.retryAt = some (i.nowErr + c.R)) ∧
    (∀ r, st.retryAt = some r → i.now1 < r → i.now2 + (iter S c trig st i).armed = r ∧
      (iter S c trig st i).armErr = false ∧
      (iter S c trig st i).calls = (if i.interrupted then [] else (fetch S c trig i).calls)) ∧
    (i.interrupted = true → (iter S c trig st i).armErr = false → (iter S c trig st i).st = st) := by
  refine ⟨fun h => ⟨iter_armed_of_armErr S c trig hS st i h, ?_, iter_armErr_retryAt S c trig hS st i h⟩,
    iter_retryAt_of_tickErr S c trig hS st i, iter_before_deadline S c trig hS st i, ?_⟩
  · intro hint
    rw [(iter_interrupted S c trig st i hint).1, h, afterArm_err S c hS]
  · intro hint harm
    rw [(iter_interrupted S c trig st i hint).1, harm, afterArm_noErr]

/-- For every sequence of inputs (every fault assignment, every pattern of interrupts) whose clock readings are
    monotone and whose timers do not fire early: if iteration `k` had a loop-side error, then
    * if it was a `Size()`/`Head()` error, read off the clock at `ik.now2`: the tick of the same iteration (and with it
      the next queue call, `Pop()`) came at least `RetryInterval` after the timer was armed unless an interrupt ended
      the wait — and WHATEVER ended the wait, **no** later iteration ticks before `ik.now2 + RetryInterval` and **no**
      later iteration asks `Size()` (the call that an iteration outside the back-off window begins with; inside it there
      is no `Size()` and no `Head()` call at all) before that moment: interrupts do not make the loop ask the failing
      queue again;
    * if it was a `Pop()`/`Push()` error, read off the clock at `ik.nowErr`, then **no** later iteration ticks before
      `ik.nowErr + RetryInterval` and none asks `Size()` before that moment: no queue call at all is attempted before
      it, whatever interrupts arrive. -/
theorem C15_backoff (S : Shape) (hS : WF S) (c : Cfg) (trig : Trig) (st0 : BState) (prev : Int) (ins : List In)
    (hwt : WellTimed S c trig st0 prev ins) (k : Nat) (ik : In) (ok : Out)
    (hik : ins[k]? = some ik) (hok : (runLoop S c trig st0 ins).1[k]? = some ok) :
    (ok.armErr = true → (ik.interrupted = false → ik.tArm + c.R ≤ ik.tickAt) ∧
      ∀ j ij oj, k < j → ins[j]? = some ij → (runLoop S c trig st0 ins).1[j]? = some oj →
        (ij.interrupted = false → ik.now2 + c.R ≤ ij.tickAt) ∧
        (∀ o, oj.calls.head? = some (.size, o) → ik.now2 + c.R ≤ ij.now1)) ∧
    (ok.tickErr = true → ∀ j ij, k < j → ins[j]? = some ij →
      (ij.interrupted = false → ik.nowErr + c.R ≤ ij.tickAt) ∧
      (∀ oj o, (runLoop S c trig st0 ins).1[j]? = some oj → oj.calls.head? = some (.size, o) →
        ik.nowErr + c.R ≤ ij.now1)) := by
  obtain ⟨stk, h, ⟨t1, t2, t3, t4, t5, t6⟩, -⟩ := wellTimed_at S c trig st0 prev ins hwt k ik hik
  obtain rfl := Option.some.inj (h.symm.trans hok)
  refine ⟨fun herr => ⟨fun hni => ?_, fun j ij oj hkj hij hoj => ?_⟩, fun herr j ij hkj hij => ?_⟩
  · rw [← iter_armed_of_armErr S c trig hS stk ik herr]; exact t6 hni
  · have A := after_deadline S c trig hS st0 prev ins hwt k ik _ hik hok (ik.now2 + c.R)
      (iter_armErr_retryAt S c trig hS stk ik herr (by omega)) (by omega) j ij hkj hij
    exact ⟨A.1, fun o => A.2 oj o hoj⟩
  · exact after_deadline S c trig hS st0 prev ins hwt k ik _ hik hok (ik.nowErr + c.R)
      ⟨_, (iter_retryAt_of_tickErr S c trig hS stk ik herr).2, Int.le_refl _⟩ (Int.le_refl _) j ij hkj hij

/-- the input of one iteration of the spinning scenario, everything happening at the instant `now`:
    one stored job whose fire time `f` has arrived, `Pop()` fails -/
def spinIn (f now : Int) : In :=
  { size := some 1, now1 := now, head := .ok f, now2 := now, tArm := now, interrupted := false, tickAt := now,
    pop := .err, size2 := some 1, nowVal := now, pushOk := true, nowErr := now }

/-- Negative control: the loop without back-off state (the code before the repairs) spins. With a due head and a
    failing `Pop()`, any number `n` of consecutive iterations can happen at one and the same instant — the input is
    well-timed — each arming the zero duration and making three queue calls: `3 n` calls in no time, and the bound of
    `C15_backoff` fails already between the first two iterations. -/
theorem C15_backoff_fails_without_flag (S : Shape) (hS : WF S) (c : Cfg) (trig : Trig) (f now : Int)
    (hdue : f ≤ now) (n : Nat) :
    (runLoop (plain S) c trig {} (List.replicate n (spinIn f now))).1 =
      List.replicate n
        { armed := 0, calls := [(.size, .ok), (.head, .ok), (.pop, .err)], dispatched := none, pushed := none,
          popped := none, armErr := false, tickErr := true, st := {} } ∧
    WellTimed (plain S) c trig {} now (List.replicate n (spinIn f now)) ∧
    (0 < c.R → (spinIn f now).tickAt < (spinIn f now).nowErr + c.R) := by
  have hnot : ¬ f > now := by omega
  have hit : iter (plain S) c trig {} (spinIn f now) =
      { armed := 0, calls := [(.size, .ok), (.head, .ok), (.pop, .err)], dispatched := none, pushed := none,
        popped := none, armErr := false, tickErr := true, st := {} } := by
    simp [iter, plain, spinIn, chooseArm, skipsSize, afterArm, inBackoff, hS.onDefault, calcNextTick, hnot, fetch,
      Res.outcome, afterTick]
  obtain ⟨h1, h2⟩ := runLoop_replicate _ _ _ _ _ _ hit rfl (Int.le_refl 0) now ⟨rfl, rfl, rfl, rfl, rfl, rfl⟩ n
  exact ⟨h1, h2, fun hR => by simp [spinIn]; omega⟩

/-- Negative control: the loop with a `failed` flag that re-arms the full `RetryInterval` (the first repair).
    While `failed` is set, every interrupt restarts the back-off: under any stream of interrupts — API calls at
    intervals shorter than `RetryInterval` — the flag stays set, every iteration arms a fresh `RetryInterval` and
    nothing is ever dispatched, although the queue may long have recovered. -/
theorem C15_interrupts_postpone_recovery (S : Shape) (c : Cfg) (trig : Trig) (ins : List In)
    (hall : ∀ i ∈ ins, i.interrupted = true ∧ i.size.isSome = true) :
    (runLoop (flagVariant S) c trig { failed := true } ins).2 = { failed := true } ∧
    ∀ o ∈ (runLoop (flagVariant S) c trig { failed := true } ins).1, o.armed = c.R ∧ o.dispatched = none := by
  have hA : ∀ b t, afterArm (flagVariant S) c { failed := true } b t = { failed := true } := by
    intro b t; unfold afterArm flagVariant; cases S.stateFromArm <;> simp
  have hi := fun i hi => iter_interrupted (flagVariant S) c trig { failed := true } i (hall i hi).1
  rw [runLoop_const _ _ _ _ _ (fun i h => by rw [(hi i h).1, hA])]
  refine ⟨rfl, fun o ho => ?_⟩
  obtain ⟨i, h, rfl⟩ := List.mem_map.mp ho
  refine ⟨?_, (hi i h).2.1⟩
  rw [iter_armed]
  cases hs : i.size with
  | none => exact absurd (hall i h).2 (by simp [hs])
  | some n => simp [chooseArm, skipsSize, inBackoff, flagVariant]

/-- In every well-timed run, whatever the inputs: after a tick whose `Pop()` answered `ErrQueueEmpty` while the queue,
    asked again under the queue lock, still claimed to hold jobs or could not say (`size2 ≠ some 0`), read off the
    clock at `ik.nowErr`, no later iteration ticks — and so no `Pop()` is attempted — before
    `ik.nowErr + RetryInterval`. `fetchAndReschedule` returns such an empty `Pop()` like any other failed `Pop()`, so
    the loop's back-off applies; this covers a queue with a size and a due head but nothing to pop (another node of a
    clustered queue claimed the head) as well as a queue with a size and no head at all.
    (Not covered, and not true: a queue whose `Size()` alternates between non-zero at the top of the loop and zero
    inside `fetchAndReschedule` while its due head cannot be popped.) -/
theorem C15_no_spin_on_empty_pop (S : Shape) (hS : WF S) (c : Cfg) (trig : Trig) (st0 : BState) (prev : Int)
    (ins : List In) (hwt : WellTimed S c trig st0 prev ins) (k : Nat) (ik : In) (hik : ins[k]? = some ik)
    (hni : ik.interrupted = false) (hpop : ik.pop = .empty) (hsz : ik.size2 ≠ some 0) :
    ∀ j ij, k < j → ins[j]? = some ij → ij.interrupted = false → ik.nowErr + c.R ≤ ij.tickAt :=
  fun j ij hkj hij hnj =>
    backoff_after S c trig hS st0 prev ins hwt k ik hik hni (by rw [fetch_popEmpty S c trig hS ik hpop]; simpa using hsz)
      j ij hkj hij hnj

/-- For a queue whose `Size()` says non-empty (every time it is asked) while `Head()` and `Pop()` answer
    `ErrQueueEmpty`, in every well-timed
    run: nothing is dispatched, any two ticks are at least `RetryInterval` apart, and an iteration outside the
    back-off window arms `RetryInterval` (so the first tick, too, comes `RetryInterval` after its timer was armed,
    unless an interrupt ends the wait). -/
theorem C15_no_spin_on_spurious_empty (S : Shape) (hS : WF S) (c : Cfg) (trig : Trig) (st0 : BState) (prev : Int)
    (ins : List In) (hall : ∀ i ∈ ins, SpuriousEmpty i) (hwt : WellTimed S c trig st0 prev ins) :
    (∀ o ∈ (runLoop S c trig st0 ins).1, o.dispatched = none) ∧
    (∀ (k j : Nat) (ik ij : In), k < j → ins[k]? = some ik → ins[j]? = some ij → ik.interrupted = false →
      ij.interrupted = false → ik.nowErr + c.R ≤ ij.tickAt) ∧
    (∀ (st : BState) (i : In), i ∈ ins → inBackoff S st i.now1 = false →
      (iter S c trig st i).armed = c.R ∧ (i.interrupted = false → i.tArm + (iter S c trig st i).armed ≤ i.tickAt →
        i.tArm + c.R ≤ i.tickAt)) := by
  refine ⟨?_, ?_, ?_⟩
  · intro o ho
    obtain ⟨st', i, hi, rfl⟩ := mem_runLoop S c trig st0 ins o ho
    exact (iter_spurious S c trig hS st' i (hall i hi)).2
  · intro k j ik ij hkj hik hij hni hnj
    have hmem : ik ∈ ins := List.mem_of_getElem? hik
    exact C15_no_spin_on_empty_pop S hS c trig st0 prev ins hwt k ik hik hni (hall ik hmem).2.2.1 (hall ik hmem).2.2.2
      j ij hkj hij hnj
  · intro st i hi hnb
    have := (iter_spurious S c trig hS st i (hall i hi)).1 hnb
    exact ⟨this, fun _ h => this ▸ h⟩

/-- the input of one iteration of a spinning scenario, everything happening at the instant `now` -/
def spuriousIn (now : Int) : In :=
  { size := some 1, now1 := now, head := .empty, now2 := now, tArm := now, interrupted := false, tickAt := now,
    pop := .empty, size2 := some 1, nowVal := now, pushOk := true, nowErr := now }

/-- Negative control: `calculateNextTick` and `fetchAndReschedule` as they were before their repairs (zero duration
    on an empty `Head()`, `nil` on an empty `Pop()`). On a queue with a size but no head neither back-off applies, so
    any number `n` of iterations, three queue calls each, happen at one and the same instant in a well-timed run. -/
theorem C15_spurious_empty_spins_unrepaired (S : Shape) (hS : WF S) (c : Cfg) (trig : Trig) (now : Int) (n : Nat) :
    (runLoop (nilOnEmptyPop (zeroOnEmptyHead S)) c trig {} (List.replicate n (spuriousIn now))).1 =
      List.replicate n
        { armed := 0, calls := [(.size, .ok), (.head, .empty), (.pop, .empty)], dispatched := none, pushed := none,
          popped := none, armErr := false, tickErr := false, st := {} } ∧
    WellTimed (nilOnEmptyPop (zeroOnEmptyHead S)) c trig {} now (List.replicate n (spuriousIn now)) ∧
    SpuriousEmpty (spuriousIn now) := by
  have hit : iter (nilOnEmptyPop (zeroOnEmptyHead S)) c trig {} (spuriousIn now) =
      { armed := 0, calls := [(.size, .ok), (.head, .empty), (.pop, .empty)], dispatched := none, pushed := none,
        popped := none, armErr := false, tickErr := false, st := {} } := by
    simp [iter, zeroOnEmptyHead, nilOnEmptyPop, spuriousIn, chooseArm, skipsSize, afterArm, inBackoff, hS.backoff,
      hS.onDefault, calcNextTick, fetch, Res.outcome, afterTick, hS.stateFromTick]
  obtain ⟨h1, h2⟩ := runLoop_replicate _ _ _ _ _ _ hit rfl (Int.le_refl 0) now ⟨rfl, rfl, rfl, rfl, rfl, rfl⟩ n
  exact ⟨h1, h2, ⟨0, rfl⟩, rfl, rfl, by simp [spuriousIn]⟩

/-- a due head `f ≤ now` that cannot be popped: `Pop()` answers `ErrQueueEmpty`; everything at the instant `now` -/
def emptyPopIn (f now : Int) : In :=
  { size := some 1, now1 := now, head := .ok f, now2 := now, tArm := now, interrupted := false, tickAt := now,
    pop := .empty, size2 := some 1, nowVal := now, pushOk := true, nowErr := now }

/-- Negative control: `fetchAndReschedule` as it was before its repair (`nil` when `Pop()` answers `ErrQueueEmpty`).
    With a due head that cannot be popped, any number `n` of iterations (`Size()`, `Head()`, `Pop()`) happen at one
    and the same instant in a well-timed run: the bound of `C15_no_spin_on_empty_pop` fails between the first two. -/
theorem C15_empty_pop_spins_unrepaired (S : Shape) (hS : WF S) (c : Cfg) (trig : Trig) (f now : Int) (hdue : f ≤ now)
    (n : Nat) :
    (runLoop (nilOnEmptyPop S) c trig {} (List.replicate n (emptyPopIn f now))).1 =
      List.replicate n
        { armed := 0, calls := [(.size, .ok), (.head, .ok), (.pop, .empty)], dispatched := none, pushed := none,
          popped := none, armErr := false, tickErr := false, st := {} } ∧
    WellTimed (nilOnEmptyPop S) c trig {} now (List.replicate n (emptyPopIn f now)) ∧
    (0 < c.R → (emptyPopIn f now).tickAt < (emptyPopIn f now).nowErr + c.R) := by
  have hnot : ¬ f > now := by omega
  have hit : iter (nilOnEmptyPop S) c trig {} (emptyPopIn f now) =
      { armed := 0, calls := [(.size, .ok), (.head, .ok), (.pop, .empty)], dispatched := none, pushed := none,
        popped := none, armErr := false, tickErr := false, st := {} } := by
    simp [iter, nilOnEmptyPop, emptyPopIn, chooseArm, skipsSize, afterArm, inBackoff, hS.backoff, hS.onDefault, calcNextTick,
      hnot, fetch, Res.outcome, afterTick, hS.stateFromTick]
  obtain ⟨h1, h2⟩ := runLoop_replicate _ _ _ _ _ _ hit rfl (Int.le_refl 0) now ⟨rfl, rfl, rfl, rfl, rfl, rfl⟩ n
  exact ⟨h1, h2, fun hR => by simp [emptyPopIn]; omega⟩

/-- If every queue call's error is returned unchanged (the regenerated facts say so: `C15_facts_api`), then every
    API method returns the error of the first of its queue calls that fails, and makes no further queue call. -/
theorem C15_api_propagates (F : ApiCall → Bool) (hF : ∀ c, F c = true) (e : QE) :
    scheduleJob F (some e) = (some (.queue e), [.push]) ∧
    deleteJob F (some e) = (some (.queue e), [.remove]) ∧
    clear F (some e) = (some (.queue e), [.clear]) ∧
    getScheduledJob F (some e) = (some (.queue e), [.get]) ∧
    getJobKeys F (some e) = (some (.queue e), [.list]) ∧
    (∀ r p, pauseJob F (.error e) r p = (some (.queue e), [.get])) ∧
    (∀ p, pauseJob F (.ok false) (some e) p = (some (.queue e), [.get, .remove])) ∧
    pauseJob F (.ok false) none (some e) = (some (.queue e), [.get, .remove, .push]) ∧
    (∀ t r p, resumeJob F (.error e) t r p = (some (.queue e), [.get])) ∧
    (∀ p, resumeJob F (.ok true) true (some e) p = (some (.queue e), [.get, .remove])) ∧
    resumeJob F (.ok true) true none (some e) = (some (.queue e), [.get, .remove, .push]) := by
  simp [scheduleJob, deleteJob, clear, getScheduledJob, getJobKeys, pauseJob, resumeJob, ret, hF]

/-- and a method returns `nil` only if every queue call it made succeeded -/
theorem C15_api_nil_only_if_all_ok (F : ApiCall → Bool) (hF : ∀ c, F c = true) :
    (∀ p, (scheduleJob F p).1 = none → p = none) ∧
    (∀ r, (deleteJob F r).1 = none → r = none) ∧
    (∀ r, (clear F r).1 = none → r = none) ∧
    (∀ r, (getScheduledJob F r).1 = none → r = none) ∧
    (∀ r, (getJobKeys F r).1 = none → r = none) ∧
    (∀ g r p, (pauseJob F g r p).1 = none → g = .ok false ∧ r = none ∧ p = none) ∧
    (∀ g t r p, (resumeJob F g t r p).1 = none → g = .ok true ∧ t = true ∧ r = none ∧ p = none) := by
  refine ⟨?_, ?_, ?_, ?_, ?_, ?_, ?_⟩
  · intro p; cases p <;> simp [scheduleJob, ret, hF]
  · intro p; cases p <;> simp [deleteJob, ret, hF]
  · intro p; cases p <;> simp [clear, ret, hF]
  · intro p; cases p <;> simp [getScheduledJob, ret, hF]
  · intro p; cases p <;> simp [getJobKeys, ret, hF]
  · intro g r p
    rcases g with e | b
    · simp [pauseJob, ret, hF]
    · cases b <;> cases r <;> cases p <;> simp [pauseJob, ret, hF]
  · intro g t r p
    rcases g with e | b
    · simp [resumeJob, ret, hF]
    · cases b <;> cases t <;> cases r <;> cases p <;> simp [resumeJob, ret, hF]

/-- Structure of one iteration, for any shape and any inputs: a dispatch happens only on a tick, only of the entry a
    successful `Pop()` returned (so at its popped fire time); a push-back happens only after a successful pop and
    stores the popped job. -/
theorem C15_dispatch_after_pop (S : Shape) (c : Cfg) (trig : Trig) (st : BState) (i : In) :
    (∀ e, (iter S c trig st i).dispatched = some e → i.interrupted = false ∧ i.pop = .ok e) ∧
    (∀ e', (iter S c trig st i).pushed = some e' →
        i.interrupted = false ∧ ∃ e, i.pop = .ok e ∧ e'.key = e.key) := by
  obtain ⟨e1, e2, -⟩ := iter_fields S c trig st i
  rw [e1, e2]
  cases i.interrupted
  · -- every row of `fetch_cases` fixes `i.pop` and gives `fetch` as a literal: one rewrite and one `simp` settle each
    obtain ⟨hp, h⟩ | ⟨hp, cs, r, h, _⟩ | ⟨e, d, hp, rfl | ⟨rfl, _⟩, h | ⟨t, _, h⟩ | h⟩ := fetch_cases S c trig i <;> rw [h] <;>
      simp [hp]
  · simp

/-- the queue calls of one `fetchAndReschedule`: one `Pop()`; after an empty one possibly one `Size()`; after a
    successful one at most one `Push()` -/
theorem C15_one_push_per_pop (S : Shape) (c : Cfg) (trig : Trig) (i : In) :
    (fetch S c trig i).calls = [(.pop, .err)] ∨ (fetch S c trig i).calls = [(.pop, .empty)] ∨
    (fetch S c trig i).calls = [(.pop, .empty), (.size, .ok)] ∨
    (fetch S c trig i).calls = [(.pop, .empty), (.size, .err)] ∨
    (fetch S c trig i).calls = [(.pop, .ok)] ∨ (fetch S c trig i).calls = [(.pop, .ok), (.push, .ok)] ∨
    (fetch S c trig i).calls = [(.pop, .ok), (.push, .err)] := by
  obtain ⟨_, h⟩ | ⟨_, cs, r, h, hc⟩ | ⟨e, d, _, _, h | ⟨t, _, h⟩ | h⟩ := fetch_cases S c trig i <;> rw [h]
  · exact .inl rfl
  · obtain rfl | rfl | rfl := hc
    · exact .inr (.inl rfl)
    · exact .inr (.inr (.inl rfl))
    · exact .inr (.inr (.inr (.inl rfl)))
  · exact .inr (.inr (.inr (.inr (.inl rfl))))
  · exact .inr (.inr (.inr (.inr (.inr (.inl rfl)))))
  · exact .inr (.inr (.inr (.inr (.inr (.inr rfl)))))

/-- … and these are the only `Pop()`/`Push()` calls of an iteration: before them there are only `Size()`/`Head()`,
    at most one of each, in this order — and neither of them while the loop is backing off (well-formed shape: the
    back-off test comes first) -/
theorem C15_iter_calls (S : Shape) (c : Cfg) (trig : Trig) (st : BState) (i : In) :
    ∃ pre, (∀ x ∈ pre, x.1 = .size ∨ x.1 = .head) ∧
      (pre = [] ∨ (∃ o, pre = [(.size, o)]) ∨ (∃ o, pre = [(.head, o)]) ∨ (∃ o o', pre = [(.size, o), (.head, o')])) ∧
      (WF S → inBackoff S st i.now1 = true → pre = []) ∧
      (iter S c trig st i).calls = pre ++ (if i.interrupted then [] else (fetch S c trig i).calls) := by
  refine ⟨_, ?_, ?_, ?_, iter_calls_eq S c trig st i⟩
  · cases skipsSize S st i.now1 <;> cases decide (chooseArm S st i.size i.now1 = .nextTick) <;> simp
  · cases skipsSize S st i.now1 <;> cases decide (chooseArm S st i.size i.now1 = .nextTick) <;> simp
  · exact fun hS hb => List.append_left_eq_self.mp
      ((iter_calls_eq S c trig st i).symm.trans (iter_backoff_quiet S c trig hS st i hb).2.2)

/-- For ALL fault plans (any calls failing, any interrupts, any clock readings), over a queue that stores what is
    pushed (and on which a failed call has no effect), with triggers whose fire times strictly increase and distinct
    job keys: no (job, fire time) appears twice in the execution log. Holds for any shape of the error handling. -/
theorem C15_no_double_fire (S : Shape) (c : Cfg) (hthr : 0 ≤ c.thr) (trig : Trig)
    (hmono : ∀ k p t, trig k p = some t → p < t) (q0 : Queue) (hq : (q0.map (·.key)).Nodup) (st0 : BState)
    (ps : List Plan) : (dispatchLog (runQ S c trig ⟨st0, q0⟩ ps).1).Nodup := by
  have := runQ_nodup S c trig hthr hmono ps [] ⟨st0, q0⟩ ⟨hq, by simp⟩ (by simp)
  simpa using this

/-- The deadline is not postponed: under an arbitrary stream of interrupts the back-off state does not change as long
    as the queue does not fail anew AFTER the deadline (before the deadline it is not asked, so its answers — `size`,
    `head` of the inputs — are arbitrary and irrelevant); every iteration before the deadline `r` arms its timer for
    exactly `r` and asks the queue nothing; every iteration from `r` on is outside the back-off case. With timers that
    fire on time the loop therefore ticks at `r` at the latest, however dense the interrupt traffic is.
    (A `Size()` / `Head()` failure after the deadline starts a new back-off: `C15_backoff_step` (1).) -/
theorem C15_deadline_not_postponed (S : Shape) (hS : WF S) (c : Cfg) (trig : Trig) (st : BState) (r : Int)
    (hr : st.retryAt = some r) (ins : List In) (hall : ∀ i ∈ ins, i.interrupted = true)
    (hok : ∀ i ∈ ins, r ≤ i.now1 → i.size.isSome = true ∧ i.head ≠ .err) :
    (runLoop S c trig st ins).2 = st ∧
    ∀ (k : Nat) (ik : In) (ok : Out), ins[k]? = some ik → (runLoop S c trig st ins).1[k]? = some ok →
      (ik.now1 < r → ik.now2 + ok.armed = r ∧ ok.calls = []) ∧
      (r ≤ ik.now1 → inBackoff S st ik.now1 = false) := by
  have harm : ∀ i ∈ ins, (iter S c trig st i).armErr = false := by
    intro i hi
    by_cases hlt : i.now1 < r
    · exact ((C15_backoff_step S hS c trig st i).2.2.1 r hr hlt).2.1
    · obtain ⟨h1, h2⟩ := hok i hi (by omega)
      rw [iter_armErr_eq]
      cases hs : i.size with
      | none => simp [hs] at h1
      | some n => simp [h2]
  rw [runLoop_const _ _ _ _ _ (fun i hi => (C15_backoff_step S hS c trig st i).2.2.2 (hall i hi) (harm i hi))]
  refine ⟨rfl, fun k ik ok hik hok' => ?_⟩
  rw [List.getElem?_map, hik] at hok'
  obtain rfl := Option.some.inj hok'
  refine ⟨fun hlt => ?_, fun hge => by simp [inBackoff, hS.backoff, hr]; omega⟩
  obtain ⟨a1, _, a3⟩ := (C15_backoff_step S hS c trig st ik).2.2.1 r hr hlt
  exact ⟨a1, by rw [a3]; simp [hall ik (List.mem_of_getElem? hik)]⟩

/-- Once no queue call fails any more (any clock readings, any interrupts, ticks on an honestly empty queue included):
    the back-off state is never touched again; the loop pops, dispatches and reschedules exactly what the loop
    without any back-off state does on the same queue (same execution log, same stored entries); and if the plans all
    lie outside the back-off window (their clock reading is at or after the deadline, or there is no deadline) the two
    loops coincide in every output: armed durations, queue calls, dispatches. -/
theorem C15_recovers (S : Shape) (hS : WF S) (c : Cfg) (trig : Trig) (s : LState) (ps : List Plan)
    (hps : ∀ p ∈ ps, p.faultFree = true) :
    (runQ S c trig s ps).2.st = s.st ∧
    (runQ S c trig s ps).2.q = (runQ (plain S) c trig ⟨{}, s.q⟩ ps).2.q ∧
    dispatchLog (runQ S c trig s ps).1 = dispatchLog (runQ (plain S) c trig ⟨{}, s.q⟩ ps).1 ∧
    ((∀ p ∈ ps, inBackoff S s.st p.now1 = false) →
      (runQ S c trig s ps).1 = (runQ (plain S) c trig ⟨{}, s.q⟩ ps).1.map (fun o => { o with st := s.st })) := by
  induction ps generalizing s with
  | nil => simp [runQ, dispatchLog]
  | cons p ps ih =>
    obtain ⟨st, q⟩ := s
    obtain ⟨h1, h2, h3⟩ := iterQ_vs_plain S c trig hS st q p (hps p (by simp))
    have hpl : (iterQ (plain S) c trig ⟨{}, q⟩ p).2 = ⟨{}, (iterQ (plain S) c trig ⟨{}, q⟩ p).2.q⟩ :=
      congrArg (LState.mk · _) (iter_plain_st S c trig {} (inOf q p))
    obtain ⟨i1, i2, i3, i4⟩ := ih ⟨st, (iterQ (plain S) c trig ⟨{}, q⟩ p).2.q⟩ (fun p' h => hps p' (by simp [h]))
    simp only [runQ, dispatchLog_cons]
    rw [h1, h2, hpl]
    refine ⟨i1, i2, by rw [i3], ?_⟩
    intro hall
    rw [h3 (hall p (by simp)), i4 (fun p' h => hall p' (by simp [h]))]
    simp

/-- An honestly empty queue is not a failing queue: a tick whose `Pop()` answers `ErrQueueEmpty` and whose `Size()`,
    asked under the queue lock, answers 0 (the last job was deleted or cleared after the timer was armed) leaves the
    back-off state as the arming part of the iteration left it — as it was, unless `Size()` / `Head()` failed in this
    very iteration — in particular it does not start a back-off, and dispatches nothing. A job scheduled
    afterwards is therefore not held back (C05). -/
theorem C15_honest_empty_pop (S : Shape) (hS : WF S) (c : Cfg) (trig : Trig) (st : BState) (i : In)
    (hni : i.interrupted = false) (hpop : i.pop = .empty) (hsz : i.size2 = some 0) :
    ((iter S c trig st i).armErr = false → (iter S c trig st i).st = st) ∧
    (iter S c trig st i).st = afterArm S c st (iter S c trig st i).armErr i.now2 ∧
    (iter S c trig st i).dispatched = none ∧
    (iter S c trig st i).popped = none ∧ (iter S c trig st i).tickErr = false := by
  obtain ⟨e1, _, e3, e4, e5⟩ := iter_fields S c trig st i
  have hf := fetch_popEmpty S c trig hS i hpop
  have h5 : (iter S c trig st i).st = afterArm S c st (iter S c trig st i).armErr i.now2 := by
    rw [e5, hf]
    simp [hni, hsz, afterTick_noErr S c hS]
  refine ⟨fun h => by rw [h5, h, afterArm_noErr], h5, ?_⟩
  rw [e1, e3, e4, hf]
  simp [hni]

/-- Negative control (the behaviour of 78e46a3, which returned every empty `Pop()` as an error): once a tick happens
    on an EMPTY queue, the queue is polled for ever. The back-off case of the `switch` precedes `queueSize == 0`, so
    the loop waits for the deadline instead of sleeping on `maxTimerDuration`; the tick at the deadline is an empty
    `Pop()`, which sets the next deadline. Fault-free inputs, nothing stored: every tick re-arms the back-off, and a
    job scheduled meanwhile waits for the end of the window. -/
theorem C15_empty_queue_keeps_polling (S : Shape) (hS : WF S) (c : Cfg) (trig : Trig) (st : BState) (p : Plan)
    (hp : p.faultFree = true) (hni : p.interrupted = false) :
    (iterQ (alwaysOnEmptyPop S) c trig ⟨st, []⟩ p).2 = ⟨{ st with retryAt := some (p.nowErr + c.R) }, []⟩ ∧
    (∀ r : Int, p.now1 < r →
      (iterQ (alwaysOnEmptyPop S) c trig ⟨{ st with retryAt := some r }, []⟩ p).1.armed = r - p.now2) := by
  obtain ⟨⟨⟨⟨hfs, hfh⟩, hpop⟩, _⟩, _⟩ :=
    by simpa only [Plan.faultFree, Bool.and_eq_true, Bool.not_eq_eq_eq_not, Bool.not_true] using hp
  refine ⟨?_, fun r hlt => ?_⟩
  · simp [iterQ, iter, qAfter, inOf, hfs, hfh, hpop, hni, fetch, afterArm, afterTick, alwaysOnEmptyPop, hS.stateFromTick,
      hS.backoff]
  · simp only [iterQ]
    rw [iter_armed]
    simp [chooseArm, skipsSize, inBackoff, alwaysOnEmptyPop, inOf, hS.backoff, hS.onBackoff, hfs, hlt]

/-- the `switch` of the loop, `calculateNextTick` and the error plumbing of `fetchAndReschedule` / `executeAndReschedule`, as the
    extractor reads them off the source, have the one well-formed shape -/
theorem C15_facts_wf : WF Generated.Faults.shape := by decide +kernel

/-- every API method returns the error of each of its queue calls unchanged (the hypothesis of `C15_api_propagates`) -/
theorem C15_facts_api : ∀ c, Generated.Faults.propagates c = true := by
  intro c; cases c <;> decide

/-- every dispatch in `executeAndReschedule` is inside `if valid { … }` (the model's `fetch` dispatches only what `validate` accepts) -/
theorem C15_facts_dispatch : Generated.Faults.dispatchOnlyIfValid = true := by decide

/-- the back-off theorem for the loop as it is in the source now -/
theorem C15_holds (c : Cfg) (trig : Trig) (st0 : BState) (prev : Int) (ins : List In)
    (hwt : WellTimed Generated.Faults.shape c trig st0 prev ins) (k : Nat) (ik : In) (ok : Out)
    (hik : ins[k]? = some ik) (hok : (runLoop Generated.Faults.shape c trig st0 ins).1[k]? = some ok) :
    (ok.armErr = true → (ik.interrupted = false → ik.tArm + c.R ≤ ik.tickAt) ∧
      ∀ j ij oj, k < j → ins[j]? = some ij → (runLoop Generated.Faults.shape c trig st0 ins).1[j]? = some oj →
        (ij.interrupted = false → ik.now2 + c.R ≤ ij.tickAt) ∧
        (∀ o, oj.calls.head? = some (.size, o) → ik.now2 + c.R ≤ ij.now1)) ∧
    (ok.tickErr = true → ∀ j ij, k < j → ins[j]? = some ij →
      (ij.interrupted = false → ik.nowErr + c.R ≤ ij.tickAt) ∧
      (∀ oj o, (runLoop Generated.Faults.shape c trig st0 ins).1[j]? = some oj → oj.calls.head? = some (.size, o) →
        ik.nowErr + c.R ≤ ij.now1)) :=
  C15_backoff Generated.Faults.shape C15_facts_wf c trig st0 prev ins hwt k ik ok hik hok

def cfg0 : Cfg := { R := 50, M := 1000000, thr := 100 }
def trig0 : Trig := fun _ p => some (p + 30)

/-- `Pop()` fails at time 10; an interrupt at 20 does not move the deadline 60; the loop ticks at 60 -/
def plans0 : List Plan :=
  [{ Plan.at 10 with fPop := true },
   { Plan.at 20 with interrupted := true },
   { now1 := 21, now2 := 21, tArm := 21, tickAt := 60, nowVal := 60, nowErr := 60 },
   Plan.at 61]

example :
    (runQ Generated.Faults.shape cfg0 trig0 ⟨{}, [⟨1, 5⟩]⟩ plans0).1.map (·.armed) = [0, 40, 39, 0] ∧
    dispatchLog (runQ Generated.Faults.shape cfg0 trig0 ⟨{}, [⟨1, 5⟩]⟩ plans0).1 = [(1, 5), (1, 35)] ∧
    (runQ Generated.Faults.shape cfg0 trig0 ⟨{}, [⟨1, 5⟩]⟩ plans0).1.map (·.tickErr) = [true, false, false, false] ∧
    (runQ Generated.Faults.shape cfg0 trig0 ⟨{}, [⟨1, 5⟩]⟩ plans0).2 = ⟨{ retryAt := some 60 }, [⟨1, 65⟩]⟩ := by
  rw [C15_facts_wf.eq_shape]
  decide +kernel

/-- … and that run is well-timed: the hypotheses of `C15_backoff` are satisfiable with an error in it -/
example : WellTimed Generated.Faults.shape cfg0 trig0 {} 0 (plans0.foldl
    (fun (acc : List In × Queue) p =>
      (acc.1 ++ [inOf acc.2 p], (iterQ Generated.Faults.shape cfg0 trig0 ⟨{}, acc.2⟩ p).2.q)) ([], [⟨1, 5⟩])).1 := by
  rw [C15_facts_wf.eq_shape]
  decide +kernel

/-- the hypotheses of `C15_no_spin_on_spurious_empty` / `C15_no_spin_on_empty_pop` are satisfiable: two ticks, 50 apart -/
example :
    let ins : List In := [{ spuriousIn 0 with tickAt := 50, nowVal := 50, nowErr := 50 },
      { spuriousIn 50 with tickAt := 100, nowVal := 100, nowErr := 100 }]
    (∀ i ∈ ins, SpuriousEmpty i) ∧ WellTimed Generated.Faults.shape cfg0 trig0 {} 0 ins ∧
    (runLoop Generated.Faults.shape cfg0 trig0 {} ins).1.map (·.armed) = [50, 50] ∧
    (runLoop Generated.Faults.shape cfg0 trig0 {} ins).2 = { retryAt := some 150 } := by
  rw [C15_facts_wf.eq_shape]
  refine ⟨?_, by decide +kernel, by decide +kernel, by decide +kernel⟩
  intro i hi
  simp only [List.mem_cons, List.not_mem_nil, or_false] at hi
  rcases hi with rfl | rfl <;> exact ⟨⟨0, rfl⟩, rfl, rfl, by decide⟩

/-- a tick on an honestly empty queue in the middle of a back-off: the state is not touched; under the rule of go-quartz
    commit 78e46a3 (every empty `Pop()` is an error: `alwaysOnEmptyPop`) the same tick sets a new deadline, 60 + 50 = 110 -/
example : (iterQ Generated.Faults.shape cfg0 trig0 ⟨{ retryAt := some 60 }, []⟩ (Plan.at 60)).2 = ⟨{ retryAt := some 60 }, []⟩ ∧
    (iterQ (alwaysOnEmptyPop Generated.Faults.shape) cfg0 trig0 ⟨{ retryAt := some 60 }, []⟩ (Plan.at 60)).2 =
      ⟨{ retryAt := some 110 }, []⟩ := by
  rw [C15_facts_wf.eq_shape]
  decide +kernel

/-- the hypotheses of `C15_no_double_fire` are satisfiable and the log is non-empty -/
example : (∀ k p t, trig0 k p = some t → p < t) ∧ (([⟨1, 5⟩, ⟨2, 7⟩] : Queue).map (·.key)).Nodup ∧
    dispatchLog (runQ Generated.Faults.shape cfg0 trig0 ⟨{}, [⟨1, 5⟩, ⟨2, 7⟩]⟩
      [Plan.at 5, { Plan.at 7 with fPush := true }, Plan.at 35]).1
      = [(1, 5), (2, 7), (1, 35)] := by
  rw [C15_facts_wf.eq_shape]
  refine ⟨?_, by decide, by decide +kernel⟩
  intro k p t h; simp [trig0] at h; omega

end Faults
