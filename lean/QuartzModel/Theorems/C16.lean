import QuartzModel.Jobs.Status
import QuartzModel.Proofs.JobsLemmas
import QuartzModel.Generated.Facts
/-!
# C16 — built-in jobs report each execution faithfully and do not leak resources

Model: `QuartzModel/Jobs/Status.lean` (`job/function_job.go`, `shell_job.go`, `curl_job.go`, `job_status.go`).

What is PROVED here (about the model):
* the three status decisions, for all inputs (`C16_*_status_iff`);
* for every sequence of executions and every interleaving of their steps, the accessors show exactly the
  fields of the execution whose critical section ran last — never a mixture (`C16_last_execution*`);
* a callback runs exactly once per completed execution (`C16_callback_once`);
* a `CurlJob` holds at most one open response body at every reachable state (`C16_open_bodies_le_one*`),
  and without the `Body.Close()` before `Do` the open bodies grow with every request that got a body
  (`C16_leak_without_close`, negative control documenting the repaired defect).

What ties the model to the code: `C16_facts_*` (regenerated from the source on every run) and the
differential / observational harness `qh jobs`.  NOT proved, only observed by the harness: the contracts
of `os/exec` (`ExecContract`: `Run` fails iff exit code ≠ 0; a killed or unstartable command) and of
`net/http` (a closed body releases its connection; goroutines inside the transport), context
cancellation, and the absence of goroutine/process leaks.
-/
namespace Jobs

/-! ## the facts read from the current source are the parameters of the model -/

def statusOfAssign : String → Option Status
  | "f.jobStatus=StatusOK" | "sh.jobStatus=StatusOK" | "cu.jobStatus=StatusOK" => some .ok
  | "f.jobStatus=StatusFailure" | "sh.jobStatus=StatusFailure" | "cu.jobStatus=StatusFailure" => some .failure
  | _ => none

/-- the one `jobStatus` assignment of a branch -/
def branchStatus (l : List String) : Option Status :=
  match l.filterMap statusOfAssign with
  | [s] => some s
  | _ => none

def generatedFunctionTest : Option ErrTest := do
  let op ← Cmp.ofString Generated.Jobs.functionErrOp
  let t ← branchStatus Generated.Jobs.functionThen
  let e ← branchStatus Generated.Jobs.functionElse
  pure { op := op, thenStatus := t, elseStatus := e }

def generatedShellTest : Option ErrTest := do
  let op ← Cmp.ofString Generated.Jobs.shellErrOp
  let t ← branchStatus Generated.Jobs.shellThen
  let e ← branchStatus Generated.Jobs.shellElse
  pure { op := op, thenStatus := t, elseStatus := e }

def generatedCurlTest : Option CurlTest := do
  let n ← Cmp.ofString Generated.Jobs.curlNilOp
  let lo ← Cmp.ofString Generated.Jobs.curlLoOp
  let hi ← Cmp.ofString Generated.Jobs.curlHiOp
  let t ← branchStatus Generated.Jobs.curlThen
  let e ← branchStatus Generated.Jobs.curlElse
  pure { nilOp := n, loOp := lo, lo := Generated.Jobs.curlLo, hiOp := hi, hi := Generated.Jobs.curlHi,
         thenStatus := t, elseStatus := e }

/-- the status tests of the three `Execute` methods are the ones of the model -/
theorem C16_facts_tests :
    generatedFunctionTest = some {} ∧ generatedShellTest = some {} ∧ generatedCurlTest = some {} ∧
    Generated.Jobs.statusConsts = ["StatusNA=0", "StatusOK=1", "StatusFailure=2"] := by decide +kernel

/-- `FunctionJob.Execute`: result/err/status of ONE call of the function, written under one lock, `return err` -/
theorem C16_facts_function :
    Generated.Jobs.functionCall = "result, err := f.function(ctx)" ∧
    Generated.Jobs.functionThen = ["var zero R", "f.jobStatus=StatusFailure", "f.result=zero", "f.err=err"] ∧
    Generated.Jobs.functionElse = ["f.jobStatus=StatusOK", "f.result=result", "f.err=nil"] ∧
    Generated.Jobs.functionStoreInLock = true ∧
    Generated.Jobs.functionReturn = "return err" :=
  ⟨rfl, rfl, rfl, rfl, rfl⟩

/-- `ShellJob.Execute`: buffers, exit code and status of ONE `cmd.Run()`, written under one lock, one callback call -/
theorem C16_facts_shell :
    Generated.Jobs.shellCommand = "cmd := exec.CommandContext(ctx, shell, \"-c\", sh.cmd)" ∧
    Generated.Jobs.shellCapture = ["cmd.Stdout=io.Writer(&stdout)", "cmd.Stderr=io.Writer(&stderr)"] ∧
    Generated.Jobs.shellRun = "err := cmd.Run()" ∧
    Generated.Jobs.shellStore =
      ["sh.stdout=stdout.String()", "sh.stderr=stderr.String()", "sh.exitCode=cmd.ProcessState.ExitCode()"] ∧
    Generated.Jobs.shellStoreInLock = true ∧
    Generated.Jobs.shellReturn = "return err" ∧
    Generated.Jobs.shellCallbackSites = 1 ∧ Generated.Jobs.shellCallbackInLoop = false ∧
    Generated.Jobs.shellCallbackAfterUnlock = true ∧ Generated.Jobs.shellCallbackGuard = "sh.callback != nil" :=
  ⟨rfl, rfl, rfl, rfl, rfl, rfl, rfl, rfl, rfl, rfl⟩

/-- `CurlJob.Execute`: previous body closed before `Do`, response and status written under the same lock,
request bound to the execution context, one callback call.  The critical section is the helper `do`, run by the one statement
`err := cu.do(ctx)` of `Execute`; it starts with `cu.mtx.Lock(); defer cu.mtx.Unlock()` (so that a panicking `HTTPHandler` or
`Body.Close()` cannot leave the job's mutex locked); `Execute` returns `do`'s error after the callback. -/
theorem C16_facts_curl :
    Generated.Jobs.curlHelperCall = "err := cu.do(ctx)" ∧ Generated.Jobs.curlUnlockDeferred = true ∧
    Generated.Jobs.curlExecuteReturn = "return err" ∧
    Generated.Jobs.curlLoName = "http.StatusOK" ∧ Generated.Jobs.curlHiName = "http.StatusBadRequest" ∧
    Generated.Jobs.curlWithContext = "cu.request = cu.request.WithContext(ctx)" ∧
    Generated.Jobs.curlCloseGuard = ["cu.response != nil", "cu.response.Body != nil"] ∧
    Generated.Jobs.curlCloseInLoop = false ∧ Generated.Jobs.curlCloseBeforeDo = true ∧
    Generated.Jobs.curlDo = "cu.response, err = cu.httpClient.Do(cu.request)" ∧
    Generated.Jobs.curlStoreInLock = true ∧ Generated.Jobs.curlReturn = "return err" ∧
    Generated.Jobs.curlCallbackSites = 1 ∧ Generated.Jobs.curlCallbackInLoop = false ∧
    Generated.Jobs.curlCallbackAfterUnlock = true ∧ Generated.Jobs.curlCallbackGuard = "cu.callback != nil" :=
  ⟨rfl, rfl, rfl, rfl, rfl, rfl, rfl, rfl, rfl, rfl, rfl, rfl, rfl, rfl, rfl, rfl⟩

/-- every accessor reads under the job's mutex -/
theorem C16_facts_accessors :
    Generated.Jobs.accessorsUnderLock =
      ["FunctionJob.Result", "FunctionJob.Error", "FunctionJob.JobStatus", "ShellJob.ExitCode", "ShellJob.Stdout",
       "ShellJob.Stderr", "ShellJob.JobStatus", "CurlJob.JobStatus", "CurlJob.DumpResponse"] ∧
    Generated.Jobs.accessorsWithoutLock = [] :=
  ⟨rfl, rfl⟩

theorem errTest_decide_iff (t : ErrTest) (hop : t.op = .ne) (ht : t.thenStatus = .failure) (he : t.elseStatus = .ok)
    (err : Bool) : t.decide err = .ok ↔ err = false := by
  unfold ErrTest.decide
  rw [hop, ht, he]
  cases err <;> simp

theorem C16_function_status_iff (err : Bool) : functionStatus err = .ok ↔ err = false :=
  errTest_decide_iff {} rfl rfl rfl err

theorem C16_shell_status_iff (runErr : Bool) : shellStatus runErr = .ok ↔ runErr = false :=
  errTest_decide_iff {} rfl rfl rfl runErr

/-- the status is never left at `StatusNA` by an execution, and it is a two-valued decision -/
theorem C16_status_total (b : Bool) (r : Option Nat) :
    (functionStatus b = .ok ∨ functionStatus b = .failure) ∧ (shellStatus b = .ok ∨ shellStatus b = .failure) ∧
    (curlStatus r = .ok ∨ curlStatus r = .failure) := by
  refine ⟨?_, ?_, ?_⟩
  · cases b <;> decide
  · cases b <;> decide
  · unfold curlStatus CurlTest.decide; split <;> simp

/-- under the contract of `os/exec`, the stored status is OK exactly when the stored exit code is 0 -/
theorem C16_shell_status_exit (o : ShOut) (h : o.ExecContract) : (shStore o).status = .ok ↔ (shStore o).exitCode = 0 := by
  unfold ShOut.ExecContract at h
  simp only [shStore, C16_shell_status_iff]
  rw [← Bool.not_eq_true, h, Decidable.not_not]

theorem curlTest_decide_iff (t : CurlTest) (hn : t.nilOp = .ne) (ht : t.thenStatus = .ok) (he : t.elseStatus = .failure)
    (resp : Option Nat) :
    t.decide resp = .ok ↔ ∃ c : Nat, resp = some c ∧ t.loOp.eval c t.lo = true ∧ t.hiOp.eval c t.hi = true := by
  unfold CurlTest.decide CurlTest.cond
  rw [hn, ht, he]
  cases resp <;> simp

/-- ALL status codes: OK ↔ a response exists and 200 ≤ code < 400 -/
theorem C16_curl_status_iff (resp : Option Nat) :
    curlStatus resp = .ok ↔ ∃ c : Nat, resp = some c ∧ 200 ≤ c ∧ c < 400 := by
  unfold curlStatus
  rw [curlTest_decide_iff {} rfl rfl rfl]
  exact exists_congr fun c => and_congr_right fun _ => by simp [Cmp.eval]; omega

theorem C16_curl_status_failure_iff (resp : Option Nat) :
    curlStatus resp = .failure ↔ resp = none ∨ ∃ c : Nat, resp = some c ∧ (c < 200 ∨ 400 ≤ c) := by
  have : curlStatus resp = .failure ↔ ¬ curlStatus resp = .ok := by
    rcases (C16_status_total true resp).2.2 with h | h <;> simp [h]
  rw [this, C16_curl_status_iff]
  cases resp <;> simp <;> omega

/-- the same three tables for the tests as read from the source (the statements transferred to the code) -/
theorem C16_status_iff_code (ft st : ErrTest) (ct : CurlTest) (hf : generatedFunctionTest = some ft)
    (hs : generatedShellTest = some st) (hc : generatedCurlTest = some ct) :
    (∀ err, ft.decide err = .ok ↔ err = false) ∧ (∀ runErr, st.decide runErr = .ok ↔ runErr = false) ∧
    (∀ resp, ct.decide resp = .ok ↔ ∃ c : Nat, resp = some c ∧ 200 ≤ c ∧ c < 400) := by
  obtain ⟨h1, h2, h3, _⟩ := C16_facts_tests
  rw [h1] at hf; rw [h2] at hs; rw [h3] at hc
  cases hf; cases hs; cases hc
  exact ⟨C16_function_status_iff, C16_shell_status_iff, C16_curl_status_iff⟩

/-! ## one execution: what the critical section stores and what `Execute` returns -/

theorem C16_function_fields {R : Type} [Inhabited R] (o : FnOut R) :
    fnReturn o = o.err ∧ (fnStore o).err = o.err ∧
    ((fnStore o).status = .ok ↔ o.err = none) ∧
    (o.err = none → (fnStore o).result = o.result) ∧
    (o.err ≠ none → (fnStore o).result = default ∧ (fnStore o).status = .failure) := by
  unfold fnStore fnReturn
  cases h : o.err <;> simp [functionStatus, ErrTest.decide]

theorem C16_shell_fields (o : ShOut) :
    shReturn o = o.runErr ∧ (shStore o).exitCode = o.exitCode ∧ (shStore o).stdout = o.stdout ∧
    (shStore o).stderr = o.stderr ∧ ((shStore o).status = .ok ↔ o.runErr = false) :=
  ⟨rfl, rfl, rfl, rfl, C16_shell_status_iff o.runErr⟩

theorem C16_curl_fields (b : Bool) (s : CuState) (o : CuOut) :
    cuReturn o = o.err ∧ (cuStore b s o).response = o.resp ∧
    ((cuStore b s o).status = .ok ↔ ∃ r, o.resp = some r ∧ 200 ≤ r.code ∧ r.code < 400) := by
  refine ⟨rfl, rfl, ?_⟩
  show curlStatus (o.resp.map (·.code)) = .ok ↔ _
  rw [C16_curl_status_iff]
  cases o.resp <;> simp

/-! ## the last completed execution wins, in every interleaving -/

/-- Generic form. `st` is the critical section of `Execute`, `outs i` what execution `i` produced, `obs` the
accessors. Hypothesis `hst` says that the critical section writes every observed field from the one outcome
(true for the three jobs by `rfl`: the fields are assigned between one `Lock` and `Unlock`).
Then after ANY schedule the accessors show the outcome of the execution that stored last (`order.head?`),
that execution has indeed passed its store step, and nothing is observed before the first store. -/
theorem C16_last_execution {S O F : Type} (st : S → O → S) (obs : S → F) (fieldsOf : O → F)
    (hst : ∀ s o, obs (st s o) = fieldsOf o) (outs : Nat → O) (s0 : S) (cbk : Bool) (sched : List Nat) :
    let s := Sys.run (fun x i => st x (outs i)) cbk (Sys.init s0) sched
    (s.order = [] ∧ s.shared = s0 ∧ ∀ i, s.pc i = .idle ∨ s.pc i = .ran) ∨
    (∃ j rest, s.order = j :: rest ∧ obs s.shared = fieldsOf (outs j) ∧ (s.pc j = .stored ∨ s.pc j = .done)) := by
  intro s
  have h : Inv (fun x i => st x (outs i)) cbk s0 s := inv_reachable _ cbk s0 sched
  have hsh := h.shared
  cases ho : s.order with
  | nil =>
    rw [ho] at hsh
    refine Or.inl ⟨rfl, hsh, fun i => ?_⟩
    have hm := h.mem i
    rw [ho] at hm
    cases hp : s.pc i <;> simp [hp] at hm ⊢
  | cons j rest =>
    rw [ho] at hsh
    exact Or.inr ⟨j, rest, rfl, by rw [hsh]; exact hst _ _, (h.mem j).mp (by rw [ho]; exact List.mem_cons_self)⟩

/-- the store order lists every execution that has stored exactly once, so "the last one" is well defined -/
theorem C16_store_order {S : Type} (store : S → Nat → S) (s0 : S) (cbk : Bool) (sched : List Nat) :
    let s := Sys.run store cbk (Sys.init s0) sched
    s.order.Nodup ∧ ∀ i, i ∈ s.order ↔ (s.pc i = .stored ∨ s.pc i = .done) :=
  ⟨(inv_reachable store cbk s0 sched).nodup, (inv_reachable store cbk s0 sched).mem⟩

/-- the stored state is the sequential composition of the critical sections in store order: concurrent
executions behave like SOME sequence of executions (the one given by the order of their store steps) -/
theorem C16_serialised {S O : Type} (st : S → O → S) (outs : Nat → O) (s0 : S) (cbk : Bool) (sched : List Nat) :
    let s := Sys.run (fun x i => st x (outs i)) cbk (Sys.init s0) sched
    s.shared = (s.order.reverse.map outs).foldl st s0 := by
  intro s
  rw [← replay_eq_foldl]
  exact (inv_reachable (fun x i => st x (outs i)) cbk s0 sched).shared

/-- FunctionJob: `JobStatus()`, `Result()`, `Error()` are those of one and the same execution, the last to store -/
theorem C16_last_execution_function {R : Type} [Inhabited R] (outs : Nat → FnOut R) (sched : List Nat) :
    let s := Sys.run (fun _ i => fnStore (outs i)) false (Sys.init FnFields.init) sched
    (s.order = [] ∧ s.shared.status = .na) ∨
    (∃ j rest, s.order = j :: rest ∧ s.shared.err = (outs j).err ∧
      (s.shared.status = .ok ↔ (outs j).err = none) ∧
      ((outs j).err = none → s.shared.result = (outs j).result) ∧
      ((outs j).err ≠ none → s.shared.result = default)) := by
  intro s
  rcases C16_last_execution (fun (_ : FnFields R) o => fnStore o) id fnStore (fun _ _ => rfl) outs FnFields.init false sched with
    ⟨h1, h2, _⟩ | ⟨j, rest, h1, h2, _⟩
  · exact Or.inl ⟨h1, congrArg (·.status) h2⟩
  · obtain ⟨_, f2, f3, f4, f5⟩ := C16_function_fields (outs j)
    have hs : s.shared = fnStore (outs j) := h2
    rw [hs]
    exact Or.inr ⟨j, rest, h1, f2, f3, f4, fun h => (f5 h).1⟩

/-- ShellJob: `JobStatus()`, `ExitCode()`, `Stdout()`, `Stderr()` are those of the execution that stored last -/
theorem C16_last_execution_shell (outs : Nat → ShOut) (cbk : Bool) (sched : List Nat) :
    let s := Sys.run (fun _ i => shStore (outs i)) cbk (Sys.init ({} : ShFields)) sched
    (s.order = [] ∧ s.shared = {}) ∨
    (∃ j rest, s.order = j :: rest ∧ s.shared.exitCode = (outs j).exitCode ∧ s.shared.stdout = (outs j).stdout ∧
      s.shared.stderr = (outs j).stderr ∧ (s.shared.status = .ok ↔ (outs j).runErr = false)) := by
  intro s
  rcases C16_last_execution (fun (_ : ShFields) o => shStore o) id shStore (fun _ _ => rfl) outs {} cbk sched with
    ⟨h1, h2, _⟩ | ⟨j, rest, h1, h2, _⟩
  · exact Or.inl ⟨h1, h2⟩
  · refine Or.inr ⟨j, rest, h1, ?_⟩
    have hs : s.shared = shStore (outs j) := h2
    rw [hs]
    exact ⟨rfl, rfl, rfl, C16_shell_status_iff _⟩

/-- CurlJob: `JobStatus()` and the stored response are those of the execution that stored last -/
theorem C16_last_execution_curl (outs : Nat → CuOut) (cbk : Bool) (sched : List Nat) :
    let s := Sys.run (fun x i => cuStore true x (outs i)) cbk (Sys.init ({} : CuState)) sched
    (s.order = [] ∧ s.shared = {}) ∨
    (∃ j rest, s.order = j :: rest ∧ s.shared.response = (outs j).resp ∧
      (s.shared.status = .ok ↔ ∃ r, (outs j).resp = some r ∧ 200 ≤ r.code ∧ r.code < 400)) := by
  intro s
  rcases C16_last_execution (cuStore true) (fun x => (x.status, x.response))
      (fun o => (curlStatus (o.resp.map (·.code)), o.resp)) (fun _ _ => rfl) outs {} cbk sched with
    ⟨h1, h2, _⟩ | ⟨j, rest, h1, h2, _⟩
  · exact Or.inl ⟨h1, h2⟩
  · refine Or.inr ⟨j, rest, h1, congrArg (·.2) h2, ?_⟩
    have hs : s.shared.status = curlStatus ((outs j).resp.map (·.code)) := congrArg (·.1) h2
    rw [hs]
    exact (C16_curl_fields true {} (outs j)).2.2

/-- NEGATIVE CONTROL for the critical section: if the fields were written in two separate steps (no mutex),
two concurrent executions can leave field `a` from execution 1 and field `b` from execution 0 -/
theorem C16_fields_mix_without_lock : ∃ sched, tornRun sched = { a := some 1, b := some 0 } :=
  ⟨[0, 1, 1, 0], by decide⟩

/-- with a callback: in every reachable state each execution has run it at most once, exactly once when it
has returned; the number of callbacks equals the number of completed executions. Without: none. -/
theorem C16_callback_once {S : Type} (store : S → Nat → S) (s0 : S) (sched : List Nat) (m : Nat) :
    let s := Sys.run store true (Sys.init s0) sched
    let s' := Sys.run store false (Sys.init s0) sched
    (∀ i, s.cb i ≤ 1 ∧ (s.pc i = .done ↔ s.cb i = 1)) ∧ s.callbacks m = s.completed m ∧ s'.callbacks m = 0 := by
  intro s s'
  have h : Inv store true s0 s := inv_reachable store true s0 sched
  have h' : Inv store false s0 s' := inv_reachable store false s0 sched
  refine ⟨fun i => ?_, ?_, ?_⟩
  · rw [h.cb i]
    by_cases hd : s.pc i = .done <;> simp [hd]
  · exact sum_indicator _ _ (fun i => decide (s.pc i = .done)) (fun i => by rw [h.cb i]; simp)
  · exact (sum_indicator _ _ (fun _ => false) (fun i => by rw [h'.cb i]; simp)).trans (by simp)

/-- every sequence of executions (successful, failed with nil response, with nil body): at most one body is
open, namely the one of the stored response; and every body ever handed out was closed or is that one -/
theorem C16_open_bodies_le_one (os : List CuOut) :
    let s := cuRun true {} os
    s.openBodies.length ≤ 1 ∧ s.openBodies = (heldBody s.response).toList ∧
    s.closes + s.openBodies.length = gotBody os := by
  intro s
  have h := cuRun_open_inv {} os rfl
  have hc := cuRun_conserved {} os rfl
  refine ⟨?_, h, by simpa using hc⟩
  show (cuRun true {} os).openBodies.length ≤ 1
  rw [h]
  cases heldBody (cuRun true {} os).response <;> simp

/-- the same at every reachable state of every interleaving of concurrent executions -/
theorem C16_open_bodies_le_one_concurrent (outs : Nat → CuOut) (cbk : Bool) (sched : List Nat) :
    (Sys.run (fun x i => cuStore true x (outs i)) cbk (Sys.init ({} : CuState)) sched).shared.openBodies.length ≤ 1 := by
  have h := C16_serialised (cuStore true) outs {} cbk sched
  simp only at h
  rw [h]
  exact (C16_open_bodies_le_one _).1

/-- NEGATIVE CONTROL (the repaired defect): without `cu.response.Body.Close()` before `Do`, nothing is ever
closed and the number of open bodies equals the number of executions that obtained a body -/
theorem C16_leak_without_close (os : List CuOut) :
    (cuRun false {} os).openBodies.length = gotBody os ∧ (cuRun false {} os).closes = 0 := by
  have h := cuRun_leak {} os
  simpa using h

/-- … hence unbounded: `n` successful requests leave `n` bodies open (with the close: one) -/
theorem C16_leak_unbounded (n : Nat) :
    (cuRun false {} (List.replicate n ⟨some ⟨200, some 0⟩, false⟩)).openBodies.length = n ∧
    (cuRun true {} (List.replicate n ⟨some ⟨200, some 0⟩, false⟩)).openBodies.length ≤ 1 := by
  refine ⟨?_, (C16_open_bodies_le_one _).1⟩
  rw [(C16_leak_without_close _).1]
  unfold gotBody
  simp [heldBody]

example : curlStatus (some 204) = .ok ∧ curlStatus (some 399) = .ok ∧ curlStatus (some 400) = .failure ∧
    curlStatus (some 199) = .failure ∧ curlStatus none = .failure := by decide +kernel

example : functionStatus false = .ok ∧ shellStatus true = .failure := by decide +kernel

/-- an `ExecContract` outcome exists for both branches -/
example : (ShOut.mk 0 false "out" "").ExecContract ∧ (ShOut.mk 3 true "" "err").ExecContract ∧
    (ShOut.mk (-1) true "" "").ExecContract := by
  unfold ShOut.ExecContract; decide +kernel

/-- two concurrent executions, execution 1 stores first, execution 0 last: the fields are those of 0 -/
example :
    let outs : Nat → ShOut := fun i => if i = 0 then ⟨0, false, "zero", ""⟩ else ⟨7, true, "", "one"⟩
    let s := Sys.run (fun _ i => shStore (outs i)) true (Sys.init ({} : ShFields)) [0, 1, 1, 0, 0, 1]
    s.order = [0, 1] ∧ s.shared = shStore (outs 0) ∧ s.cb 0 = 1 ∧ s.cb 1 = 1 ∧ s.completed 2 = 2 := by
  decide +kernel

/-- ok, server error, transport failure (nil response), redirect without body, ok, ok (204): one body open, three closed -/
example :
    let os : List CuOut := [⟨some ⟨200, some 1⟩, false⟩, ⟨some ⟨500, some 2⟩, false⟩, ⟨none, true⟩,
                             ⟨some ⟨301, none⟩, false⟩, ⟨some ⟨200, some 5⟩, false⟩, ⟨some ⟨204, some 6⟩, false⟩]
    (cuRun true {} os).openBodies = [6] ∧ (cuRun true {} os).closes = 3 ∧ gotBody os = 4 ∧
    (cuRun false {} os).openBodies = [6, 5, 2, 1] := by
  decide +kernel

end Jobs
