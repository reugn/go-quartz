import QuartzModel.Jobs.Isolated
import QuartzModel.Proofs.IsolatedLemmas
import QuartzModel.Generated.Facts
/-!
# C17 — isolated job: executions never overlap, and the gate always reopens

Model: `QuartzModel/Jobs/Isolated.lean` — any number `n` of threads calling `(*isolatedJob).Execute`
repeatedly, small-step interleaving semantics with the atomic `Swap(true)` and the deferred
`Store(false)`. All theorems are about every state reachable by ANY interleaving (`Reachable true`), for
every `n`, through the inductive invariant `Inv` (`Proofs/IsolatedLemmas.lean`). Not in the model:
the memory model of `sync/atomic` (the two operations are taken as sequentially consistent atomic
actions, which is what `atomic.Bool` documents) and the delegate itself (it is left in one of three
ways after arbitrarily many steps of the other threads).
-/
namespace Jobs.Isolated

variable {n : Nat}

/-! ## the source has the shape the model transcribes -/

/-- the shape read from /repo's current source by `harness/cmd/extract/x_isolated.go` -/
def generatedShape : SourceShape :=
  { stmts := Generated.Isolated.stmts
    flagType := Generated.Isolated.flagType
    ctorKeys := Generated.Isolated.ctorKeys
    flagUses := Generated.Isolated.flagUses
    numMethods := Generated.Isolated.numMethods }

/-- `Execute` is: the `Swap(true)` guard returning an error, then `defer Store(false)`, then the delegate
call; the flag is an `atomic.Bool` that starts false and is touched nowhere else. -/
theorem C17_facts : generatedShape = ({} : SourceShape) := rfl

/-- the flag is set exactly when some thread is inside the gate (in the delegate, or between the
delegate's exit and the store) -/
theorem C17_flag_iff {s : State n} (h : Reachable true s) :
    s.flag = true ↔ ∃ t, s.pc t = .running ∨ ∃ e, s.pc t = .exiting e := by
  simp only [(inv_reachable h).2, PC.holds_iff]

/-- At most one thread is inside the delegate — in fact at most one is anywhere between its successful
`Swap` and its `Store`. -/
theorem C17_mutex {s : State n} (h : Reachable true s) (t u : Fin n)
    (ht : s.pc t = .running ∨ ∃ e, s.pc t = .exiting e)
    (hu : s.pc u = .running ∨ ∃ e, s.pc u = .exiting e) : t = u :=
  (inv_reachable h).1 t u ((PC.holds_iff _).mpr ht) ((PC.holds_iff _).mpr hu)

/-- two executions of the underlying job never overlap -/
theorem C17_mutex_running {s : State n} (h : Reachable true s) (t u : Fin n)
    (ht : s.pc t = .running) (hu : s.pc u = .running) : t = u :=
  C17_mutex h t u (.inl ht) (.inl hu)

/-- A call that finds the flag set does not enter the delegate: its `Swap` step leads to `rejected`
(leaving the flag set), its only next step returns the error `busy`, and it changes nothing else.
Conversely a thread is only ever in the delegate through a `Swap` that found the flag clear. -/
theorem C17_fail_fast {s s' : State n} {t : Fin n} (st : Step true s t s') :
    (s.pc t = .idle → s.flag = true → s'.pc t = .rejected ∧ s'.flag = true) ∧
    (s.pc t = .rejected → s'.pc t = .finished .busy ∧ s'.flag = s.flag) ∧
    (s'.pc t = .running → s.pc t = .idle ∧ s.flag = false) ∧
    (∀ u, u ≠ t → s'.pc u = s.pc u) := by
  cases st
  case swap hpc =>
    refine ⟨fun _ hf => ?_, fun h => ?_, fun h => ⟨hpc, ?_⟩, fun u hu => setPc_other _ _ _ _ hu⟩
    · simp [hf]
    · rw [hpc] at h; cases h
    · cases hf : s.flag with
      | false => rfl
      | true => simp [hf] at h
  case refuse hpc =>
    refine ⟨fun h => ?_, fun _ => ⟨by simp, rfl⟩, fun h => ?_, fun u hu => setPc_other _ _ _ _ hu⟩
    · rw [hpc] at h; cases h
    · simp at h
  case unwind _ hd => cases hd
  case leave _ hpc _ | store _ hpc | again _ hpc =>
    refine ⟨fun h => ?_, fun h => ?_, fun h => ?_, fun u hu => setPc_other _ _ _ _ hu⟩
    · rw [hpc] at h; cases h
    · rw [hpc] at h; cases h
    · simp at h

/-- the error is returned only by the step of a `rejected` thread, i.e. only to calls that did not run the delegate -/
theorem C17_busy_only_if_rejected {s s' : State n} {t : Fin n} (st : Step true s t s')
    (h : s'.pc t = .finished .busy) : s.pc t = .rejected := by
  cases st
  case swap => cases hf : s.flag <;> simp [hf] at h
  case refuse hpc => exact hpc
  case unwind _ hd => cases hd
  case leave | store | again => simp at h

/-- Whenever no thread is inside (in the delegate or between its exit and the store) the flag is clear,
so the next call is admitted; and whichever way the delegate was left — nil, error or panic — the very
next step of that thread is the store, which is enabled and clears the flag. -/
theorem C17_reopens {s : State n} (h : Reachable true s) :
    ((∀ t, s.pc t ≠ .running ∧ ∀ e, s.pc t ≠ .exiting e) → s.flag = false) ∧
    (∀ t e, s.pc t = .exiting e →
      (∃ s', Step true s t s') ∧
      ∀ s', Step true s t s' → s'.flag = false ∧ s'.pc t = .finished (.delegated e)) ∧
    (∀ t, s.pc t = .running → ∀ e, ∃ s', Step true s t s' ∧ s'.pc t = .exiting e) := by
  refine ⟨fun hno => ?_, fun t e hpc => ⟨⟨_, Step.store s t e hpc⟩, fun s' st => ?_⟩,
    fun t hpc e => ⟨_, Step.leave s t e hpc (.inl rfl), by simp⟩⟩
  · refine Bool.eq_false_iff.mpr fun hf => ?_
    obtain ⟨t, ht | ⟨e, ht⟩⟩ := (C17_flag_iff h).mp hf
    · exact (hno t).1 ht
    · exact (hno t).2 e ht
  · cases st
    case store _ h' => rw [hpc] at h'; cases h'; exact ⟨rfl, by simp⟩
    case swap h' | refuse h' | leave _ h' _ | unwind h' _ | again _ h' => rw [hpc] at h'; cases h'

/-- with nobody inside, a call is admitted: it runs the delegate -/
theorem C17_admitted_when_free {s s' : State n} {t : Fin n} (h : Reachable true s)
    (hfree : ∀ u, s.pc u ≠ .running ∧ ∀ e, s.pc u ≠ .exiting e) (hidle : s.pc t = .idle)
    (st : Step true s t s') : s'.pc t = .running ∧ s'.flag = true := by
  have hf := (C17_reopens h).1 hfree
  cases st
  case swap => simp [hf]
  case refuse h' | leave _ h' _ | store _ h' | unwind h' _ | again _ h' => rw [hidle] at h'; cases h'

/-- the gate always reopens: from every reachable state with the flag set, the thread that holds it can
on its own, in at most two steps and whatever the delegate does, reach a state where the flag is clear -/
theorem C17_reopens_progress {s : State n} (h : Reachable true s) (hf : s.flag = true) (e : Exit) :
    ∃ t s1 s2, (s1 = s ∨ Step true s t s1) ∧ Step true s1 t s2 ∧ s2.flag = false ∧ Reachable true s2 := by
  obtain ⟨t, ht | ⟨e', ht⟩⟩ := (C17_flag_iff h).mp hf
  · have st1 := Step.leave (deferred := true) s t e ht (.inl rfl)
    refine ⟨t, _, _, .inr st1, Step.store _ t e (by simp), rfl, ?_⟩
    exact .step (.step h st1) (Step.store _ t e (by simp))
  · exact ⟨t, s, _, .inl rfl, Step.store s t e' ht, rfl, .step h (Step.store s t e' ht)⟩

/-! ## negative control: without `defer` a panic leaves the gate shut for ever -/

/-- the panic trace of the variant with a plain `Store(false)` after the delegate call: one thread calls `Execute` and is admitted … -/
def admitted1 : State 1 := { flag := true, pc := setPc (State.init 1).pc 0 .running }

/-- … then the delegate panics: the store is skipped, the flag stays set -/
def stuck : State 1 := { flag := true, pc := setPc admitted1.pc 0 (.finished (.delegated .panic)) }

theorem stuck_reachable : Reachable false stuck := by
  have s1 : Step false (State.init 1) 0 admitted1 := Step.swap (State.init 1) 0 rfl
  have s2 : Step false admitted1 0 stuck := Step.unwind admitted1 0 (by simp [admitted1]) rfl
  exact .step (.step .init s1) s2

/-- `C17_reopens` fails for the variant: nobody is inside, yet the flag is set … -/
theorem C17_reopens_fails_without_defer :
    ¬ ∀ (n : Nat) (s : State n), Reachable false s →
      (∀ t, s.pc t ≠ .running ∧ ∀ e, s.pc t ≠ .exiting e) → s.flag = false := by
  intro hall
  have := hall 1 stuck stuck_reachable fun t => by rw [Subsingleton.elim t 0]; simp [stuck]
  simp [stuck] at this

/-- … and the next call is rejected although no execution is in progress -/
theorem C17_rejected_for_ever_without_defer :
    ∃ s s' s'' : State 1, Reachable false s ∧ (∀ t, (s.pc t).holds = false) ∧
      Step false s 0 s' ∧ Step false s' 0 s'' ∧ s''.pc 0 = .rejected ∧ s''.flag = true := by
  refine ⟨stuck, _, _, stuck_reachable, fun t => ?_, Step.again stuck 0 (.delegated .panic) (by simp [stuck]),
    Step.swap _ 0 (by simp), by simp [stuck], rfl⟩
  rw [Subsingleton.elim t 0]
  simp [stuck, PC.holds]

/-! ## non-vacuity: a concrete interleaving of two threads -/

namespace Example
/-- thread 0 is admitted -/
def e1 : State 2 := { flag := true, pc := setPc (State.init 2).pc 0 .running }
/-- thread 1 calls meanwhile: its `Swap` finds the flag set -/
def e2 : State 2 := { flag := true, pc := setPc e1.pc 1 .rejected }
/-- thread 1 gets the error -/
def e3 : State 2 := { flag := true, pc := setPc e2.pc 1 (.finished .busy) }
/-- thread 0's delegate panics -/
def e4 : State 2 := { flag := true, pc := setPc e3.pc 0 (.exiting .panic) }
/-- the deferred store reopens the gate while the panic unwinds -/
def e5 : State 2 := { flag := false, pc := setPc e4.pc 0 (.finished (.delegated .panic)) }
/-- thread 1 calls again … -/
def e6 : State 2 := { flag := false, pc := setPc e5.pc 1 .idle }
/-- … and is admitted -/
def e7 : State 2 := { flag := true, pc := setPc e6.pc 1 .running }

theorem e7_reachable : Reachable true e7 := by
  have a1 : Step true (State.init 2) 0 e1 := Step.swap (State.init 2) 0 rfl
  have a2 : Step true e1 1 e2 := Step.swap e1 1 (by simp [e1, setPc, State.init])
  have a3 : Step true e2 1 e3 := Step.refuse e2 1 (by simp [e2])
  have a4 : Step true e3 0 e4 := Step.leave e3 0 .panic (by simp [e3, e2, e1, setPc]) (.inl rfl)
  have a5 : Step true e4 0 e5 := Step.store e4 0 .panic (by simp [e4])
  have a6 : Step true e5 1 e6 := Step.again e5 1 .busy (by simp [e5, e4, e3, setPc])
  have a7 : Step true e6 1 e7 := Step.swap e6 1 (by simp [e6])
  exact .step (.step (.step (.step (.step (.step (.step .init a1) a2) a3) a4) a5) a6) a7

/-- the hypotheses of the theorems are satisfiable on a non-trivial reachable state: thread 1 is in the
delegate after thread 0's execution panicked; `C17_mutex`/`C17_flag_iff` apply to it -/
example : e7.pc 1 = .running ∧ e7.pc 0 = .finished (.delegated .panic) ∧ e7.flag = true ∧
    (∀ u, e7.pc u = .running → u = 1) :=
  ⟨by simp [e7], by simp [e7, e6, e5, setPc], rfl,
    fun u hu => C17_mutex_running e7_reachable u 1 hu (by simp [e7])⟩

example : e2.pc 1 = .rejected ∧ e3.pc 1 = .finished .busy := ⟨by simp [e2], by simp [e3]⟩
end Example

end Jobs.Isolated
