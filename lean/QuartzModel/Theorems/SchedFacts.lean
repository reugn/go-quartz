import QuartzModel.Generated.Facts
import QuartzModel.Sched.Model
/-!
# The dispatch step of the model is the dispatch step of the source (C03, C04, C08)

`Sched.classify` / `Sched.step` transcribe `validateJob` / `fetchAndReschedule`. These equalities pin
the transcription to the source text read on this run: the four classification conditions with their
comparison operators and operands, the validity each branch returns, which argument each branch hands
to the trigger (`now` when outdated, the scheduled fire time when valid, none otherwise), the
non-blocking misfire offer, and the order lock → pop → classify → next → push → reset.
-/
namespace Sched

/-- `classify`: suspended ▸ `prio < now - threshold` ▸ `prio > now` ▸ valid; extractor per branch as in `step` -/
theorem validate_branches :
    Generated.Validate.branches =
      [("job.JobDetail().opts.Suspended", "false", "math.MaxInt64, nil"),
       ("let", "-", "now := NowNano()"),
       ("job.NextRunTime() < now-sched.opts.OutdatedThreshold.Nanoseconds()", "false", "job.Trigger().NextFireTime(now)"),
       ("job.NextRunTime() > now", "false", "job.NextRunTime(), nil"),
       ("otherwise", "true", "job.Trigger().NextFireTime(job.NextRunTime())")] := rfl

theorem misfire_offer_nonblocking :
    Generated.Validate.misfireOffer = "select { case sched.opts.MisfiredChan <- job: default: }" := rfl

theorem step_order :
    Generated.Validate.stepOrder =
      ["sched.queueLocker.Lock", "sched.queueLocker.Unlock", "sched.queue.Pop", "sched.validateJob",
       "nextRunTimeExtractor", "sched.queue.Push", "sched.Reset"] := rfl

/-- the model's classification, spelled out against the same conditions -/
theorem classify_spec (e : Queue.Entry) (now thr : Int) :
    classify e now thr =
      if e.suspended then .suspended
      else if e.prio < now - thr then .outdated
      else if e.prio > now then .notDue
      else .valid := rfl

end Sched
