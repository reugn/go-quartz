import QuartzModel.Generated.TransSched
import QuartzModel.Proofs.TransSchedLemmas
import QuartzModel.Theorems.C03
import QuartzModel.Theorems.C04
import QuartzModel.Theorems.C09
/-!
# The hand-written scheduler model IS the translated scheduler code

`Generated.TransSched` is regenerated from `quartz/scheduler.go` + `quartz/trigger.go` by `harness/cmd/gotolean-sched` on
every run.  This file proves that the translated definitions compute what `Sched.Model` computes, for all model states, clock
readings and arguments the model describes (`keyOf`, `detailOf`: nil or with non-nil options), when the
externals are instantiated with the default-queue model (`TransSched.modelQ`, built from `Queue.qpush` …) and with trigger
objects that behave as `Sched.Trig.fire` (`TransSched.modelT`); and it transfers C03 / C04 / C09 theorems to the
translated code.  A change of the Go code changes the generated definitions and one of these proofs stops checking.

int64: the translated code wraps every int64 `+`/`-` (`i64`); the model computes in `Int`.  The only hypothesis this costs
is `i64 (now - thr) = now - thr` for `validateJob` (no overflow in `now - OutdatedThreshold`; `now ≥ 0`, `0 ≤ thr` suffices)
and the hypotheses of `C04_addNanos_is_satAdd` for `addNanos`.
-/
namespace TransSched
open Generated.TransSched Sched Queue

/-- nothing of the listed code is left untranslated and every idiom check passed -/
theorem trans_sched_nothing_missing : Generated.TransSched.missing = [] := by decide

/-- translated `addNanos` (with int64 wrap-around) = the model's `satAdd`, under the hypotheses of `C04_addNanos_is_satAdd` -/
theorem trans_addNanos (t d : Int) (ht : -maxInt64 - 1 ≤ t ∧ t ≤ maxInt64) (hd : d ≤ maxInt64)
    (hlow : 0 < d ∨ -maxInt64 - 1 ≤ t + d) : addNanos t d = satAdd t d := by
  unfold addNanos satAdd maxInt64 at *
  simp only [Bool.and_eq_true, decide_eq_true_eq]
  by_cases h : t + d ≤ 9223372036854775807
  · have : -9223372036854775808 ≤ t + d ∧ ¬(0 < d ∧ t + d < t) ∧ ¬(0 < d ∧ 9223372036854775807 < t + d) := by omega
    rw [i64_id ⟨this.1, h⟩, if_neg this.2.1, if_neg this.2.2]
  · -- the sum exceeds int64 (so `d > 0`) and wraps around by `2^64`, below `t`
    have : i64 (t + d) = t + d - 18446744073709551616 ∧ 0 < d := by unfold i64; omega
    rw [this.1, if_pos ⟨this.2, by omega⟩, if_pos ⟨this.2, Int.not_le.mp h⟩]

/-- … and = `goAddNanos`, the literal int64 reading used by C04 -/
theorem trans_addNanos_goAddNanos (t d : Int) (ht : -maxInt64 - 1 ≤ t ∧ t ≤ maxInt64) (hd : d ≤ maxInt64)
    (hlow : 0 < d ∨ -maxInt64 - 1 ≤ t + d) : addNanos t d = goAddNanos t d := by
  rw [C04_addNanos_is_satAdd t d ht hd hlow]; exact trans_addNanos t d ht hd hlow

/-- `SimpleTrigger.NextFireTime` = `Trig.fire (.simple i)` -/
theorem trans_simpleTrigger_fire (i prev : Int) (hp : I64 prev) (hi : I64 i) (hlow : 0 < i ∨ -maxInt64 - 1 ≤ prev + i) :
    SimpleTrigger.NextFireTime { Interval := i } prev = (((Trig.simple i).fire prev).1.getD 0, none) ∧
    ((Trig.simple i).fire prev).2 = .simple i := by
  unfold SimpleTrigger.NextFireTime Trig.fire
  simp only [Option.getD_some, and_true]
  rw [trans_addNanos prev i hp hi.2 hlow]

/-- `RunOnceTrigger.NextFireTime` = `Trig.fire (.runOnce d expired)`: same new state, same answer
(`ErrTriggerExpired` ↔ `none`) -/
theorem trans_runOnceTrigger_fire (d prev : Int) (ex : Bool) (hp : I64 prev) (hd : I64 d) (hlow : 0 < d ∨ -maxInt64 - 1 ≤ prev + d) :
    let r := RunOnceTrigger.NextFireTime { Delay := d, Expired := ex } prev
    let m := (Trig.runOnce d ex).fire prev
    Trig.runOnce r.1.Delay r.1.Expired = m.2 ∧
    (match m.1 with
     | some v => r.2 = (v, none)
     | none => r.2 = (0, some ErrTriggerExpired)) := by
  cases ex with
  | false =>
    simp only [RunOnceTrigger.NextFireTime, Trig.fire, Bool.not_false, if_true]
    rw [trans_addNanos prev d hp hd.2 hlow]
    simp
  | true =>
    simp [RunOnceTrigger.NextFireTime, Trig.fire]

/-- `validateJob` = `classify`, for any externals and any state: the Boolean is `cls == valid`, the returned closure is
the one of the class, the only effects are the two log lines / the misfire offer of the class. -/
theorem trans_validateJob {Q H M : Type} (JQ : JobQueueExt Q M) (TR : TriggerExt H) (σ : St Q H) (e : Entry) (now thr : Int)
    (started : Bool) (hnov : i64 (now - thr) = now - thr) :
    let r := validateJob JQ TR (envOf thr started now) σ (some (ofEntry e))
    fnClass r.2.2 = classify e now thr ∧ r.2.1 = (classify e now thr == .valid) ∧
    r.1.queue = σ.queue ∧ r.1.trigs = σ.trigs ∧
    r.1.out = σ.out ++ (match classify e now thr with
      | .outdated => [Event.log "Info" "Job is outdated", Event.misfireOffer (some (ofEntry e))]
      | .notDue => [Event.log "Debug" "Job is not due to run yet"]
      | _ => []) ∧
    r.2.2 = (match classify e now thr with
      | .suspended => .lit0
      | .outdated => .lit1 (some (ofEntry e)) now
      | .notDue => .lit2 (some (ofEntry e))
      | .valid => .lit3 (some (ofEntry e))) := by
  simp only [validateJob_eq JQ TR σ e now thr started hnov]
  cases classify e now thr <;> simp [fnClass, St.emit]

/-! The local simp set of this file: the representation maps, the field getters of the translated code and the
observation functions unfold in every leaf of the proofs below (`simp [fetchAndReschedule, Sched.step, *]` and the like
rely on it).  It grows twice further down, where `keyOf`, `detailOf`, `trigRefOf` are defined; `ofEntry` / `toEntry` join
only for the registry methods, since `fetchAndReschedule` uses the lemmas about them instead. -/
attribute [local simp] stOf ssOf scheduledJob.JobDetail scheduledJob.Trigger scheduledJob.NextRunTime SState.setTrig St.emit
  validateJob.Fn.call absStep clsOf hasMisfire isMisfire

/-- **`fetchAndReschedule` = `Sched.step`.**  Run on the default-queue model and `Trig.fire` trigger objects, the
translated dispatch step yields the model's new state and the model's `StepOut`, as `absStep` reads them off the
translated run; the Go error it returns and its log lines are not compared. -/
theorem trans_fetchAndReschedule (s : SState) (now thr : Int) (started : Bool) (hnov : i64 (now - thr) = now - thr) :
    absStep (fetchAndReschedule modelQ modelT (envOf thr started now) (stOf s)) = Sched.step s now thr := by
  cases hq : qpop s.q with
  | error err =>
    -- `absStep` reads neither the returned error nor the log lines in which the branches differ
    by_cases h : errorsIs (qerr err) (some ErrQueueEmpty) = true <;>
    simp [fetchAndReschedule, Sched.step, St.callQ, modelQ, apply_ite Prod.fst, apply_ite Prod.snd, *]
  | ok r =>
    -- by the class of the popped entry, the trigger's answer and the outcome of the push, as `Sched.step` does
    obtain ⟨q', e⟩ := r
    have hv := validateJob_eq modelQ modelT { queue := (q', []), trigs := (s.trigs, []) } e now thr started hnov
    cases hc : classify e now thr with
    | suspended =>
      cases hp : qpush q' { e with prio := 9223372036854775807 } <;>
      simp [fetchAndReschedule, Sched.step, maxInt64, *]
    | notDue =>
      cases hp : qpush q' { e with prio := e.prio } <;>
      simp [fetchAndReschedule, Sched.step, *]
    | outdated =>
      cases hf : ((s.trig e.tag).fire now).1 with
      | none => simp [fetchAndReschedule, Sched.step, *]
      | some p =>
        cases hp : qpush q' { e with prio := p } <;>
        simp [fetchAndReschedule, Sched.step, *]
    | valid =>
      cases hf : ((s.trig e.tag).fire e.prio).1 with
      | none => simp [fetchAndReschedule, Sched.step, *]
      | some p =>
        cases hp : qpush q' { e with prio := p } <;>
        simp [fetchAndReschedule, Sched.step, *]

/-- `C03_never_early` for the translated `fetchAndReschedule` (default-queue model): a run that returns `valid = true`
with job `j` has `j.priority ≤ now`, `now - thr ≤ j.priority`, and `j` is not suspended. -/
theorem C03_never_early_trans (s : SState) (now thr : Int) (started : Bool) (hnov : i64 (now - thr) = now - thr)
    (j : scheduledJob)
    (hv : (fetchAndReschedule modelQ modelT (envOf thr started now) (stOf s)).2.2.1 = true)
    (hj : (fetchAndReschedule modelQ modelT (envOf thr started now) (stOf s)).2.1 = some j) :
    j.priority ≤ now ∧ now - thr ≤ j.priority ∧ (deref (deref j.job).opts).Suspended = false := by
  have heq := trans_fetchAndReschedule s now thr started hnov
  have h := C03_never_early s now thr (toEntry j)
    (by rw [← heq]; exact hv) (by rw [← heq]; simp only [absStep, hj, Option.map_some])
  exact ⟨h.1, h.2.1, h.2.2.1⟩

/-- **C03 for ANY queue and ANY trigger implementation** (no model instance involved): whenever the translated
`fetchAndReschedule` returns `valid = true`, the job it returns is the one the queue's `Pop` delivered (without error),
its fire time is not after the clock reading, not more than the threshold before it (in int64 arithmetic), and the job
is not suspended. -/
theorem C03_never_early_any_queue {Q H M : Type} (JQ : JobQueueExt Q M) (TR : TriggerExt H) (env : Env) (σ : St Q H)
    (hv : (fetchAndReschedule JQ TR env σ).2.2.1 = true) :
    (fetchAndReschedule JQ TR env σ).2.1 = (JQ.Pop σ.queue).2.1 ∧ (JQ.Pop σ.queue).2.2 = none ∧
    (deref (fetchAndReschedule JQ TR env σ).2.1).priority ≤ env.now ∧
    i64 (env.now - env.opts.OutdatedThreshold) ≤ (deref (fetchAndReschedule JQ TR env σ).2.1).priority ∧
    (deref (deref (deref (fetchAndReschedule JQ TR env σ).2.1).job).opts).Suspended = false := by
  -- every path but the last returns `valid = false`
  by_cases c0 : (JQ.Pop σ.queue).2.2.isSome = true
  · simp [fetchAndReschedule, St.callQ, c0, apply_ite Prod.snd, apply_ite Prod.fst] at hv
  by_cases c1 : (deref (deref (deref (JQ.Pop σ.queue).2.1).job).opts).Suspended = true
  · simp [fetchAndReschedule, St.callQ, validateJob, c0, c1, apply_ite Prod.snd] at hv
  by_cases c2 : (deref (JQ.Pop σ.queue).2.1).priority < i64 (env.now - env.opts.OutdatedThreshold)
  · simp [fetchAndReschedule, St.callQ, validateJob, c0, c1, c2,
      apply_ite Prod.snd, apply_ite Prod.fst] at hv
  by_cases c3 : (deref (JQ.Pop σ.queue).2.1).priority > env.now
  · simp [fetchAndReschedule, St.callQ, validateJob, c0, c1, c2, c3,
      apply_ite Prod.snd] at hv
  · simp [fetchAndReschedule, St.callQ, validateJob, c0, c1, c2, c3,
      apply_ite Prod.snd, apply_ite Prod.fst]
    exact ⟨by simpa using c0, Int.not_lt.mp c3, Int.not_lt.mp c2⟩

/-- `C04_misfire_iff_late` for the translated code: the popped job is offered to the misfire channel exactly when it
is active and the loop is more than the threshold late for it. -/
theorem C04_misfire_iff_late_trans (s : SState) (now thr : Int) (started : Bool) (hnov : i64 (now - thr) = now - thr)
    (j : scheduledJob)
    (hj : (fetchAndReschedule modelQ modelT (envOf thr started now) (stOf s)).2.1 = some j) :
    hasMisfire (fetchAndReschedule modelQ modelT (envOf thr started now) (stOf s)).1.out = true ↔
      ((deref (deref j.job).opts).Suspended = false ∧ now - j.priority > thr) := by
  have heq := trans_fetchAndReschedule s now thr started hnov
  have h := C04_misfire_iff_late s now thr (toEntry j) (by rw [← heq]; simp only [absStep, hj, Option.map_some])
  rw [← heq] at h
  exact h

/-- `C04_accounted` for the translated code: the statement of `C04_accounted` with `step s now thr` replaced by what
`absStep` reads off the translated run. -/
theorem C04_accounted_trans (s : SState) (now thr : Int) (started : Bool) (hnov : i64 (now - thr) = now - thr)
    (h : Inv s.q) (e : Entry)
    (hp : (absStep (fetchAndReschedule modelQ modelT (envOf thr started now) (stOf s))).2.popped = some e)
    (hs : e.suspended = false) :
    let r := absStep (fetchAndReschedule modelQ modelT (envOf thr started now) (stOf s))
    (∃ rest : List Entry, s.q.toList.Perm (e :: rest) ∧ r.1.q.toList.Perm (r.2.pushed.toList ++ rest)) ∧
    ((r.2.cls = some .valid ∧ r.2.dispatched = true ∧ r.2.misfired = false ∧ now - thr ≤ e.prio ∧ e.prio ≤ now ∧
        ∃ a, a = ((s.trig e.tag).fire e.prio).1 ∧ r.2.calls = [⟨e.tag, e.prio, a⟩] ∧
          r.2.pushed = a.map (fun p => { e with prio := p }) ∧ r.1.trig e.tag = ((s.trig e.tag).fire e.prio).2) ∨
     (r.2.cls = some .outdated ∧ r.2.dispatched = false ∧ r.2.misfired = true ∧ now - e.prio > thr ∧
        ∃ a, a = ((s.trig e.tag).fire now).1 ∧ r.2.calls = [⟨e.tag, now, a⟩] ∧
          r.2.pushed = a.map (fun p => { e with prio := p }) ∧ r.1.trig e.tag = ((s.trig e.tag).fire now).2) ∨
     (r.2.cls = some .notDue ∧ r.2.dispatched = false ∧ r.2.misfired = false ∧ now < e.prio ∧
        r.2.calls = [] ∧ r.2.pushed = some e ∧ r.1.trigs = s.trigs)) := by
  intro r
  have heq : r = Sched.step s now thr := trans_fetchAndReschedule s now thr started hnov
  rw [heq]
  exact C04_accounted s now thr h e (by rw [← heq]; exact hp) hs

/-- a `*JobKey` argument (`hasKey = false`: nil) -/
def keyOf (hasKey : Bool) (g n : String) : Option JobKey := if hasKey then some { name := n, group := g } else none

-- the registry methods look into the jobs they get and hand on, so the key argument and both representation maps unfold
attribute [local simp] keyOf ofEntry toEntry

theorem trans_DeleteJob (s : SState) (env : Env) (hk : Bool) (g n : String) :
    let r := DeleteJob modelQ modelT env (stOf s) (keyOf hk g n)
    ssOf r.1 = (delete s hk g n).1 ∧ absErr r.2 = (delete s hk g n).2 ∧ r.1.trigs.2 = [] := by
  cases hk with
  | false => exact ⟨rfl, absErr_illegal _, rfl⟩
  | true =>
    rcases hr : qremove s.q g n with er | ⟨q', e⟩
    · simp [DeleteJob, delete, *]
    · cases hst : env.started <;> simp [DeleteJob, delete, absErr, *]

theorem trans_Clear (s : SState) (env : Env) :
    let r := Clear modelQ modelT env (stOf s)
    ssOf r.1 = clear s ∧ r.2 = none ∧ r.1.trigs.2 = [] := by
  cases h : env.started <;> simp [Clear, St.callQ, modelQ, clear, h]

theorem trans_GetScheduledJob (s : SState) (env : Env) (hk : Bool) (g n : String) :
    let r := GetScheduledJob modelQ modelT env (stOf s) (keyOf hk g n)
    ssOf r.1 = s ∧
    (match getJob s hk g n with
     | .ok e => r.2 = (some (ofEntry e), none)
     | .error x => r.2.1 = none ∧ absErr r.2.2 = some x) := by
  cases hk with
  | false => exact ⟨rfl, rfl, absErr_illegal _⟩
  | true => cases hr : qget s.q g n <;> simp [GetScheduledJob, getJob, -ofEntry, *]

theorem trans_GetJobKeys (s : SState) (env : Env) (ms : List Matcher) :
    let r := GetJobKeys modelQ modelT env (stOf s) ms
    ssOf r.1 = s ∧ r.2 = ((jobKeys s ms).map (fun p => some { name := p.2, group := p.1 }), none) := by
  simp only [GetJobKeys, St.callQ, modelQ, stOf, Option.isSome_none, Bool.false_eq_true, if_false, jobKeys]
  simp [List.foldl_append_eq_append, ← List.flatMap_def, ← List.map_eq_flatMap, Function.comp_def]

theorem trans_PauseJob (s : SState) (env : Env) (hk : Bool) (g n : String) :
    let r := PauseJob modelQ modelT env (stOf s) (keyOf hk g n)
    ssOf r.1 = (pause s hk g n).1 ∧ absErr r.2 = (pause s hk g n).2 ∧ r.1.trigs.2 = [] := by
  cases hk with
  | false => exact ⟨rfl, absErr_illegal _, rfl⟩
  | true =>
    cases hr : qget s.q g n with
    | error er => simp [PauseJob, pause, *]
    | ok e =>
      cases hs : e.suspended with
      | true => simp [PauseJob, pause, *]
      | false =>
        rcases hrm : qremove s.q g n with er | ⟨q', j⟩
        · simp [PauseJob, pause, *]
        · cases hp : qpush q' { j with prio := 9223372036854775807, suspended := true } with
          | error er => simp [PauseJob, pause, maxInt64, *]
          | ok q'' => cases hst : env.started <;> simp [PauseJob, pause, maxInt64, absErr, *]

theorem trans_ResumeJob (s : SState) (env : Env) (hk : Bool) (g n : String) :
    let r := ResumeJob modelQ modelT env (stOf s) (keyOf hk g n)
    let m := resume s env.now hk g n
    ssOf r.1 = m.1 ∧ absErr r.2 = m.2.1 ∧ r.1.trigs.2 = m.2.2 := by
  cases hk with
  | false => exact ⟨rfl, absErr_illegal _, rfl⟩
  | true =>
    cases hr : qget s.q g n with
    | error er => simp [ResumeJob, resume, *]
    | ok e =>
      cases hs : e.suspended with
      | false => simp [ResumeJob, resume, *]
      | true =>
        cases hf : ((s.trig e.tag).fire env.now).1 with
        | none => simp [ResumeJob, resume, *]
        | some p =>
          rcases hrm : qremove s.q g n with er | ⟨q', j⟩
          · simp [ResumeJob, resume, *]
          · cases hp : qpush q' { j with prio := p, suspended := false } with
            | error er => simp [ResumeJob, resume, *]
            | ok q'' => cases hst : env.started <;> simp [ResumeJob, resume, absErr, *]

/-- the `*JobDetail` argument of `ScheduleJob` described by the model's `SchedArgs` -/
def detailOf (a : SchedArgs) : Option JobDetail :=
  if a.hasDetail then
    some { job := none, jobKey := if a.hasKey then some { name := a.name, group := a.group } else none,
           opts := some { Suspended := a.suspended, Replace := a.replace } }
  else none

/-- the `Trigger` argument: the identity `a.tag` of the trigger object (nil if there is none) -/
def trigRefOf (a : SchedArgs) : Option TRef := a.trig.map (fun _ => a.tag)

/-- the trigger object handed to `ScheduleJob` exists, under its identity `a.tag`, before the call -/
def withTrig (s : SState) (a : SchedArgs) : SState :=
  match a.trig with
  | some t => s.setTrig a.tag t
  | none => s

theorem filter_setTrig (l : List (Nat × Trig)) (tag : Nat) (t : Trig) :
    List.filter (fun p => p.1 != tag) ((tag, t) :: List.filter (fun p => p.1 != tag) l) = List.filter (fun p => p.1 != tag) l := by
  simp [List.filter_filter]

-- `ScheduleJob` takes its detail and trigger arguments apart
attribute [local simp] detailOf trigRefOf

@[local simp] theorem withTrig_q (s : SState) (a : SchedArgs) : (withTrig s a).q = s.q := by
  unfold withTrig; split <;> rfl

/-- After a trigger or queue error the translated trigger heap holds the state the trigger moved to while the model
returns `s`; so the states are compared on success only, and the registry (first conjunct) always. -/
theorem trans_ScheduleJob (s : SState) (env : Env) (a : SchedArgs) :
    let r := ScheduleJob modelQ modelT env (stOf (withTrig s a)) (detailOf a) (trigRefOf a)
    let m := schedule s env.now a
    r.1.queue.1 = m.1.q ∧ absErr r.2 = m.2.1 ∧ r.1.trigs.2 = m.2.2 ∧ (m.2.1 = none → ssOf r.1 = m.1) := by
  obtain ⟨hd, hkey, grp, nm, susp, repl, tag, trig⟩ := a
  cases hd with
  | false => simp [ScheduleJob, schedule]
  | true =>
    cases hkey with
    | false => simp [ScheduleJob, schedule]
    | true =>
      by_cases hn : nm = ""
      · simp [ScheduleJob, schedule, hn]
      · cases trig with
        | none => simp [ScheduleJob, schedule, withTrig, hn]
        | some t =>
          cases susp with
          | true =>
            -- `maxInt64` as its numeral: `simp` unfolds it in the goal, and `hp` has to match what is left
            cases hp : qpush s.q { group := grp, name := nm, prio := 9223372036854775807, suspended := true,
                                   replace := repl, tag := tag } with
            | error er => simp [ScheduleJob, schedule, withTrig, maxInt64, *]
            | ok q' =>
              cases hst : env.started <;> simp [ScheduleJob, schedule, withTrig, maxInt64, absErr, *]
          | false =>
            cases hf : (t.fire env.now).1 with
            | none => simp [ScheduleJob, schedule, withTrig, SState.trig, *]
            | some p =>
              cases hp : qpush s.q { group := grp, name := nm, prio := p, suspended := false, replace := repl, tag := tag } with
              | error er => simp [ScheduleJob, schedule, withTrig, SState.trig, *]
              | ok q' =>
                cases hst : env.started <;>
                simp [ScheduleJob, schedule, withTrig, SState.trig, absErr, *]

/-! C09 for the translated code: a call that returns an error leaves the registry unchanged. -/

theorem C09_delete_error_unchanged_trans (s : SState) (env : Env) (hk : Bool) (g n : String)
    (herr : (DeleteJob modelQ modelT env (stOf s) (keyOf hk g n)).2 ≠ none) :
    (DeleteJob modelQ modelT env (stOf s) (keyOf hk g n)).1.queue.1 = s.q := by
  have h := trans_DeleteJob s env hk g n
  exact (congrArg SState.q h.1).trans (C09_delete_error_unchanged s hk g n (h.2.1 ▸ absErr_ne_none herr))

theorem C09_pause_error_unchanged_trans (s : SState) (env : Env) (hk : Bool) (g n : String) (h : Inv s.q)
    (herr : (PauseJob modelQ modelT env (stOf s) (keyOf hk g n)).2 ≠ none) :
    (PauseJob modelQ modelT env (stOf s) (keyOf hk g n)).1.queue.1 = s.q := by
  have ht := trans_PauseJob s env hk g n
  exact (congrArg SState.q ht.1).trans (C09_pause_error_unchanged s hk g n h (ht.2.1 ▸ absErr_ne_none herr))

theorem C09_resume_error_unchanged_trans (s : SState) (env : Env) (hk : Bool) (g n : String) (h : Inv s.q)
    (herr : (ResumeJob modelQ modelT env (stOf s) (keyOf hk g n)).2 ≠ none) :
    (ResumeJob modelQ modelT env (stOf s) (keyOf hk g n)).1.queue.1 = s.q := by
  have ht := trans_ResumeJob s env hk g n
  exact (congrArg SState.q ht.1).trans (C09_resume_error_unchanged s env.now hk g n h (ht.2.1 ▸ absErr_ne_none herr))

theorem C09_schedule_error_unchanged_trans (s : SState) (env : Env) (a : SchedArgs)
    (herr : (ScheduleJob modelQ modelT env (stOf (withTrig s a)) (detailOf a) (trigRefOf a)).2 ≠ none) :
    (ScheduleJob modelQ modelT env (stOf (withTrig s a)) (detailOf a) (trigRefOf a)).1.queue.1 = s.q := by
  have ht := trans_ScheduleJob s env a
  exact ht.1 ▸ C09_schedule_error_unchanged s env.now a (ht.2.1 ▸ absErr_ne_none herr)

/-- `DeleteJob`, sentinel by sentinel: the translated call fails with an error that `errors.Is` the documented sentinel
exactly when the model reports that error (read through `absErr`).  Proved for `DeleteJob` only; the other methods have
`trans_<Method>`, from which the same follows with the model's `C09_*_error_iff`. -/
theorem C09_delete_error_iff_trans (s : SState) (env : Env) (hk : Bool) (g n : String) (h : Inv s.q) :
    (absErr (DeleteJob modelQ modelT env (stOf s) (keyOf hk g n)).2 = some .illegalArgument ↔ hk = false) ∧
    (absErr (DeleteJob modelQ modelT env (stOf s) (keyOf hk g n)).2 = some .jobNotFound ↔ hk = true ∧ ¬ hasKey s.q g n) ∧
    (absErr (DeleteJob modelQ modelT env (stOf s) (keyOf hk g n)).2 = none ↔ hk = true ∧ hasKey s.q g n) := by
  rw [(trans_DeleteJob s env hk g n).2.1]
  exact C09_delete_error_iff s hk g n h

/-! Non-vacuity: concrete runs on a two-job registry on which the hypotheses of the theorems above hold. -/

def exA : SchedArgs := { group := "g", name := "a", tag := 1, trig := some (.simple 10) }
def exB : SchedArgs := { group := "g", name := "b", tag := 2, trig := some (.runOnce 5 false) }
/-- "a" fires at 10, "b" at 6 -/
def exS : SState := (schedule (schedule {} 0 exA).1 1 exB).1

example : i64 (6 - 3) = 6 - 3 ∧ i64 (100 - 3) = 100 - 3 := by decide
-- on time (now = 6): "b" is returned for execution; its run-once trigger (already asked once by ScheduleJob) is asked with
-- the scheduled time, reports that it has expired, and the job leaves the queue
example : (fetchAndReschedule modelQ modelT (envOf 3 true 6) (stOf exS)).2.2.1 = true ∧
    ((fetchAndReschedule modelQ modelT (envOf 3 true 6) (stOf exS)).2.1.map toEntry).map (·.name) = some "b" ∧
    (fetchAndReschedule modelQ modelT (envOf 3 true 6) (stOf exS)).1.trigs.2 = [⟨2, 6, none⟩] ∧
    (fetchAndReschedule modelQ modelT (envOf 3 true 6) (stOf exS)).1.queue.1.size = 1 := by decide +kernel
-- on time for "a" alone (now = 10): valid, the interval trigger is asked with the scheduled time, "a" goes back with 20
example : (fetchAndReschedule modelQ modelT (envOf 3 true 10) (stOf (schedule {} 0 exA).1)).2.2.1 = true ∧
    (fetchAndReschedule modelQ modelT (envOf 3 true 10) (stOf (schedule {} 0 exA).1)).1.trigs.2 = [⟨1, 10, some 20⟩] ∧
    (fetchAndReschedule modelQ modelT (envOf 3 true 10) (stOf (schedule {} 0 exA).1)).1.queue.2.map (·.prio) = [20] ∧
    (fetchAndReschedule modelQ modelT (envOf 3 true 10) (stOf (schedule {} 0 exA).1)).1.out =
      [.log "Trace" "Successfully rescheduled job", .reset] := by decide +kernel
-- late (now = 10 > 6 + 3): misfire offer, not valid, trigger asked with the clock
example : (fetchAndReschedule modelQ modelT (envOf 3 true 10) (stOf exS)).2.2.1 = false ∧
    hasMisfire (fetchAndReschedule modelQ modelT (envOf 3 true 10) (stOf exS)).1.out = true ∧
    (fetchAndReschedule modelQ modelT (envOf 3 true 10) (stOf exS)).1.trigs.2 = [⟨2, 10, none⟩] := by decide +kernel
-- early (now = 5): not due, pushed back unchanged, no trigger call
example : (absStep (fetchAndReschedule modelQ modelT (envOf 3 true 5) (stOf exS))).2.cls = some .notDue ∧
    (absStep (fetchAndReschedule modelQ modelT (envOf 3 true 5) (stOf exS))).2.calls = [] := by decide +kernel
example : Inv exS.q := schedule_inv _ _ _ (schedule_inv _ _ _ inv_empty)
example : addNanos 100 maxInt64 = maxInt64 ∧ addNanos 5 10 = 15 ∧ addNanos (maxInt64 - 3) 4 = maxInt64 := by decide
example : I64 100 ∧ I64 maxInt64 ∧ (0 < maxInt64 ∨ -maxInt64 - 1 ≤ 100 + maxInt64) := by unfold I64; decide
example : RunOnceTrigger.NextFireTime { Delay := 5, Expired := true } 7 = ({ Delay := 5, Expired := true }, (0, some ErrTriggerExpired)) := by decide

-- registry: a failing and a succeeding call of each kind
example : absErr (DeleteJob modelQ modelT (envOf 3 true 5) (stOf exS) (keyOf true "g" "zz")).2 = some .jobNotFound ∧
    (DeleteJob modelQ modelT (envOf 3 true 5) (stOf exS) (keyOf true "g" "a")).2 = none ∧
    (DeleteJob modelQ modelT (envOf 3 true 5) (stOf exS) (keyOf true "g" "a")).1.out =
      [.log "Debug" "Successfully deleted job", .reset] := by decide +kernel
example : (PauseJob modelQ modelT (envOf 3 false 5) (stOf exS) (keyOf true "g" "a")).2 = none ∧
    absErr (PauseJob modelQ modelT (envOf 3 false 5)
      (PauseJob modelQ modelT (envOf 3 false 5) (stOf exS) (keyOf true "g" "a")).1 (keyOf true "g" "a")).2 = some .jobIsSuspended := by
  decide +kernel
example : absErr (ResumeJob modelQ modelT (envOf 3 false 5) (stOf exS) (keyOf true "g" "a")).2 = some .jobIsActive := by decide +kernel
example : absErr (ScheduleJob modelQ modelT (envOf 3 false 5) (stOf (withTrig exS exA)) (detailOf exA) (trigRefOf exA)).2 =
    some .jobAlreadyExists := by decide +kernel
example : (GetJobKeys modelQ modelT (envOf 3 false 5) (stOf exS) []).2.1.length = 2 := by decide +kernel

end TransSched
