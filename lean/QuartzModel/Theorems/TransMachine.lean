import QuartzModel.Proofs.TransMachineLemmas
/-!
# The hand-written cron model IS the translated Go code — Stage C: the state machine

`Generated.Trans.CronStateMachine.{resetFrom, overflowFrom, advanceInvalid, findForward, NextTriggerTime}` and
`Generated.Trans.newCSMFromFields` (regenerated from `internal/csm/fn_find_forward.go`, `fn_next.go`,
`cron_state_machine.go`, `quartz/csm.go`) compute, on the machine `mkCsm {} f c ex` built from the model's
configuration `c`, exactly `Odo.resetFrom / overflowFrom / advFrom / findForward` instantiated with
`Cron.levels {} f`; and `newCSMFromFields(wall, fields).NextTriggerTime` is `Cron.csmNext {} f wall`.

Hypotheses: `WellFormed f` (what the parser establishes, C07), the digits inside `TransC.Box`
(month 1..12, day 1..31, … — true for every valid wall clock and preserved by every step), enough fuel,
and the per-node equivalence of the day node `TransC.DayEquiv T f fuel` (Stage B proves it for
`T := Cron.goTime`; `Theorems/TransFinal.lean` plugs it in).  The five common nodes are Stage A.
-/
namespace TransCsm
open Generated.Trans Cron Odo TransRepr TransA TransC

section
variable (T : TimeExt) (f : Fields) (hwf : WellFormed f = true) (fuel : Nat) (hD : DayEquiv T f fuel) (hf : 7 ≤ fuel)
include hwf hD hf

/-- Go `csm.resetFrom(k-1)` = `Odo.resetFrom L k` (resets levels k-1 … 0) -/
theorem trans_resetFrom (k : Nat) (hk : k ≤ 6) (c : Cfg) (ex : Bool) (hb : Box c) :
    CronStateMachine.resetFrom T (mkCsm {} f c ex) ((k : Int) - 1) fuel =
      some (mkCsm {} f (Odo.resetFrom (levels {} f) k c) ex) :=
  resetFrom_mk T f hwf fuel hD k hk c ex hb hf

/-- Go `csm.overflowFrom(k)` = `Odo.overflowFrom L 6 k`; the model's flag is Go's `exhausted` -/
theorem trans_overflowFrom (k : Nat) (hk : k ≤ 6) (c : Cfg) (ex : Bool) (hb : Box c) :
    CronStateMachine.overflowFrom T (mkCsm {} f c ex) (k : Int) fuel =
      some (mkCsm {} f (Odo.overflowFrom (levels {} f) 6 k c).1 (ex || (Odo.overflowFrom (levels {} f) 6 k c).2)) :=
  overflowFrom_mk T f hwf fuel hD hf k hk c ex hb _ rfl

/-- Go `csm.advanceInvalid()` = `Odo.advFrom L D 6 6` (`none` ↔ Go returns `false`) -/
theorem trans_advanceInvalid (c : Cfg) (ex : Bool) (hb : Box c) :
    CronStateMachine.advanceInvalid T (mkCsm {} f c ex) fuel =
      some (match Odo.advFrom (levels {} f) (levelsDec {} f) 6 6 c with
            | none => (mkCsm {} f c ex, false)
            | some r => (mkCsm {} f r.1 (ex || r.2), true)) :=
  advanceInvalid_mk T f hwf fuel hD hf c ex hb

/-- Go `csm.findForward()` = `Odo.findForward L D 6` whenever the model's fuel `n` suffices (`n < fuel`:
the Go loop takes one more turn to test `exhausted`) -/
theorem trans_findForward (n : Nat) (hn : n + 1 ≤ fuel) (p : Cfg) (hb : Box p) (r : Cfg × Bool)
    (h : Odo.findForward (levels {} f) (levelsDec {} f) 6 n p = some r) :
    CronStateMachine.findForward T (mkCsm {} f p false) fuel = some (mkCsm {} f r.1 r.2) := by
  unfold Odo.findForward at h
  simp only [CronStateMachine.findForward, advanceInvalid_mk T f hwf fuel hD hf p false hb, Option.bind_some]
  cases ha : Odo.advFrom (levels {} f) (levelsDec {} f) 6 6 p with
  | none =>
    rw [ha] at h
    simp only [Bool.false_eq_true, if_false, CronStateMachine.next]
    rw [overflowFrom_mk T f hwf fuel hD hf 0 (Nat.zero_le 6) p false hb seconds rfl, Option.bind_some, Bool.false_or]
    exact loop_mk T f hwf fuel hD hf n _ fuel r (hb.overflowFrom f hwf 0) hn h
  | some p' =>
    rw [ha] at h
    simp only [if_true, Bool.false_or]
    exact loop_mk T f hwf fuel hD hf n p' fuel r (hb.advFrom f hwf 6 (Nat.le_refl _) _ ha) hn h

end

/-- the translated `quartz/csm.go: newCSMFromFields` builds `mkCsm {} f` (this is where the regenerated node
limits 0..59, 0..23, 1..31, 1..12, 0..maxYear and the field order enter) -/
theorem trans_newCSMFromFields (f : Fields) (w : Cal.Civil) :
    newCSMFromFields w.year w.month w.day w.hour w.minute w.second (mkFields f) =
      mkCsm {} f (cfgOfCivil w) false := by
  -- both sides evaluate to the same record once it is known whether the day-of-week list is empty
  obtain ⟨sec, min, hour, dom, month, ⟨dv, dn⟩, year⟩ := f
  cases dv <;> rfl

/-- six `time.Date` arguments read back as the model's civil date-time -/
def civilOfWall (w : Wall) : Cal.Civil :=
  { year := w.year.toNat, month := w.month.toNat, day := w.day.toNat,
    hour := w.hour.toNat, minute := w.minute.toNat, second := w.second.toNat }

/-- one `newCSMFromFields(wall, fields).NextTriggerTime(time.UTC)` of the TRANSLATED code, in the result type of
the model's `csmNext` (`none` = out of fuel, `some none` = exhausted) -/
def transCsmNext (T : TimeExt) (f : Fields) (wall : Cal.Civil) (fuel : Nat) : Option (Option Cal.Civil) :=
  (CronStateMachine.NextTriggerTime T
      (newCSMFromFields wall.year wall.month wall.day wall.hour wall.minute wall.second (mkFields f)) fuel).map
    fun r => if r.2.2 then some (civilOfWall r.2.1) else none

theorem box_cfgOfCivil (wall : Cal.Civil) (hv : wall.Valid) (hy : wall.year ≤ 3940) : Box (cfgOfCivil wall) :=
  ⟨inBox_cfgOfCivil wall hv hy,
    forall_lt_six.mpr ⟨Nat.zero_le _, Nat.zero_le _, Nat.zero_le _, hv.1.2.2.1, hv.1.1, Nat.zero_le _⟩⟩

/-- `NextTriggerTime` on the machine built from a valid wall clock: the odometer's result `(c, fl)`, and the record
returned (Go's `time.Time{}` when exhausted) -/
theorem nextTriggerTime_mk (T : TimeExt) (f : Fields) (hwf : WellFormed f = true) (fuel : Nat)
    (hD : DayEquiv T f fuel) (hfuel : csmFuel + 1 ≤ fuel) (wall : Cal.Civil) (hv : wall.Valid) (hy : wall.year ≤ 3940) :
    ∃ c fl, Odo.findForward (levels {} f) (levelsDec {} f) 6 csmFuel (cfgOfCivil wall) = some (c, fl) ∧
      CronStateMachine.NextTriggerTime T
          (newCSMFromFields wall.year wall.month wall.day wall.hour wall.minute wall.second (mkFields f)) fuel =
        some (mkCsm {} f c fl,
          if fl then (Wall.zero, false) else (CronStateMachine.ValueWithLocation (mkCsm {} f c false), true)) := by
  have hf7 : 7 ≤ fuel := Nat.le_trans (by decide) hfuel
  cases hff : Odo.findForward (levels {} f) (levelsDec {} f) 6 csmFuel (cfgOfCivil wall) with
  | none => exact absurd hff (findForward_ne_none f hwf wall hv)
  | some r =>
    obtain ⟨c, fl⟩ := r
    have h := trans_findForward T f hwf fuel hD hf7 csmFuel hfuel _ (box_cfgOfCivil wall hv hy) _ hff
    refine ⟨c, fl, rfl, ?_⟩
    rw [trans_newCSMFromFields]
    simp only [CronStateMachine.NextTriggerTime, h, Option.bind_some]
    cases fl <;> rfl

/-- **the translated state machine is the model's `csmNext`** (given the day node's equivalence) -/
theorem trans_nextTriggerTime_of (T : TimeExt) (f : Fields) (hwf : WellFormed f = true) (fuel : Nat)
    (hD : DayEquiv T f fuel) (hfuel : csmFuel + 1 ≤ fuel) (wall : Cal.Civil) (hv : wall.Valid) (hy : wall.year ≤ 3940) :
    transCsmNext T f wall fuel = csmNext {} f wall := by
  obtain ⟨c, fl, hff, hN⟩ := nextTriggerTime_mk T f hwf fuel hD hfuel wall hv hy
  unfold transCsmNext csmNext
  rw [hN, hff]
  -- `civilOfWall` reads the six node values `((c k : Nat) : Int)` of `mkCsm {} f c false` back as `civilOfCfg c`
  cases fl <;> rfl

end TransCsm

#print axioms TransCsm.trans_resetFrom
#print axioms TransCsm.trans_overflowFrom
#print axioms TransCsm.trans_advanceInvalid
#print axioms TransCsm.trans_findForward
#print axioms TransCsm.trans_newCSMFromFields
#print axioms TransCsm.trans_nextTriggerTime_of
