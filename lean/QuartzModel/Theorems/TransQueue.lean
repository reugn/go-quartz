import QuartzModel.Generated.TransQueue
import QuartzModel.Proofs.TransQueueLemmas
import QuartzModel.Proofs.TransQueueRunLemmas
import QuartzModel.Theorems.C11
/-!
# The default job queue: the hand-written model IS the translated code

`Generated.TransQueue` is regenerated on every run from `quartz/queue.go`, `quartz/job_key.go`, `quartz/job_detail.go`,
`quartz/error.go`, `matcher/*.go` and from `$GOROOT/src/container/heap/heap.go` (harness/cmd/gotolean-queue).

The equivalence theorems (`trans_*`, for ALL inputs, under explicit in-range / fuel hypotheses, modulo the
representation map `toEntry` / `toArr`) are in `Proofs/TransQueueLemmas.lean`, those about runs (`tstep_sim`, `trun_sim`) in
`Proofs/TransQueueRunLemmas.lean`. `strings.HasPrefix/HasSuffix/Contains` are taken to be the model's operators
(`goStrings`: modelled, not translated).

This file: nothing is missing from the translation, the lock-shape fact, and the transfer of the C11 property theorems
`C11_inv_reachable`, `C11_pop_min`, `C11_push_replace`, `C11_head_min`, `C11_push_duplicate` to the translated code.
-/
namespace TransQueue
open Generated.TransQueue
open Queue

/-- every listed function was translated and every idiom check passed -/
theorem trans_queue_nothing_missing : Generated.TransQueue.missing = [] := rfl

/-- every exported method of the default queue begins with `jq.mtx.Lock(); defer jq.mtx.Unlock()` (the mutex itself is
not translated) -/
theorem trans_queue_lockShape :
    Generated.TransQueue.lockedMethods = ["Push", "Pop", "Head", "Get", "Remove", "ScheduledJobs", "Size", "Clear"] :=
  rfl

theorem toArr_toList (pq : priorityQueue) : (toArr pq).toList = pq.map toEntry := by simp [toArr]

/-- C11 (invariant): whatever sequence of `Push` / `Pop` / `Remove` / `Clear` is run on the translated queue starting
from `NewJobQueue()`, no call runs out of fuel (one unit per operation suffices) and the resulting array is a heap
with pairwise distinct keys. -/
theorem C11_inv_reachable_trans (ops : List TOp) (fuel : Nat) (hf : ops.length ≤ fuel) :
    ∃ jq, trun fuel NewJobQueue ops = some jq ∧ Inv (toArr jq.delegate) := by
  obtain ⟨jq, h1, h2⟩ := trun_sim fuel ops NewJobQueue (by simpa [NewJobQueue] using hf)
  refine ⟨jq, h1, ?_⟩
  rw [h2, trans_newJobQueue]
  exact C11_inv_reachable _

/-- C11 (pop): the translated `jobQueue.Pop` on a non-empty queue satisfying the invariant succeeds, returns an entry of
minimal priority and keeps exactly the others. -/
theorem C11_pop_min_trans (jq : jobQueue) (fuel : Nat) (h : Inv (toArr jq.delegate)) (hne : jq.delegate ≠ [])
    (hf : jq.delegate.length ≤ fuel) :
    ∃ jq' sj, jobQueue.Pop jq fuel = some (jq', sj, Error.nil) ∧
      (jq.delegate.map toEntry).Perm (toEntry sj :: jq'.delegate.map toEntry) ∧
      ∀ x ∈ jq.delegate, sj.priority ≤ x.priority := by
  have hsz : (toArr jq.delegate).size ≠ 0 := by simpa using hne
  obtain ⟨a', e, hq, hperm, hmin⟩ := C11_pop_min (toArr jq.delegate) h hsz
  have ht := trans_qpop jq fuel hf
  rw [hq] at ht
  obtain ⟨jq', sj, e1, rfl, rfl⟩ := ht
  exact ⟨jq', sj, e1, by rw [← toArr_toList, ← toArr_toList]; exact hperm,
    fun x hx => hmin (toEntry x) (by rw [toArr_toList]; exact List.mem_map_of_mem hx)⟩

/-- C11 (head): the translated `jobQueue.Head` returns an entry of minimal priority. -/
theorem C11_head_min_trans (jq : jobQueue) (h : Inv (toArr jq.delegate)) (hne : jq.delegate ≠ []) :
    ∃ sj, jobQueue.Head jq = (sj, Error.nil) ∧ toEntry sj ∈ jq.delegate.map toEntry ∧
      ∀ x ∈ jq.delegate, sj.priority ≤ x.priority := by
  have hsz : (toArr jq.delegate).size ≠ 0 := by simpa using hne
  obtain ⟨e, hq, hmem, hmin⟩ := C11_head_min (toArr jq.delegate) h hsz
  have ht := trans_qhead jq
  rw [hq] at ht
  obtain ⟨sj, e1, rfl⟩ := ht
  exact ⟨sj, e1, by rw [← toArr_toList]; exact hmem,
    fun x hx => hmin (toEntry x) (by rw [toArr_toList]; exact List.mem_map_of_mem hx)⟩

/-- C11 (replace): the translated `jobQueue.Push` of a job with `Replace` whose key is queued succeeds and exchanges
exactly the entry with that key for the new one. -/
theorem C11_push_replace_trans (jq : jobQueue) (job old : scheduledJob) (fuel : Nat) (h : Inv (toArr jq.delegate))
    (ho : old ∈ jq.delegate) (hk : old.job.jobKey = job.job.jobKey) (hr : job.job.opts.Replace = true)
    (hf : jq.delegate.length < fuel) :
    ∃ jq', jobQueue.Push jq job fuel = some (jq', Error.nil) ∧
      (jq'.delegate.map toEntry).Perm (toEntry job :: (jq.delegate.map toEntry).erase (toEntry old)) := by
  have hk' : (toEntry old).group = (toEntry job).group ∧ (toEntry old).name = (toEntry job).name := by
    simp [toEntry, hk]
  obtain ⟨a', hq, hperm⟩ := C11_push_replace (toArr jq.delegate) (toEntry job) (toEntry old) h
    (by rw [toArr_toList]; exact List.mem_map_of_mem ho) hk' hr
  have ht := trans_qpush jq job fuel hf
  rw [hq] at ht
  obtain ⟨jq', e1, rfl⟩ := ht
  exact ⟨jq', e1, by rw [← toArr_toList, ← toArr_toList]; exact hperm⟩

/-- C11 (duplicate): the translated `jobQueue.Push` of a job without `Replace` whose key is queued fails with
`ErrIllegalState: ErrJobAlreadyExists` and leaves the queue unchanged. -/
theorem C11_push_duplicate_trans (jq : jobQueue) (job old : scheduledJob) (fuel : Nat)
    (ho : old ∈ jq.delegate) (hk : old.job.jobKey = job.job.jobKey) (hr : job.job.opts.Replace = false)
    (hf : jq.delegate.length < fuel) :
    jobQueue.Push jq job fuel = some (jq, newIllegalStateError Error.ErrJobAlreadyExists) := by
  have hk' : (toEntry old).group = (toEntry job).group ∧ (toEntry old).name = (toEntry job).name := by
    simp [toEntry, hk]
  have hq := C11_push_duplicate (toArr jq.delegate) (toEntry job)
    ⟨toEntry old, by rw [toArr_toList]; exact List.mem_map_of_mem ho, hk'⟩ hr
  have ht := trans_qpush jq job fuel hf
  rwa [hq] at ht

/-! ## non-vacuity -/

def mkJob (n g : String) (p : Int) (rep : Bool) (tag : Nat) : scheduledJob :=
  { job := { job := 0, jobKey := ⟨n, g⟩, opts := ⟨0, 1000000000, rep, false⟩ }, trigger := tag, priority := p }

def exOps : List TOp :=
  [.push (mkJob "a" "g1" 30 false 1), .push (mkJob "b" "g1" 10 false 2), .push (mkJob "c" "g2" 20 false 3),
   .push (mkJob "d" "g2" 5 false 4), .push (mkJob "b" "g1" 1 false 5), .push (mkJob "c" "g2" 40 true 6), .pop,
   .remove ⟨"zz", "g9"⟩, .push (mkJob "e" "g3" 7 false 7)]

/-- the translated code, run on `exOps` (9 operations, fuel 9) -/
def exQ : jobQueue := (trun 9 NewJobQueue exOps).getD default

/-- the queue `exOps` leaves: four jobs, the earliest at the root -/
theorem exQ_eq : exQ = ⟨[mkJob "e" "g3" 7 false 7, mkJob "b" "g1" 10 false 2, mkJob "a" "g1" 30 false 1,
    mkJob "c" "g2" 40 true 6]⟩ := by decide +kernel

example : trun 9 NewJobQueue exOps = some exQ ∧
    exQ.delegate.map (fun sj => (sj.job.jobKey.name, sj.priority, sj.trigger)) =
      [("e", 7, 7), ("b", 10, 2), ("a", 30, 1), ("c", 40, 6)] := by rw [exQ_eq]; decide +kernel

theorem exQ_inv : Inv (toArr exQ.delegate) :=
  exQ_eq ▸ ⟨isHeapB_sound _ (by decide +kernel), keysDistinctB_sound _ (by decide +kernel)⟩

-- hypotheses of the transfer theorems hold on a non-trivial instance
example : Inv (toArr exQ.delegate) ∧ exQ.delegate ≠ [] ∧ exQ.delegate.length ≤ 4 :=
  ⟨exQ_inv, by rw [exQ_eq]; decide +kernel⟩
example : ∃ jq' sj, jobQueue.Pop exQ 4 = some (jq', sj, Error.nil) ∧ sj.priority = 7 ∧ jq'.delegate.length = 3 :=
  exQ_eq ▸ ⟨_, _, rfl, by decide +kernel, by decide +kernel⟩
example : mkJob "a" "g1" 30 false 1 ∈ exQ.delegate ∧ (mkJob "a" "g1" 30 false 1).job.jobKey = (mkJob "a" "g1" 2 true 9).job.jobKey ∧
    (mkJob "a" "g1" 2 true 9).job.opts.Replace = true ∧ exQ.delegate.length < 5 := by rw [exQ_eq]; decide +kernel
example : (jobQueue.Push exQ (mkJob "a" "g1" 2 true 9) 5).map (fun r => (r.1.delegate.map (·.trigger), r.2)) =
    some ([9, 7, 6, 2], Error.nil) := by rw [exQ_eq]; decide +kernel
example : jobQueue.Push exQ (mkJob "a" "g1" 2 false 9) 5 = some (exQ, newIllegalStateError Error.ErrJobAlreadyExists) := by
  rw [exQ_eq]; decide +kernel
-- fuel is really needed: with too little fuel the translated loops give up
example : heap.up (exQ.delegate ++ [mkJob "z" "g" 0 false 8]) 4 2 = none ∧
    (heap.up (exQ.delegate ++ [mkJob "z" "g" 0 false 8]) 4 3).map (·.map (·.trigger)) = some [8, 7, 1, 6, 2] := by rw [exQ_eq]; decide +kernel
-- in-range hypotheses of the heap-layer theorems
example : (3 : Nat) < exQ.delegate.length ∧ 4 - 0 < 5 := by rw [exQ_eq]; decide +kernel
example : (heap.down exQ.delegate 0 4 5).map (·.2) = some false := by rw [exQ_eq]; decide +kernel
example : MatchersAgree [matcher.JobNameStartsWith goStrings "a", matcher.JobActive]
    [Queue.Matcher.name .startsWith "a", Queue.Matcher.status false] :=
  ⟨fun sj => (trans_matcher_ctors "a" sj).2.1, fun sj => (trans_matcher_status sj).1, trivial⟩
example : (jobQueue.ScheduledJobs exQ [matcher.JobGroupEquals "g1", matcher.JobActive]).1.map (·.trigger) = [2, 1] := by
  rw [exQ_eq]; decide +kernel

end TransQueue
