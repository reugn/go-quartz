import QuartzModel.Generated.Facts
import QuartzModel.Sched.Model
/-!
# The interval triggers of the model are the interval triggers of the source (C04)

`Trig.fire` for `.simple` / `.runOnce` transcribes `SimpleTrigger.NextFireTime` / `RunOnceTrigger.NextFireTime`
(`quartz/trigger.go`), and `satAdd` transcribes the addition they share, `addNanos`: `prev + interval`, answered as
`math.MaxInt64` when the interval is positive and the int64 sum came out smaller than `prev` (it wrapped around).
The equalities pin the transcription to the source text read on this run.  (A module of its own: a reshaped
`trigger.go` breaks these obligations only.)  That the literal int64 reading of the three statements of `addNanos`
is `satAdd` is `Sched.C04_addNanos_is_satAdd`.
-/
namespace Sched

theorem trigger_interval_add :
    Generated.Trigger.simpleNext = ["return addNanos(prev, st.Interval), nil"] ∧
    Generated.Trigger.runOnceNext =
      ["if !ot.Expired { ot.Expired = true return addNanos(prev, ot.Delay), nil }", "return 0, ErrTriggerExpired"] ∧
    Generated.Trigger.addNanos =
      ["next := t + d.Nanoseconds()", "if d > 0 && next < t { return math.MaxInt64 }", "return next"] :=
  ⟨rfl, rfl, rfl⟩

/-- the model's interval triggers, spelled out against the same statements -/
theorem trigger_fire_spec (I prev : Int) :
    Trig.fire (.simple I) prev = (some (satAdd prev I), .simple I) ∧
    Trig.fire (.runOnce I false) prev = (some (satAdd prev I), .runOnce I true) ∧
    Trig.fire (.runOnce I true) prev = (none, .runOnce I true) ∧
    satAdd prev I = if I > 0 ∧ prev + I > maxInt64 then maxInt64 else prev + I := ⟨rfl, rfl, rfl, rfl⟩

end Sched
