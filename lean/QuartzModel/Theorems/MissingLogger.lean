import QuartzModel.Generated.Facts
/-! No source shape of the `logger` fact group(s) is missing (a separate module per group, so that a reshaped function of one area
cannot break the proof obligations of properties that do not depend on it). -/
namespace Facts
theorem missing_none_logger : (Generated.missing.filter (fun s => "logger.".toList.isPrefixOf s.toList)) = [] := rfl
end Facts
