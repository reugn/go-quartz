import QuartzModel.Sched.Retry
import QuartzModel.Proofs.RetryLemmas
import QuartzModel.Generated.Facts
/-!
# C13 — failed jobs are retried exactly as configured; panics are contained

Model: `QuartzModel/Sched/Retry.lean` (`executeWithRetries` of quartz/scheduler.go as a total function of
`MaxRetries`, the outcomes of the successive `Execute` calls and the retry wait during which the
scheduler's context ends). Every theorem quantifies over EVERY `maxRetries : Int` (negative included),
every script and every cancel point. What is not in the model: real time (a completed wait is the event
`Event.wait`; that it lasts at least `RetryInterval` is `time.NewTimer`'s contract and is observed by the
harness), and the scheduler around the function (observed by the harness: siblings keep running, the
next fire time stays queued, `Wait` returns).
-/
namespace Sched.Retry

/-! ## the source has the shape the model transcribes -/

/-- the shape read from /repo's current source by `harness/cmd/extract/x_retry.go` -/
def generatedShape : SourceShape :=
  { recoverDeferredFirst := Generated.Retry.recoverDeferredFirst
    prologue := Generated.Retry.prologue
    loopInit := Generated.Retry.loopInit
    loopCond := Generated.Retry.loopCond
    loopPost := Generated.Retry.loopPost
    loopBody := Generated.Retry.loopBody
    selectCases := Generated.Retry.selectCases
    loopLabelled := Generated.Retry.loopLabelled
    epilogue := Generated.Retry.epilogue
    callSites := Generated.Retry.callSites
    directExecuteElsewhere := Generated.Retry.directExecuteElsewhere }

/-- `defer … recover()` first; `err := Execute; if err == nil return`; `retryLoop: for i := 1;
i <= MaxRetries; i++ { timer; select { <-timer.C | <-ctx.Done(): break retryLoop };
if ctx.Err() != nil break retryLoop; err = Execute; if err == nil break }`; all three dispatch modes go through this
function and nothing else calls `Execute`. -/
theorem C13_facts : generatedShape = ({} : SourceShape) := rfl

/-- the count alone, also when the script contains panics: a panic ends the sequence like a success does -/
theorem C13_attempts_general (maxRetries : Int) (script : List Outcome) :
    ((executeWithRetries maxRetries script none).attempts.length : Int) =
      1 + min (max 0 maxRetries) (failuresBefore script) := by
  have hW := waitsLeft_none_one maxRetries
  rw [exec_count]
  omega

/-- Without a panic and without cancellation the number of attempts is
`1 + min (max 0 MaxRetries) (failures before the first success)` (a negative `MaxRetries` behaves like
0); the attempts are exactly that prefix of the script (extended by the success that follows an exhausted
script), one completed wait separates consecutive attempts, and the sequence ends `succeeded` iff the
success came within the budget, else `gaveUp`. -/
theorem C13_attempts (maxRetries : Int) (script : List Outcome) (hp : Outcome.panic ∉ script) :
    let r := executeWithRetries maxRetries script none
    (r.attempts.length : Int) = 1 + min (max 0 maxRetries) (failuresBefore script) ∧
    r.attempts = (script ++ [Outcome.ok]).take r.attempts.length ∧
    r.waits + 1 = r.attempts.length ∧
    r.ending = (if (failuresBefore script : Int) ≤ max 0 maxRetries then End.succeeded else End.gaveUp) := by
  intro r
  refine ⟨C13_attempts_general maxRetries script, List.prefix_iff_eq_take.mp (exec_prefix maxRetries script none),
    exec_waits maxRetries script none, ?_⟩
  have hnp : ¬ script[failuresBefore script]? = some Outcome.panic := fun h => hp (List.mem_of_getElem? h)
  have hW := waitsLeft_none_one maxRetries
  rw [exec_ending_eq, if_neg hnp, if_neg (c := _ ≤ maxRetries) (by omega)]
  by_cases h : failuresBefore script ≤ waitsLeft maxRetries none 1
  · rw [if_pos h, if_pos (by omega)]
  · rw [if_neg h, if_neg (by omega)]

example : (executeWithRetries 3 [.err, .err, .ok, .err] none).attempts = [.err, .err, .ok] := by decide +kernel
example : (executeWithRetries 1 [.err, .err, .ok] none) =
    ⟨[.attempt .err, .wait, .attempt .err], .gaveUp⟩ := by decide +kernel
example : (executeWithRetries (-7) [.err, .err, .ok] none) = ⟨[.attempt .err], .gaveUp⟩ := by decide +kernel
example : (executeWithRetries 4 [.err] none).attempts = [.err, .ok] := by decide +kernel

/-- Whatever the parameters: at least one attempt is made, the attempts follow the script, and every
attempt except the last one failed — so a success (or a panic) is always the last attempt. -/
theorem C13_attempts_structure (maxRetries : Int) (script : List Outcome) (cancelAt : Option Nat) :
    let r := executeWithRetries maxRetries script cancelAt
    r.attempts ≠ [] ∧ r.attempts <+: script ++ [Outcome.ok] ∧
      ∀ j, j + 1 < r.attempts.length → r.attempts[j]? = some Outcome.err := by
  intro r
  refine ⟨?_, exec_prefix maxRetries script cancelAt, fun j => exec_init_err maxRetries script cancelAt j⟩
  obtain ⟨o, os, ha, _⟩ := exec_shape maxRetries script cancelAt
  simp [r, ha]

/-- The sequence stops at the first success: if the `j`-th attempt (0-based) succeeded it is the last
one and the function ends `succeeded`; conversely `succeeded` means the last attempt returned nil. -/
theorem C13_stops_on_success (maxRetries : Int) (script : List Outcome) (cancelAt : Option Nat) :
    let r := executeWithRetries maxRetries script cancelAt
    (∀ j, r.attempts[j]? = some Outcome.ok → r.attempts.length = j + 1 ∧ r.ending = End.succeeded) ∧
    (r.ending = End.succeeded ↔ r.attempts.getLast? = some Outcome.ok) := by
  intro r
  refine ⟨fun j hj => ?_, (exec_ending maxRetries script cancelAt).2⟩
  have hl := exec_last maxRetries script cancelAt j .ok hj (by decide)
  exact ⟨hl.1, (exec_ending maxRetries script cancelAt).2.mpr hl.2⟩

example : (executeWithRetries 5 [.err, .ok, .err, .err] none).attempts[1]? = some .ok := by decide +kernel

/-- The context ends during the `k`-th retry wait (i.e. after `k` failed attempts, `k ≤ MaxRetries`):
exactly those `k` attempts are made, the last event is the cancelled wait — no attempt after it — and
`k - 1` full waits were taken. -/
theorem C13_cancel_stops (maxRetries : Int) (script : List Outcome) (k : Nat) (hk1 : 1 ≤ k)
    (hkm : (k : Int) ≤ maxRetries) (hfail : ∀ j, j < k → script[j]? = some Outcome.err) :
    let r := executeWithRetries maxRetries script (some k)
    r.attempts = List.replicate k Outcome.err ∧ r.ending = End.cancelled ∧
      r.trace.getLast? = some Event.waitCancelled ∧ r.waits = k - 1 := by
  obtain ⟨hf, htake⟩ := err_prefix script k hfail
  have hw := waitsLeft_some_of_le hkm 1
  have hlen : (executeWithRetries maxRetries script (some k)).attempts.length = k := by rw [exec_count, hw]; omega
  have hend : (executeWithRetries maxRetries script (some k)).ending = End.cancelled := by
    rw [exec_ending_eq, hw, if_neg (by omega), if_pos (by omega)]
  refine ⟨?_, hend, exec_cancelled_last _ _ _ hend, by have := exec_waits maxRetries script (some k); omega⟩
  rw [List.prefix_iff_eq_take.mp (exec_prefix maxRetries script (some k)), hlen]
  exact htake _

/-- Once the context has ended no further attempt is made: with the context ending before the `k`-th
wait completes there are never more than `max k 1` attempts (the first attempt is unconditional). -/
theorem C13_cancel_bound (maxRetries : Int) (script : List Outcome) (k : Nat) :
    (executeWithRetries maxRetries script (some k)).attempts.length ≤ max k 1 := by
  have hW := waitsLeft_some_le maxRetries k 1
  rw [exec_count]
  omega

/-- `cancelled` is only reported when the context did end, and then the cancelled wait is the last
event of the trace -/
theorem C13_cancelled_last (maxRetries : Int) (script : List Outcome) (cancelAt : Option Nat)
    (h : (executeWithRetries maxRetries script cancelAt).ending = End.cancelled) :
    cancelAt ≠ none ∧
      (executeWithRetries maxRetries script cancelAt).trace.getLast? = some Event.waitCancelled := by
  refine ⟨?_, exec_cancelled_last _ _ _ h⟩
  rintro rfl
  have hW := waitsLeft_none_one maxRetries
  rw [exec_ending_eq, if_neg (c := _ ≤ maxRetries) (by omega)] at h
  split at h
  · split at h <;> cases h
  · cases h

example : executeWithRetries 4 [.err, .err, .err, .ok] (some 2) =
    ⟨[.attempt .err, .wait, .attempt .err, .waitCancelled], .cancelled⟩ := by decide +kernel

/-- the shape of a trace, as a list of events: attempts separated by exactly one completed `RetryInterval` wait.
(`Spaced` below is the matching statement about clock times: the `spans` of such a trace are `Spaced`.) -/
def spaced : List Outcome → List Event
  | [] => []
  | [o] => [.attempt o]
  | o :: os => .attempt o :: .wait :: spaced os

theorem spaced_cons : ∀ (o : Outcome) (os : List Outcome), spaced (o :: os) = .attempt o :: pairs os
  | _, [] => rfl
  | o, o2 :: os => congrArg (Event.attempt o :: .wait :: ·) (spaced_cons o2 os)

/-- positions in a trace of the form `attempt, (wait, attempt)*, tail` where the tail has no attempt -/
theorem spaced_pointwise (tl : List Event) (htl : ∀ (q : Nat) (o : Outcome), tl[q]? ≠ some (Event.attempt o)) :
    ∀ (os : List Outcome) (o : Outcome) (p : Nat) (a : Outcome),
      (Event.attempt o :: pairs os ++ tl)[p]? = some (.attempt a) →
        p = 0 ∨ ∃ q, p = q + 2 ∧ (Event.attempt o :: pairs os ++ tl)[q + 1]? = some .wait ∧
          ∃ a', (Event.attempt o :: pairs os ++ tl)[q]? = some (.attempt a') := by
  intro os
  induction os with
  | nil =>
    intro o p a h
    cases p with
    | zero => exact .inl rfl
    | succ p => exact absurd h (htl p a)
  | cons o2 os ih =>
    -- the trace is `attempt o :: wait :: T` with `T` the trace for `o2`, `os`: position `p + 2` here is `p` in `T`
    intro o p a h
    match p, h with
    | 0, _ => exact .inl rfl
    | 1, h => cases h
    | p + 2, h =>
      right
      rcases ih o2 p a h with rfl | ⟨q, rfl, hw, ha'⟩
      · exact ⟨0, rfl, rfl, o, rfl⟩
      · exact ⟨q + 2, rfl, hw, ha'⟩

/-- The trace is exactly `attempt, wait, attempt, …, wait, attempt` (followed by the cancelled wait if
the context ended): every attempt after the first is immediately preceded by one completed
`RetryInterval` wait, which is immediately preceded by the previous attempt. -/
theorem C13_interval (maxRetries : Int) (script : List Outcome) (cancelAt : Option Nat) :
    let r := executeWithRetries maxRetries script cancelAt
    r.trace = spaced r.attempts ++ (if r.ending = End.cancelled then [Event.waitCancelled] else []) ∧
    ∀ p a, r.trace[p]? = some (Event.attempt a) →
      p = 0 ∨ (2 ≤ p ∧ r.trace[p - 1]? = some Event.wait ∧ ∃ a', r.trace[p - 2]? = some (Event.attempt a')) := by
  obtain ⟨o, os, ha, ht⟩ := exec_shape maxRetries script cancelAt
  dsimp only
  rw [ha, ht, spaced_cons]
  refine ⟨rfl, fun p a hp => (spaced_pointwise _ ?_ os o p a hp).imp_right
    fun ⟨q, hq, hw, ha'⟩ => hq ▸ ⟨Nat.le_add_left 2 q, hw, ha'⟩⟩
  intro q x
  split
  · cases q <;> simp
  · simp

example : (executeWithRetries 2 [.err, .err, .err] none).trace =
    [.attempt .err, .wait, .attempt .err, .wait, .attempt .err] := by decide +kernel

/-! ### reading the trace against a clock -/

/-- The time spans `(start, end)` of the attempts when the trace is played against a clock: the `a`-th
attempt lasts `dur a`, the `w`-th completed wait lasts `interval + slack w` (a timer set to
`RetryInterval` never fires early — that is the only assumption about time), a cancelled wait takes no
modelled time. -/
def spans (interval : Nat) (dur slack : Nat → Nat) : Nat → Nat → Nat → List Event → List (Nat × Nat)
  | _, _, _, [] => []
  | now, a, w, .attempt _ :: t => (now, now + dur a) :: spans interval dur slack (now + dur a) (a + 1) w t
  | now, a, w, .wait :: t => spans interval dur slack (now + interval + slack w) a (w + 1) t
  | now, a, w, .waitCancelled :: t => spans interval dur slack now a w t

/-- on clock times, not events (cf. `spaced`): every span starts at least `interval` after the previous one ended -/
def Spaced (interval : Nat) : Nat → List (Nat × Nat) → Prop
  | _, [] => True
  | prevEnd, (s, e) :: t => prevEnd + interval ≤ s ∧ Spaced interval e t

theorem spaced_pairs (interval : Nat) (dur slack : Nat → Nat) (p : Prop) [Decidable p] :
    ∀ (os : List Outcome) (now a w : Nat),
      Spaced interval now (spans interval dur slack now a w (pairs os ++ if p then [.waitCancelled] else [])) := by
  intro os
  induction os with
  | nil =>
    intro now a w
    split <;> simp [pairs, spans, Spaced]
  | cons o os ih =>
    intro now a w
    simp only [pairs, List.cons_append, spans, Spaced]
    exact ⟨by omega, ih _ _ _⟩

theorem spaced_pointwise_time (interval : Nat) : ∀ (rest : List (Nat × Nat)) (s0 e0 : Nat),
    Spaced interval e0 rest → ∀ j s1 e1 s2 e2, ((s0, e0) :: rest)[j]? = some (s1, e1) →
      ((s0, e0) :: rest)[j + 1]? = some (s2, e2) → e1 + interval ≤ s2 := by
  intro rest
  induction rest with
  | nil => intro s0 e0 _ j s1 e1 s2 e2 _ h2; simp at h2
  | cons y t ih =>
    intro s0 e0 hsp j s1 e1 s2 e2 h1 h2
    cases j with
    | zero => cases h1; cases h2; exact hsp.1
    | succ j => exact ih y.1 y.2 hsp.2 j s1 e1 s2 e2 h1 h2

/-- At least `RetryInterval` between attempts: whatever the attempts' durations and however late the
timers fire, each attempt starts at least `interval` after the previous attempt returned; and there is
one span per attempt. -/
theorem C13_interval_time (maxRetries : Int) (script : List Outcome) (cancelAt : Option Nat)
    (interval : Nat) (dur slack : Nat → Nat) :
    let r := executeWithRetries maxRetries script cancelAt
    let sp := spans interval dur slack 0 0 0 r.trace
    (∃ rest, sp = (0, 0 + dur 0) :: rest ∧ Spaced interval (0 + dur 0) rest) ∧
    ∀ j s1 e1 s2 e2, sp[j]? = some (s1, e1) → sp[j + 1]? = some (s2, e2) → e1 + interval ≤ s2 := by
  obtain ⟨o, os, _, ht⟩ := exec_shape maxRetries script cancelAt
  dsimp only
  rw [ht]
  refine ⟨⟨_, rfl, ?h⟩, spaced_pointwise_time interval _ 0 (0 + dur 0) ?h⟩
  exact spaced_pairs interval dur slack _ os _ 1 0

example : spans 10 (fun _ => 3) (fun _ => 1) 0 0 0 (executeWithRetries 2 [.err, .err, .ok] none).trace =
    [(0, 3), (14, 17), (28, 31)] := by decide +kernel

/-- A panic on attempt `j` (0-based) ends the sequence: exactly `j + 1` attempts were made and the
function ends `recovered` — it returns normally (`End` has no constructor for a propagated panic, and
the only consumer of `Exit.panicking` is the deferred `recoverDeferred`). -/
theorem C13_panic_ends_sequence (maxRetries : Int) (script : List Outcome) (cancelAt : Option Nat)
    (j : Nat) (hj : (executeWithRetries maxRetries script cancelAt).attempts[j]? = some Outcome.panic) :
    (executeWithRetries maxRetries script cancelAt).attempts.length = j + 1 ∧
      (executeWithRetries maxRetries script cancelAt).ending = End.recovered := by
  have hl := exec_last maxRetries script cancelAt j .panic hj (by decide)
  exact ⟨hl.1, (exec_ending maxRetries script cancelAt).1.mpr hl.2⟩

/-- `recovered` arises iff some attempt that was actually made panicked -/
theorem C13_recovered_iff (maxRetries : Int) (script : List Outcome) (cancelAt : Option Nat) :
    (executeWithRetries maxRetries script cancelAt).ending = End.recovered ↔
      Outcome.panic ∈ (executeWithRetries maxRetries script cancelAt).attempts := by
  constructor
  · intro h
    exact List.mem_of_getLast? ((exec_ending maxRetries script cancelAt).1.mp h)
  · intro h
    obtain ⟨j, hj⟩ := List.getElem?_of_mem h
    exact (C13_panic_ends_sequence maxRetries script cancelAt j hj).2

/-- every run of the function ends in one of the four normal ways (totality of the model; the Lean
function is total, so there is no run without an `ending`) -/
theorem C13_returns (maxRetries : Int) (script : List Outcome) (cancelAt : Option Nat) :
    ∃ t e, executeWithRetries maxRetries script cancelAt = ⟨t, e⟩ ∧
      (e = .succeeded ∨ e = .gaveUp ∨ e = .cancelled ∨ e = .recovered) := by
  refine ⟨_, (executeWithRetries maxRetries script cancelAt).ending, rfl, ?_⟩
  cases (executeWithRetries maxRetries script cancelAt).ending <;> simp

example : executeWithRetries 3 [.err, .panic, .ok] none =
    ⟨[.attempt .err, .wait, .attempt .panic], .recovered⟩ := by decide +kernel
example : (executeWithRetries 0 [.panic] (some 1)).ending = .recovered := by decide +kernel

/-! ## the hypotheses of the theorems are satisfiable (non-vacuity) -/

example := C13_attempts 3 [.err, .err, .ok, .err] (by decide)
example := C13_attempts (-2) [.err, .err] (by decide)
example := C13_cancel_stops 4 [.err, .err, .err, .ok] 2 (by decide) (by decide)
  (fun j hj => match j, hj with | 0, _ => rfl | 1, _ => rfl)
example := C13_panic_ends_sequence 3 [.err, .panic, .ok] none 1 (by decide)
example := (C13_stops_on_success 5 [.err, .ok, .err] none).1 1 (by decide)
example := (C13_recovered_iff 3 [.err, .panic] (some 7)).mpr (by decide)

end Sched.Retry
