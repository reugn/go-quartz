import QuartzModel.Theorems.TransCsm
import QuartzModel.Theorems.TransMachine
import QuartzModel.Proofs.TransDayLemmas
import QuartzModel.Proofs.TransTransfer
import QuartzModel.Theorems.MissingTrans
/-!
# The hand-written cron model IS the translated Go code — final assembly

Stage A (`CommonNode`, `Theorems/TransCsm.lean`), Stage B (`DayNode` at `T := goTime`, `Proofs/TransDayLemmas.lean`)
and Stage C (the state machine, `Theorems/TransMachine.lean`) composed:

* `trans_dayEquiv`          — Stage B provides the abstract day-node equivalence Stage C is stated over;
* `trans_nextTriggerTime`   — `newCSMFromFields(wall, fields).NextTriggerTime(time.UTC)` of the TRANSLATED code
                              equals the model's `Cron.csmNext {} f wall`, for every well-formed expression, every valid
                              wall clock and every fuel `> csmFuel`;
* `C01_sound_trans`, `C02_minimal_trans`, `C06_total_trans` — the property theorems, restated for
  `nextFireT goTime` (= `NextFireTime` with the translated state machine inside).

In this file only the inner call `newCSMFromFields(…).NextTriggerTime` is translated code (`nextFireT` keeps the model's
retry loop); the loop of `quartz/cron.go: NextFireTime` itself is translated and proved equal in `Theorems/TransCron.lean`
(`trans_zoneLoop`, `trans_nextFireTime`).  Modelled, not translated: package `time` on UTC midnights (`Cron.goTime`, from
the calendar model that `harness/cmd/qh/cal.go` (`qh cal`) validates against Go day by day), and the translator itself
(`harness/cmd/gotolean`, checked idioms 1–5).
-/
namespace TransCsm
open Generated.Trans Cron Cal Odo TransRepr TransA TransC

/-- every listed function of `internal/csm` and `quartz/csm.go` was translated and all five idioms were found in the
source (a failed idiom check is an entry of `missing`) -/
theorem trans_nothing_missing : Generated.Trans.missing = [] := Trans.missing_none

/-- Stage B (the day node) provides the hypothesis of Stage C (the state machine) -/
theorem trans_dayEquiv (f : Fields) (hwf : WellFormed f = true) (fuel : Nat) (hfuel : 32 ≤ fuel) :
    DayEquiv goTime f fuel :=
  { findForward := fun y m v h1 h2 _ h4 => TransDay.trans_dayFindForward f hwf y m v fuel h1 h2 h4 hfuel
    next := fun y m v h1 h2 _ h4 => TransDay.trans_dayNext f hwf y m v fuel h1 h2 h4 hfuel
    reset := fun y m v h1 h2 _ h4 => TransDay.trans_dayReset f hwf y m v fuel h1 h2 h4 hfuel }

/-- **`newCSMFromFields(wall, fields).NextTriggerTime` of the translated Go code is the model's `csmNext`.** -/
theorem trans_nextTriggerTime (f : Fields) (hwf : WellFormed f = true) (fuel : Nat) (hfuel : csmFuel + 1 ≤ fuel)
    (wall : Civil) (hv : wall.Valid) (hy : wall.year ≤ 3940) :
    transCsmNext goTime f wall fuel = csmNext {} f wall :=
  trans_nextTriggerTime_of goTime f hwf fuel
    (trans_dayEquiv f hwf fuel (Nat.le_trans (by decide) hfuel)) hfuel wall hv hy

/-- the same, spelled out on the generated functions: the six node values and `exhausted` -/
theorem trans_nextTriggerTime_values (f : Fields) (hwf : WellFormed f = true) (fuel : Nat) (hfuel : csmFuel + 1 ≤ fuel)
    (wall : Civil) (hv : wall.Valid) (hy : wall.year ≤ 3940) :
    (CronStateMachine.NextTriggerTime goTime
        (newCSMFromFields wall.year wall.month wall.day wall.hour wall.minute wall.second (mkFields f)) fuel).map
      (fun r => if r.2.2 then some (civilOfWall r.2.1) else none) =
    (match Odo.findForward (levels {} f) (levelsDec {} f) 6 csmFuel (cfgOfCivil wall) with
     | none => none
     | some (_, true) => some none
     | some (c, false) => some (some (civilOfCfg c))) :=
  trans_nextTriggerTime f hwf fuel hfuel wall hv hy

/-! ## C01 / C02 / C06 for the translated state machine

`prev ≤ 9223372036854775807`: `prev` is an int64 count of nanoseconds in Go (every `time.Time.UnixNano()`). -/

section transfer
variable (f : Fields) (hwf : WellFormed f = true) (fuel : Nat) (hfuel : csmFuel + 1 ≤ fuel) (c prev : Int)
  (hc : -100000 ≤ c ∧ c ≤ 100000) (hp : -9223372036854775808 ≤ prev) (hmax : prev ≤ 9223372036854775807)
include hwf hfuel hc hp hmax

theorem nextFireT_eq_nextFire : nextFireT goTime fuel f (fixedZone c) prev = nextFire {} f (fixedZone c) prev :=
  nextFireT_eq goTime fuel f hwf (trans_nextTriggerTime f hwf fuel hfuel) c prev hc hp hmax

/-- C01 (soundness) with the translated state machine inside `NextFireTime` -/
theorem C01_sound_trans (r : Int) (h : nextFireT goTime fuel f (fixedZone c) prev = .ok r) :
    r % 1000000000 = 0 ∧ prev < r ∧ Matches f (Civil.ofSeconds (r / 1000000000 + c)) := by
  rw [nextFireT_eq_nextFire f hwf fuel hfuel c prev hc hp hmax] at h
  exact C01_sound f hwf c prev hc hp r h

/-- C02 (minimality) with the translated state machine inside `NextFireTime` -/
theorem C02_minimal_trans (r : Int) (h : nextFireT goTime fuel f (fixedZone c) prev = .ok r) :
    ∀ u : Int, prev < u → u < r → u % 1000000000 = 0 →
      ¬ Matches f (Civil.ofSeconds (u / 1000000000 + c)) := by
  rw [nextFireT_eq_nextFire f hwf fuel hfuel c prev hc hp hmax] at h
  exact C02_minimal f hwf c prev hc hp r h

/-- C06 (totality) with the translated state machine inside `NextFireTime` -/
theorem C06_total_trans :
    (∃ r, nextFireT goTime fuel f (fixedZone c) prev = .ok r ∧ prev < r) ∨
      nextFireT goTime fuel f (fixedZone c) prev = .expired := by
  rw [nextFireT_eq_nextFire f hwf fuel hfuel c prev hc hp hmax]
  exact C06_total f hwf c prev hc hp

end transfer

/-- the hypotheses are satisfiable: a well-formed expression (Mon, Wed, Fri at noon), a valid wall clock -/
example : WellFormed exWeekdays = true ∧ leapEve.Valid ∧ leapEve.year ≤ 3940 ∧ Box (cfgOfCivil leapEve) :=
  ⟨by decide, leapEve_valid, by decide, box_cfgOfCivil leapEve leapEve_valid (by decide)⟩

example : DayEquiv goTime exWeekdays (csmFuel + 1) :=
  trans_dayEquiv exWeekdays (by decide) _ (by decide)

example : transCsmNext goTime exWeekdays leapEve (csmFuel + 1) = csmNext {} exWeekdays leapEve :=
  trans_nextTriggerTime exWeekdays (by decide) _ (Nat.le_refl _) leapEve leapEve_valid (by decide)

/-- C01 / C02 / C06 of the translated state machine at a `prev` before 1970 (one day and 1 ns before the epoch) -/
theorem exNoon_neg_trans :
    nextFireT goTime (csmFuel + 1) exNoon (fixedZone 0) (-86400000000001) = .ok (-43200000000000) := by
  rw [nextFireT_eq_nextFire exNoon exNoon_wf (csmFuel + 1) (Nat.le_refl _) 0 _ (by omega) (by omega) (by omega)]
  exact exNoon_neg

example : (-43200000000000 : Int) % 1000000000 = 0 ∧ (-86400000000001 : Int) < -43200000000000 ∧
    Matches exNoon (Civil.ofSeconds (-43200000000000 / 1000000000 + 0)) :=
  C01_sound_trans exNoon exNoon_wf (csmFuel + 1) (Nat.le_refl _) 0 (-86400000000001) (by omega) (by omega)
    (by omega) _ exNoon_neg_trans

example : ∀ u : Int, -86400000000001 < u → u < -43200000000000 → u % 1000000000 = 0 →
    ¬ Matches exNoon (Civil.ofSeconds (u / 1000000000 + 0)) :=
  C02_minimal_trans exNoon exNoon_wf (csmFuel + 1) (Nat.le_refl _) 0 (-86400000000001) (by omega) (by omega)
    (by omega) _ exNoon_neg_trans

example : (∃ r, nextFireT goTime (csmFuel + 1) exNoon (fixedZone 0) (-9223372036854775808) = .ok r ∧
      -9223372036854775808 < r) ∨
    nextFireT goTime (csmFuel + 1) exNoon (fixedZone 0) (-9223372036854775808) = .expired :=
  C06_total_trans exNoon exNoon_wf (csmFuel + 1) (Nat.le_refl _) 0 (-9223372036854775808) (by omega) (by omega)
    (by omega)

end TransCsm

#print axioms TransCsm.trans_dayEquiv
#print axioms TransCsm.trans_nextTriggerTime
#print axioms TransCsm.C01_sound_trans
#print axioms TransCsm.C02_minimal_trans
#print axioms TransCsm.C06_total_trans
