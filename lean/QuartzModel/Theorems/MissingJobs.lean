import QuartzModel.Generated.Facts
/-! No source shape of the `jobs` fact group(s) is missing (a separate module per group, so that a reshaped function of one area
cannot break the proof obligations of properties that do not depend on it). -/
namespace Facts
theorem missing_none_jobs : (Generated.missing.filter (fun s => "jobs.".toList.isPrefixOf s.toList)) = [] := rfl
end Facts
