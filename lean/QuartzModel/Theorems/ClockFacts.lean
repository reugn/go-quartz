import QuartzModel.Generated.Facts
/-!
# The clock a fire time is computed from is read inside the critical section (C08, C09)

C08: "ResumeJob re-activates it with a fire time computed from the moment of resumption"; C09: the registry calls are atomic.
The sequential model (`Sched.resume s now …`, `Sched.schedule s now …`) takes the clock reading as a parameter; what ties that
parameter to "the moment the call takes effect" is WHERE the real code reads the clock: after `queueLocker.Lock()`.
With the read before the lock the value can be arbitrarily older than the critical section in which the call takes effect, in
particular older than a `PauseJob` that was serialised before it (`stale_read_precedes_pause`).

The general statements are about an arbitrary placement of the read; only `clock_facts` (by `decide`) depends on the regenerated
table `Generated.ClockOrder`.
-/
namespace Sched.Clock

/-- program points of one call on a monotone clock: entered, lock granted, lock released -/
structure Timeline where
  entry : Int
  granted : Int
  released : Int
  h_entry : entry ≤ granted
  h_held : granted ≤ released

/-- where a clock reading `t` can lie, given the placement of the read relative to `Lock()`: program order on a monotone clock -/
def ReadAt (afterLock : Bool) (c : Timeline) (t : Int) : Prop :=
  if afterLock then c.granted ≤ t ∧ t ≤ c.released else c.entry ≤ t ∧ t ≤ c.granted

/-- a regenerated row: (method, Lock();defer Unlock() top level, #clock reads, all after Lock, #NextFireTime calls, all after Lock,
every NextFireTime argument is a clock read made after the Lock) -/
abbrev Row := String × Bool × Nat × Bool × Nat × Bool × Bool

/-- the row says: the (only) time handed to the trigger is read under the lock -/
def Row.readUnderLock (r : Row) : Bool :=
  r.2.1 && decide (0 < r.2.2.1) && r.2.2.2.1 && decide (0 < r.2.2.2.2.1) && r.2.2.2.2.2.1 && r.2.2.2.2.2.2

def placement (table : List Row) (method : String) : Bool :=
  table.any (fun r => r.1 == method && r.readUnderLock)

/-- **read under the lock**: the time is a moment of the critical section itself; every critical section of the same mutex that
was serialised before this one (e.g. the PauseJob that paused the job ResumeJob finds paused) had been left by then -/
theorem read_in_critical_section (p r : Timeline) (t : Int) (hmutex : p.released ≤ r.granted) (h : ReadAt true r t) :
    p.granted ≤ t ∧ p.released ≤ t ∧ r.granted ≤ t ∧ t ≤ r.released := by
  have hp := p.h_held
  simp only [ReadAt, if_true] at h
  omega

/-- **read before the lock**: nothing bounds the time from below except the entry of the call — there are serialised executions in
which it precedes the whole critical section of the earlier call by any amount `d` (the fire time is computed from a moment at
which the job had not even been paused) -/
theorem stale_read_precedes_pause (d : Int) (hd : 0 ≤ d) :
    ∃ (p r : Timeline) (t : Int), p.released ≤ r.granted ∧ ReadAt false r t ∧ t + d < p.granted := by
  refine ⟨⟨1 + d, 1 + d, 2 + d, by omega, by omega⟩, ⟨0, 3 + d, 4 + d, by omega, by omega⟩, 0, ?_, ?_, ?_⟩
  · show (2 : Int) + d ≤ 3 + d; omega
  · simp only [ReadAt, Bool.false_eq_true, if_false]; omega
  · show (0 : Int) + d < 1 + d; omega

/-- regenerated from quartz/scheduler.go: in ResumeJob and in ScheduleJob there is one clock read and one trigger call, both after
`queueLocker.Lock(); defer queueLocker.Unlock()`, and the trigger's argument is that clock read; the loop's classification clock
(`validateJob`) is read under the lock of `fetchAndReschedule` -/
theorem clock_facts :
    placement Generated.ClockOrder.table "ResumeJob" = true ∧ placement Generated.ClockOrder.table "ScheduleJob" = true ∧
    Generated.ClockOrder.validateReadsUnderLock = true := by decide +kernel

/-- C08 for the code as it is: the time ResumeJob hands to the trigger lies inside ResumeJob's own critical section, hence not
before the end of the critical section of any call serialised before it -/
theorem C08_resume_moment (p r : Timeline) (t : Int) (hmutex : p.released ≤ r.granted)
    (h : ReadAt (placement Generated.ClockOrder.table "ResumeJob") r t) : p.released ≤ t ∧ r.granted ≤ t ∧ t ≤ r.released := by
  rw [clock_facts.1] at h
  have := read_in_critical_section p r t hmutex h
  omega

/-- the same for ScheduleJob (first fire time of a new or replacing job) -/
theorem C09_schedule_moment (p r : Timeline) (t : Int) (hmutex : p.released ≤ r.granted)
    (h : ReadAt (placement Generated.ClockOrder.table "ScheduleJob") r t) : p.released ≤ t ∧ r.granted ≤ t ∧ t ≤ r.released := by
  rw [clock_facts.2.1] at h
  have := read_in_critical_section p r t hmutex h
  omega

/-- non-vacuity: a pause [10, 12] serialised before a resume that entered at 5, got the lock at 300 and read 301 -/
example : ∃ (p r : Timeline) (t : Int), p.released ≤ r.granted ∧ ReadAt true r t ∧ p.released ≤ t :=
  ⟨⟨10, 10, 12, by omega, by omega⟩, ⟨5, 300, 305, by omega, by omega⟩, 301, by show (12 : Int) ≤ 300; omega,
    by simp only [ReadAt, if_true]; omega, by show (12 : Int) ≤ 301; omega⟩

end Sched.Clock

namespace Facts
/-- no source shape of the `clockorder` fact group is missing -/
theorem missing_none_clockorder : (Generated.missing.filter (fun s => "clockorder.".toList.isPrefixOf s.toList)) = [] := by decide +kernel
end Facts
