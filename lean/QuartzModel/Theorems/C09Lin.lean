import QuartzModel.Concurrency.Lock
import QuartzModel.Sched.Model
import QuartzModel.Generated.Facts
/-!
# C09, concurrent part: every interleaving of DeleteJob / PauseJob / Clear calls and dispatch steps of the
running scheduler is equivalent to a sequential order of the calls

Covered here (`Call`, `callOp`): representative bodies — a single-queue-call method (`DeleteJob`), a
multi-queue-call method (`PauseJob`, split at its three queue calls), `Clear` and the loop's
pop-reschedule step.  `ScheduleJob`, `ResumeJob` and the read-only methods have no body in `Call`;
for them the argument is the same general theorem together with the regenerated lock facts below.

`Lock.linearizable` is the general theorem: threads whose multi-step bodies run entirely under one
mutex, under ANY schedule, return what they return in the sequential execution in lock-acquisition
order, and whenever the lock is free the shared state is that execution's state. Its premise for the
real code is a regenerated fact: every method of StdScheduler that mutates or reads the registry
makes all its queue calls after `queueLocker.Lock(); defer queueLocker.Unlock()`.
The theorem holds for any shared state type and any bodies, hence for any contract-abiding JobQueue
(one that hands out copies included): only the queue's own sequential behaviour enters `Op.run`.
-/
namespace Sched
open Queue Lock

/-- the registry methods and the loop's pop-reschedule step keep every queue access inside the lock -/
def lockedMethods : List String :=
  ["ScheduleJob", "GetJobKeys", "GetScheduledJob", "DeleteJob", "PauseJob", "ResumeJob", "Clear", "fetchAndReschedule"]

/-- regenerated from quartz/scheduler.go: each of them is found, with `Lock(); defer Unlock()` before its first queue call -/
theorem C09_lock_facts :
    lockedMethods.all (fun m => Generated.Locks.table.any (fun r => r.1 == m && r.2.1)) = true := by decide +kernel

/-- the only queue calls outside the lock are the loop's read-only `Size` and `Head` (they feed the
timer only; C05 treats that window) -/
theorem C09_unlocked_are_reads :
    (Generated.Locks.table.filter (fun r => !r.2.1)).all (fun r => r.2.2.all (fun c => c == "Size" || c == "Head")) = true := by
  decide +kernel

/-- ScheduleJob consults the job's suspended flag (which PauseJob / ResumeJob change in place) and the trigger under the lock, so
the whole call is one critical section as in the model (`Sched.schedule` is atomic); repaired defect b62cd12 -/
theorem C09_schedule_reads_under_lock : Generated.Locks.scheduleReadsUnderLock = true := by decide +kernel

/-- one call, as a body of micro-steps executed under the lock: `DeleteJob`, `Clear` and the loop step are
one micro-step each; the multi-call body of `PauseJob` is split at its queue calls (Get+check, Remove,
Push), which is where a missing lock would let another thread in.  (There is no `ScheduleJob` /
`ResumeJob` constructor.) -/
inductive Call where
  | delete (g n : String)
  | pause (g n : String)
  | clear
  | step (now thr : Int)
deriving Repr

/-- local state of a call body: the error so far, the entry it carries between queue calls, and `stop`:
an earlier micro-step has returned, the remaining ones do nothing -/
structure Loc where
  err : Option SErr := none
  job : Option Entry := none
  stop : Bool := false

def pauseSteps (g n : String) : List (SState → Loc → SState × Loc) :=
  [ fun s l => match qget s.q g n with
      | .error e => (s, { l with err := some (ofQErr e), stop := true })
      | .ok job => if job.suspended then (s, { l with err := some .jobIsSuspended, stop := true }) else (s, l),
    fun s l => if l.stop then (s, l) else match qremove s.q g n with
      | .error e => (s, { l with err := some (ofQErr e), stop := true })
      | .ok (q', j) => ({ s with q := q' }, { l with job := some j }),
    fun s l => if l.stop then (s, l) else match l.job with
      | none => (s, l)
      | some j => match qpush s.q { j with prio := maxInt64, suspended := true } with
        | .ok q'' => ({ s with q := q'' }, l)
        | .error e => (s, { l with err := some (ofQErr e) }) ]

def deleteStep (g n : String) (s : SState) (l : Loc) : SState × Loc :=
  ((delete s true g n).1, { l with err := (delete s true g n).2 })

def callOp : Call → Op SState Loc (Option SErr)
  | .delete g n => { init := {}, result := fun l => l.err, steps := [deleteStep g n] }
  | .pause g n => { init := {}, result := fun l => l.err, steps := pauseSteps g n }
  | .clear => { init := {}, result := fun l => l.err, steps := [fun s l => (clear s, l)] }
  | .step now thr => { init := {}, result := fun l => l.err, steps := [fun s l => ((step s now thr).1, l)] }

/-- the three-queue-call body of PauseJob, run without interruption, is the `pause` function of the model -/
theorem pauseOp_run (s : SState) (g n : String) :
    (callOp (.pause g n)).run s = ((pause s true g n).1, (pause s true g n).2) := by
  simp only [callOp, Op.run, runSteps, pauseSteps, List.foldl, pause, Bool.not_true, Bool.false_eq_true, if_false]
  cases h1 : qget s.q g n with
  | error e => simp
  | ok job =>
    by_cases hs : job.suspended = true
    · simp [hs]
    · simp only [hs, Bool.false_eq_true, if_false]
      cases h2 : qremove s.q g n with
      | error e => simp
      | ok r =>
        obtain ⟨q', j⟩ := r
        simp only
        cases h3 : qpush q' { j with prio := maxInt64, suspended := true } with
        | error e => simp
        | ok q'' => simp

/-- **C09 (concurrent histories).** For any assignment of calls (of the four kinds of `Call`) to threads and any
schedule of their micro-steps: when the lock is free the registry is the one produced by running the calls one after
another in lock-acquisition order, and every completed call returned what it returns in that
sequential execution. -/
theorem C09_linearizable (calls : Nat → Call) (s0 : SState) (sched : List Nat) :
    let σ := exec (fun i => callOp (calls i)) (init s0) sched
    (σ.holder = none → σ.shared = seqState (fun i => callOp (calls i)) s0 σ.order) ∧
    (∀ i r, σ.th i = .done r → ∃ pre post, σ.order = pre ++ i :: post ∧
        r = seqResult (fun i => callOp (calls i)) s0 pre i) :=
  linearizable (fun i => callOp (calls i)) s0 sched

/-- non-vacuity (the theorem has no hypotheses): pause vs delete of the same key, micro-steps interleaved -/
example :=
  C09_linearizable (fun i => if i = 0 then .pause "g" "a" else .delete "g" "a")
    { q := #[{ group := "g", name := "a", prio := 5 }] } [0, 1, 0, 1, 0, 0, 1, 1, 1]

/-- the mechanism on a small decidable instance: two read-modify-write bodies (read; write read+1) on a counter.
Interleaved under the lock the second acquirer sees the first one's write: final value 2, never the lost update 1. -/
example :
    let inc : Op Nat Nat Nat := { init := 0, result := id, steps := [fun s _ => (s, s), fun _ l => (l + 1, l)] }
    let σ := exec (fun _ => inc) (init 0) [0, 1, 0, 1, 0, 0, 1, 1, 1, 1]
    σ.shared = 2 ∧ σ.order = [0, 1] ∧ σ.holder = none := by
  decide

end Sched
