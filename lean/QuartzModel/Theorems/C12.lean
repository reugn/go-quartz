import QuartzModel.Sched.Pool
import QuartzModel.Proofs.PoolLemmas
import QuartzModel.Generated.Facts
/-!
# C12 — execution modes bound concurrency as configured and keep jobs independent

Model: `QuartzModel/Sched/Pool.lean` (the dispatch switch of `executeAndReschedule`, `startWorkers`, the
unbuffered `dispatch` channel; quartz/scheduler.go). Every theorem quantifies over ALL reachable states, i.e.
over every interleaving of the loop, the workers, the per-execution goroutines and the arrival of due jobs,
with jobs that finish at arbitrary times or never.

The general theorems are stated for an arbitrary `code : Code` with the hypothesis `code = Code.std`;
`C12_facts` discharges that hypothesis for the shape regenerated from the source (`Generated.Pool`), and the
`…_code` corollaries are the statements about the code as it is now.
-/
namespace Pool

/-! ## the facts regenerated from quartz/scheduler.go, and the `Code` they describe -/

def guardOfCode : Nat → Option Guard
  | 0 => some .blockingSet
  | 1 => some .limitPos
  | 2 => some .dflt
  | _ => none

def armOfCode : Nat → Arm
  | 0 => .inline
  | 1 => .handoff
  | 2 => .spawn
  | _ => .skip

/-- the `Code` the extractor read from quartz/scheduler.go; an unrecognised case condition yields `none` -/
def codeOfFacts : Option Code :=
  (Generated.Pool.switchCases.mapM (fun p => (guardOfCode p.1).map (fun g => (g, armOfCode p.2)))).map fun sw =>
    { dispatchCap := Generated.Pool.dispatchCap, switch := sw,
      workersNotBlocking := Generated.Pool.workersGuard.contains 0,
      workersLimitPos := Generated.Pool.workersGuard.contains 1 }

/-- one hand-off channel per run, as read from `Start` -/
def runsCodeOfFacts : RunsCode := { perRun := Generated.Pool.dispatchPerRun }

/-- The source has the shape the theorems are about: `dispatch` is unbuffered, made once per run in `Start` and
    that one value is handed to the loop and to the workers of the run (nothing else is called dispatch); the switch is
    `case BlockingExecution` (inline) / `case WorkerLimit > 0` (send on dispatch or ctx.Done) / `default` (go);
    `startWorkers` is guarded by exactly `!BlockingExecution && WorkerLimit > 0`, starts one goroutine per
    `i < WorkerLimit`, and a worker receives a job only between executions. -/
theorem C12_facts :
    codeOfFacts = some Code.std ∧ Generated.Pool.workersGuard = [0, 1] ∧
      Generated.Pool.workerLoopStd = true ∧ Generated.Pool.workerBodyStd = true ∧
      runsCodeOfFacts = RunsCode.std := by
  decide

theorem code_of_facts {code : Code} (h : codeOfFacts = some code) : code = Code.std :=
  (Option.some.inj (C12_facts.1.symm.trans h)).symm

/-! ## blocking mode -/

theorem blocking_reach (c : Cfg) (hb : c.blocking = true) (s : St) (hr : Reach Code.std c s) :
    s.workers = [] ∧ s.spawned = 0 ∧ s.chan = 0 := by
  have hi := hr.inv rfl
  exact ⟨List.eq_nil_of_length_eq_zero (hi.workers.trans (workers_std_blocking c hb)),
    hi.spawned (by rw [arm_std_blocking c hb]; nofun), hi.chan⟩

/-- With BlockingExecution at most one job execution is in progress, in every reachable state. -/
theorem C12_blocking_le_one (code : Code) (hc : code = Code.std) (c : Cfg) (hb : c.blocking = true)
    (s : St) (hr : Reach code c s) : inflight s ≤ 1 := by
  subst hc
  obtain ⟨hw, hsp, _⟩ := blocking_reach c hb s hr
  simp only [inflight, busy, hw, hsp]
  split <;> simp

/-- BlockingExecution together with WorkerLimit > 0: no worker goroutine exists, nothing is ever handed off or
    spawned, at most one execution is in flight, and the system is step-for-step the one with WorkerLimit = 0. -/
theorem C12_blocking_ignores_worker_limit (code : Code) (hc : code = Code.std) (c : Cfg)
    (hb : c.blocking = true) :
    (∀ s, Reach code c s → s.workers = [] ∧ s.spawned = 0 ∧ s.chan = 0 ∧ inflight s ≤ 1) ∧
    (∀ p, init code c p = init code { c with workerLimit := 0 } p) ∧
    (∀ s a, step code c s a = step code { c with workerLimit := 0 } s a) ∧
    (∀ s, Reach code c s ↔ Reach code { c with workerLimit := 0 } s) := by
  subst hc
  -- both configurations select the `inline` arm and start no worker
  have hb0 : ({ c with workerLimit := 0 } : Cfg).blocking = true := hb
  have ha : Code.std.arm c = Code.std.arm { c with workerLimit := 0 } :=
    (arm_std_blocking c hb).trans (arm_std_blocking _ hb0).symm
  have hw : Code.std.workers c = Code.std.workers { c with workerLimit := 0 } :=
    (workers_std_blocking c hb).trans (workers_std_blocking _ hb0).symm
  refine ⟨fun s hr => ?_, init_congr hw, step_congr ha, fun s => ?_⟩
  · obtain ⟨h1, h2, h3⟩ := blocking_reach c hb s hr
    exact ⟨h1, h2, h3, C12_blocking_le_one _ rfl c hb s hr⟩
  · simp only [Reach, init_congr hw, run_congr ha]

/-! ## worker pool -/

/-- With WorkerLimit n the executions in flight are exactly the busy workers, and there are at most n. -/
theorem C12_pool_le_n (code : Code) (hc : code = Code.std) (c : Cfg) (hb : c.blocking = false)
    (hn : 0 < c.workerLimit) (s : St) (hr : Reach code c s) :
    inflight s = busy s ∧ busy s ≤ c.workerLimit := by
  subst hc
  have hi := hr.inv rfl
  have harm := arm_std_pool c hb hn
  have hpc := hi.pc (by rw [harm]; nofun)
  have hsp := hi.spawned (by rw [harm]; nofun)
  refine ⟨by simp [inflight, hpc, hsp], ?_⟩
  rw [← workers_std_pool c hb hn, ← hi.workers]; exact List.count_le_length

/-- …and n can genuinely run in parallel: from n due jobs there is an interleaving in which no job ever
    finishes and n executions are in flight. -/
theorem C12_pool_reaches_n (code : Code) (hc : code = Code.std) (n : Nat) (hn : 0 < n) :
    ∃ as s, (∀ a ∈ as, a.isFinish = false) ∧
      run code { blocking := false, workerLimit := n } (init code { blocking := false, workerLimit := n } n) as = some s ∧
      inflight s = n ∧ busy s = n := by
  subst hc
  let c : Cfg := { blocking := false, workerLimit := n }
  obtain ⟨as, s, hfin, hrun, hbusy⟩ := run_handoff_rounds (arm_std_pool c rfl hn) n (init Code.std c n) rfl (Nat.le_refl n)
    (by rw [busy_init, init, List.length_replicate, workers_std_pool c rfl hn]; exact Nat.le_refl n)
  rw [busy_init] at hbusy
  exact ⟨as, s, hfin, hrun, (C12_pool_le_n Code.std rfl c rfl hn s ⟨n, as, hrun⟩).1.trans hbusy, hbusy⟩

/-- The only permitted delay: with all workers busy the loop, holding a job, has no enabled step at all — the
    send on the unbuffered channel completes only when a worker has returned to its `select`. -/
theorem C12_pool_full_blocks (code : Code) (hc : code = Code.std) (c : Cfg) (hb : c.blocking = false)
    (hn : 0 < c.workerLimit) (s : St) (hr : Reach code c s) (hpc : s.pc = .holding)
    (hfull : busy s = c.workerLimit) :
    (∀ a, a.isLoop = true → step code c s a = none) ∧
    (∀ i s', step code c s (.workerDone i) = some s' → ∃ s'', step code c s' (.handoff i) = some s'') := by
  subst hc
  have harm := arm_std_pool c hb hn
  have hnone : ∀ i, s.workers[i]? ≠ some false :=
    all_busy_no_idle s.workers (by rw [(hr.inv rfl).workers, workers_std_pool c hb hn]; exact hfull)
  constructor
  · intro a ha
    -- each step of the loop has a conjunct in its guard that fails here
    cases a <;> first | contradiction | refine if_neg fun h => ?_
    case fetch => rw [hpc] at h; cases h.1
    case inlineDone => rw [hpc] at h; cases h
    case runInline | spawn | skipJob => rw [harm] at h; cases h.2
    case handoff i => exact hnone i h.2.2
    case sendBuf => exact Nat.not_lt_zero _ h.2.2
  · intro i s' h
    obtain ⟨hi, rfl⟩ := guard_some h
    have hlt : i < s.workers.length := (List.getElem?_eq_some_iff.1 hi).1
    exact ⟨_, if_pos ⟨hpc, harm, List.getElem?_set_self hlt⟩⟩

/-! ## unbounded mode -/

/-- With neither option no transition of the loop waits on a job: in every reachable state — whatever the
    number of executions in flight and whether or not they ever finish — the loop is never inside a job,
    a held job is dispatched by a step that is enabled now and returns the loop to idle, and a due job is
    fetched by a step that is enabled now. -/
theorem C12_unbounded_loop_never_waits (code : Code) (hc : code = Code.std) (c : Cfg)
    (hb : c.blocking = false) (hn : c.workerLimit = 0) (s : St) (hr : Reach code c s) :
    s.pc ≠ .executing ∧
    (s.pc = .holding → ∃ s', step code c s .spawn = some s' ∧ s'.pc = .idle ∧ s'.spawned = s.spawned + 1 ∧
        s'.pending = s.pending) ∧
    (s.pc = .idle → 0 < s.pending → ∃ s', step code c s .fetch = some s' ∧ s'.pc = .holding) ∧
    (∀ k a, (step code c { s with spawned := k } a).isSome = true → a.isLoop = true →
        (step code c s a).isSome = true) := by
  subst hc
  have harm := arm_std_unbounded c hb hn
  refine ⟨(hr.inv rfl).pc (by rw [harm]; nofun), fun h => ?_, fun h hp => ?_, fun k a h ha => ?_⟩
  · exact ⟨_, if_pos ⟨h, harm⟩, rfl, rfl, rfl⟩
  · exact ⟨_, if_pos ⟨h, hp⟩, rfl⟩
  · -- the guards of the loop's steps do not read `spawned`
    cases a <;> first | contradiction | exact Option.isSome_ite.2 (Option.isSome_ite.1 h)

/-- in unbounded mode any number of executions can be in flight at once, none of them finishing -/
theorem C12_unbounded_no_bound (code : Code) (hc : code = Code.std) (m : Nat) :
    ∃ as s, (∀ a ∈ as, a.isFinish = false) ∧
      run code { blocking := false, workerLimit := 0 } (init code { blocking := false, workerLimit := 0 } m) as = some s ∧
      inflight s = m := by
  subst hc
  let c : Cfg := { blocking := false, workerLimit := 0 }
  have harm := arm_std_unbounded c rfl rfl
  obtain ⟨as, s, hfin, hrun, hsp⟩ := run_spawn_rounds harm m (init Code.std c m) rfl (Nat.le_refl m)
  have hi := Reach.inv rfl ⟨m, as, hrun⟩
  have hpc := hi.pc (by rw [harm]; nofun)
  have hw : s.workers = [] := List.eq_nil_of_length_eq_zero hi.workers
  exact ⟨as, s, hfin, hrun, by simp [inflight, busy, hpc, hw, hsp, init]⟩

/-! ## several runs side by side -/

/-- Workers of run `h` only ever execute jobs handed off by the loop of run `h` — in every reachable state of any
    number of runs living side by side (stopped runs whose workers are still busy included). Since a worker runs every
    job with the context of its own run, a job is always executed under the context of the run that dispatched it, and
    the executions of jobs of one run are confined to that run's own `n` workers (`C12_pool_le_n` applies per run). -/
theorem C12_handoff_within_run (code : RunsCode) (hc : code = RunsCode.std) (s : RSt) (hr : RReach code s)
    (h i g : Nat) (he : executes s h i g) : g = h := by
  subst hc
  obtain ⟨as, hrun⟩ := hr
  obtain ⟨r, hr1, hr2⟩ := he
  exact InvR.run as rinit (by intro h r hh; simp [rinit] at hh) hrun h r hr1 g (List.mem_of_getElem? hr2)

/-- Negative control — the defect repaired by the per-run channel. With ONE channel shared by all runs the following
    is reachable with WorkerLimit 1: run 0 is stopped while its worker is busy; run 1 starts; the stale worker comes
    back, finds a job of run 1 ready on the shared channel and takes it: it executes a job dispatched by the loop of
    run 1 under run 0's CANCELLED context, while run 1's own worker is busy too — two executions of run-1 jobs with
    WorkerLimit 1. With the channel per run the last step of the same trace is impossible. -/
theorem C12_stale_worker_steals_shared_channel :
    (∃ s r0 r1, RReach { perRun := false } s ∧ s.runs = [r0, r1] ∧
      executes s 0 0 1 ∧ r0.cancelled = true ∧ executes s 1 0 1 ∧ r1.cancelled = false ∧ r1.workers.length = 1) ∧
    rrun RunsCode.std rinit [.start 1, .fetch 0, .handoff 0 0 0, .cancel 0, .start 1, .workerDone 0 0, .fetch 1,
      .handoff 1 1 0, .fetch 1, .handoff 1 0 0] = none := by
  constructor
  · refine ⟨{ runs := [{ cancelled := true, loopAlive := true, holding := false, workers := [.busy 1] },
                       { cancelled := false, loopAlive := true, holding := false, workers := [.busy 1] }] },
      _, _, ⟨[.start 1, .fetch 0, .handoff 0 0 0, .cancel 0, .start 1, .workerDone 0 0, .fetch 1,
              .handoff 1 1 0, .fetch 1, .handoff 1 0 0], by decide +kernel⟩, rfl, ⟨_, rfl, rfl⟩, rfl, ⟨_, rfl, rfl⟩, rfl, rfl⟩
  · decide +kernel

/-! ## the same for `codeOfFacts`: the hypothesis `code = Code.std` discharged by `C12_facts` -/

theorem C12_blocking_le_one_code (code : Code) (h : codeOfFacts = some code) (c : Cfg)
    (hb : c.blocking = true) (s : St) (hr : Reach code c s) : inflight s ≤ 1 :=
  C12_blocking_le_one code (code_of_facts h) c hb s hr

theorem C12_pool_le_n_code (code : Code) (h : codeOfFacts = some code) (c : Cfg) (hb : c.blocking = false)
    (hn : 0 < c.workerLimit) (s : St) (hr : Reach code c s) : inflight s = busy s ∧ busy s ≤ c.workerLimit :=
  C12_pool_le_n code (code_of_facts h) c hb hn s hr

theorem C12_unbounded_loop_never_waits_code (code : Code) (h : codeOfFacts = some code) (c : Cfg)
    (hb : c.blocking = false) (hn : c.workerLimit = 0) (s : St) (hr : Reach code c s) (hh : s.pc = .holding) :
    ∃ s', step code c s .spawn = some s' ∧ s'.pc = .idle :=
  let ⟨s', h1, h2, _⟩ := (C12_unbounded_loop_never_waits code (code_of_facts h) c hb hn s hr).2.1 hh
  ⟨s', h1, h2⟩

/-! ## non-vacuity and negative controls -/

/-- `C12_handoff_within_run` is not vacuous: a stale busy worker of run 0 beside a busy worker of run 1 is reachable
    for the code as it is -/
example : ∃ s, RReach RunsCode.std s ∧ executes s 0 0 0 ∧ executes s 1 0 1 :=
  ⟨{ runs := [{ cancelled := true, loopAlive := true, holding := false, workers := [.busy 0] },
              { cancelled := false, loopAlive := true, holding := false, workers := [.busy 1] }] },
   ⟨[.start 1, .fetch 0, .handoff 0 0 0, .cancel 0, .start 1, .fetch 1, .handoff 1 1 0], by decide +kernel⟩,
   ⟨_, rfl, rfl⟩, ⟨_, rfl, rfl⟩⟩

/-- blocking: one execution in flight is reachable (the bound 1 is attained) -/
example : ∃ s, Reach Code.std ⟨true, 4⟩ s ∧ inflight s = 1 :=
  ⟨_, ⟨1, [.fetch, .runInline], rfl⟩, by decide⟩

/-- pool with n = 3: three in flight, loop holding a fourth job and blocked -/
example : ∃ s, Reach Code.std ⟨false, 3⟩ s ∧ s.pc = .holding ∧ busy s = 3 :=
  ⟨_, ⟨4, [.fetch, .handoff 0, .fetch, .handoff 2, .fetch, .handoff 1, .fetch], rfl⟩, by decide⟩

/-- unbounded: a state with executions in flight, a held job and a due job is reachable -/
example : ∃ s, Reach Code.std ⟨false, 0⟩ s ∧ s.pc = .holding ∧ s.spawned = 2 ∧ 0 < s.pending :=
  ⟨_, ⟨4, [.fetch, .spawn, .fetch, .spawn, .fetch], rfl⟩, by decide⟩

/-- negative control (why capacity 0 is a fact the proof needs): with a buffered `dispatch` the loop is NOT
    blocked when all workers are busy -/
example : ∃ s, Reach { Code.std with dispatchCap := 1 } ⟨false, 1⟩ s ∧ s.pc = .holding ∧ busy s = 1 ∧
    (step { Code.std with dispatchCap := 1 } ⟨false, 1⟩ s .sendBuf).isSome = true :=
  ⟨_, ⟨2, [.fetch, .handoff 0, .fetch], rfl⟩, by decide⟩

/-- negative control (why the case order is a fact the proof needs): with the two cases swapped,
    BlockingExecution + WorkerLimit 2 reaches two executions in flight -/
example : ∃ s, Reach { Code.std with switch := [(.limitPos, .handoff), (.blockingSet, .inline), (.dflt, .spawn)],
                                       workersNotBlocking := false } ⟨true, 2⟩ s ∧ inflight s = 2 :=
  ⟨_, ⟨2, [.fetch, .handoff 0, .fetch, .handoff 1], rfl⟩, by decide⟩

end Pool
