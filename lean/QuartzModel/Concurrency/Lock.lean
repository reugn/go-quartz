/-! ops whose bodies run entirely under one mutex are linearizable in lock-acquisition
    order (used for C09 and C11). Bodies are multi-step: a list of micro-steps over (shared, local) state. -/
namespace Lock

variable {S L R : Type}

structure Op (S L R : Type) where
  init : L
  steps : List (S → L → S × L)
  result : L → R

def runSteps (steps : List (S → L → S × L)) (s : S) (l : L) : S × L :=
  steps.foldl (fun (p : S × L) f => f p.1 p.2) (s, l)

/-- sequential semantics of one op -/
def Op.run (o : Op S L R) (s : S) : S × R :=
  let p := runSteps o.steps s o.init
  (p.1, o.result p.2)

inductive TSt (S L R : Type)
  | pending
  | running (rest : List (S → L → S × L)) (l : L)
  | done (r : R)

structure Sys (S L R : Type) where
  shared : S
  holder : Option Nat
  th : Nat → TSt S L R
  order : List Nat          -- ghost: acquisition order (most recent last)

def upd (f : Nat → TSt S L R) (i : Nat) (v : TSt S L R) : Nat → TSt S L R :=
  fun j => if j = i then v else f j

/-- thread i takes a step if it can; otherwise the system is unchanged -/
def step (ops : Nat → Op S L R) (σ : Sys S L R) (i : Nat) : Sys S L R :=
  match σ.th i with
  | .pending =>
    match σ.holder with
    | none => { σ with holder := some i, th := upd σ.th i (.running (ops i).steps (ops i).init),
                       order := σ.order ++ [i] }
    | some _ => σ
  | .running [] l =>
    if σ.holder = some i then { σ with holder := none, th := upd σ.th i (.done ((ops i).result l)) }
    else σ
  | .running (f :: rest) l =>
    if σ.holder = some i then
      let p := f σ.shared l
      { σ with shared := p.1, th := upd σ.th i (.running rest p.2) }
    else σ
  | .done _ => σ

def exec (ops : Nat → Op S L R) (σ : Sys S L R) (sched : List Nat) : Sys S L R :=
  sched.foldl (step ops) σ

def init (s0 : S) : Sys S L R := { shared := s0, holder := none, th := fun _ => .pending, order := [] }

/-- the shared state after running the listed ops sequentially -/
def seqState (ops : Nat → Op S L R) (s0 : S) (order : List Nat) : S :=
  order.foldl (fun s i => ((ops i).run s).1) s0

/-- the result op i gets when the ops before it in `order` ran first -/
def seqResult (ops : Nat → Op S L R) (s0 : S) (pre : List Nat) (i : Nat) : R :=
  ((ops i).run (seqState ops s0 pre)).2

/-- invariant relating the interleaved system to the sequential execution in acquisition order:
only the holder runs, and what is left of its body finishes the sequential run of that body -/
structure Sim (ops : Nat → Op S L R) (s0 : S) (σ : Sys S L R) : Prop where
  free : σ.holder = none → σ.shared = seqState ops s0 σ.order
  running : ∀ j rest l, σ.th j = .running rest l → σ.holder = some j
  held : ∀ i, σ.holder = some i → ∃ pre rest l, σ.order = pre ++ [i] ∧ σ.th i = .running rest l ∧
      runSteps rest σ.shared l = runSteps (ops i).steps (seqState ops s0 pre) (ops i).init
  dones : ∀ i r, σ.th i = .done r → ∃ pre post, σ.order = pre ++ i :: post ∧ r = seqResult ops s0 pre i

theorem seqState_append (ops : Nat → Op S L R) (s0 : S) (pre : List Nat) (i : Nat) :
    seqState ops s0 (pre ++ [i]) = ((ops i).run (seqState ops s0 pre)).1 := by
  simp [seqState, List.foldl_append]

theorem sim_init (ops : Nat → Op S L R) (s0 : S) : Sim ops s0 (init s0) :=
  ⟨fun _ => rfl, (fun _ _ _ h => by cases h), (fun _ h => by cases h), (fun _ _ h => by cases h)⟩

theorem upd_same (f : Nat → TSt S L R) (i : Nat) (v : TSt S L R) : upd f i v i = v := if_pos rfl
theorem upd_cases {f : Nat → TSt S L R} {i k : Nat} {v w : TSt S L R} (h : upd f i v k = w) :
    (k = i ∧ v = w) ∨ (k ≠ i ∧ f k = w) := by
  unfold upd at h
  split at h
  · exact .inl ⟨‹_›, h⟩
  · exact .inr ⟨‹_›, h⟩

theorem sim_step (ops : Nat → Op S L R) (s0 : S) (σ : Sys S L R) (i : Nat) (hi : Sim ops s0 σ) :
    Sim ops s0 (step ops σ i) := by
  obtain ⟨hfree, hrun, hheld, hdones⟩ := hi
  unfold step
  cases hth : σ.th i with
  | pending =>
    simp only
    cases hh : σ.holder with
    | some _ => exact ⟨hfree, hrun, hheld, hdones⟩
    | none =>
      -- thread `i` takes the free lock
      refine ⟨(fun h => by cases h), fun j rest l hj => ?_, fun j hj => ?_, fun k r hk => ?_⟩
      · rcases upd_cases hj with ⟨rfl, _⟩ | ⟨_, hj⟩
        · rfl
        · have := hrun j rest l hj
          rw [hh] at this; cases this
      · cases hj
        exact ⟨σ.order, _, _, rfl, upd_same _ _ _, by rw [hfree hh]⟩
      · rcases upd_cases hk with ⟨_, hv⟩ | ⟨_, hk⟩
        · cases hv
        · obtain ⟨pre, post, ho, hr⟩ := hdones k r hk
          exact ⟨pre, post ++ [i], by simp [ho], hr⟩
  | done r => exact ⟨hfree, hrun, hheld, hdones⟩
  | running rest l =>
    by_cases hh : σ.holder = some i
    · obtain ⟨pre, rest', l', ho, hthi, hrest⟩ := hheld i hh
      rw [hth] at hthi
      cases hthi
      cases rest with
      | nil =>
        -- the body is finished: the lock is released and the result recorded
        simp only [hh, if_true]
        have hsl : (σ.shared, l) = runSteps (ops i).steps (seqState ops s0 pre) (ops i).init := hrest
        refine ⟨fun _ => ?_, fun j rest l hj => ?_, (fun j hj => by cases hj), fun k r hk => ?_⟩
        · show σ.shared = seqState ops s0 σ.order
          rw [ho, seqState_append]
          simp only [Op.run]
          rw [← hsl]
        · rcases upd_cases hj with ⟨_, hv⟩ | ⟨hne, hj⟩
          · cases hv
          · have := hrun j rest l hj
            rw [hh] at this
            exact absurd (Option.some.inj this).symm hne
        · rcases upd_cases hk with ⟨rfl, hv⟩ | ⟨_, hk⟩
          · cases hv
            refine ⟨pre, [], ho, ?_⟩
            simp only [seqResult, Op.run]
            rw [← hsl]
          · exact hdones k r hk
      | cons f rest =>
        -- one more statement of the body, under the lock
        simp only [hh, if_true]
        refine ⟨(fun h => by cases h), fun j rest' l' hj => ?_, fun j hj => ?_, fun k r hk => ?_⟩
        · rcases upd_cases hj with ⟨rfl, _⟩ | ⟨_, hj⟩
          · rfl
          · exact hh.symm.trans (hrun j _ _ hj)
        · cases hj
          exact ⟨pre, rest, _, ho, upd_same _ _ _, hrest⟩
        · rcases upd_cases hk with ⟨_, hv⟩ | ⟨_, hk⟩
          · cases hv
          · exact hdones k r hk
    · cases rest <;> simp only [hh, if_false] <;> exact ⟨hfree, hrun, hheld, hdones⟩

/-- core of the thread-safety of C09 and C11: under any schedule, every completed op returned what it
    returns in the sequential execution in lock-acquisition order, and when the lock is free the shared
    state is that execution's state. -/
theorem linearizable (ops : Nat → Op S L R) (s0 : S) (sched : List Nat) :
    let σ := exec ops (init s0) sched
    (σ.holder = none → σ.shared = seqState ops s0 σ.order) ∧
    (∀ i r, σ.th i = .done r → ∃ pre post, σ.order = pre ++ i :: post ∧ r = seqResult ops s0 pre i) := by
  intro σ
  have h : Sim ops s0 σ := List.foldlRecOn sched (step ops) (sim_init ops s0) fun σ h i _ => sim_step ops s0 σ i h
  exact ⟨h.free, h.dones⟩

end Lock
