import QuartzModel.Proofs.SchedLemmas
import QuartzModel.Theorems.C01
import QuartzModel.Theorems.C02
import QuartzModel.Theorems.C04
import QuartzModel.Theorems.C09
/-!
# Helper lemmas for the composition scheduler ∘ cron trigger (`Theorems/Compose.lean`)

Vocabulary (`NonnegClock`, `cronNext`, `chain`, `NoSkip`, `ExactlyFirst`, `lastOr`), the cron trigger as
a stateless `Trig`, and the history invariant of a registered cron job: its trigger object stays
`.cron f c`, every call on it is `⟨tag, pv, cronNext f c pv⟩` with `0 ≤ pv`, every active entry that
carries it has a non-negative fire time.
-/
namespace Sched
open Queue

/-- the clock reading the event carries (if it carries one) is not before the Unix epoch -/
def Ev.clockNonneg : Ev → Prop
  | .schedule now _ => 0 ≤ now
  | .resume now _ _ _ => 0 ≤ now
  | .step now => 0 ≤ now
  | _ => True

instance (ev : Ev) : Decidable ev.clockNonneg := by
  cases ev <;> unfold Ev.clockNonneg <;> infer_instance

/-- every clock reading of the history (`ScheduleJob`, `ResumeJob`, loop step) is `≥ 0` -/
def NonnegClock (evs : List Ev) : Prop := ∀ ev ∈ evs, ev.clockNonneg

instance (evs : List Ev) : Decidable (NonnegClock evs) :=
  inferInstanceAs (Decidable (∀ ev ∈ evs, ev.clockNonneg))

/-- `CronTrigger.NextFireTime(prev)` as the scheduler sees it: `none` = the trigger's error -/
def cronNext (f : Cron.Fields) (c prev : Int) : Option Int := (Trig.fire (.cron f c) prev).1

/-- the first `k` answers of the trigger when it is iterated from `prev`:
`r₁ = next(prev), r₂ = next(r₁), …` (shorter if the trigger expires on the way) -/
def chain (f : Cron.Fields) (c : Int) : Int → Nat → List Int
  | _, 0 => []
  | prev, k + 1 =>
    match cronNext f c prev with
    | some r => r :: chain f c r k
    | none => []

/-- `l` lists whole seconds after `prev` that satisfy the expression (civil reading at offset `c`), in
strictly increasing order, and no matching whole second lies strictly between `prev` and the first or
between two consecutive members.  (An inductive predicate rather than a recursive definition, so that
the elaborator never tries to evaluate it on a concrete history.) -/
inductive NoSkip (f : Cron.Fields) (c : Int) : Int → List Int → Prop
  | nil (prev : Int) : NoSkip f c prev []
  | cons {prev r : Int} {rest : List Int} :
      prev < r → r % 1000000000 = 0 →
      Cron.Matches f (Cal.Civil.ofSeconds (r / 1000000000 + c)) →
      (∀ u : Int, prev < u → u < r → u % 1000000000 = 0 →
        ¬ Cron.Matches f (Cal.Civil.ofSeconds (u / 1000000000 + c))) →
      NoSkip f c r rest → NoSkip f c prev (r :: rest)

/-- `l` is EXACTLY the list of the first `l.length` matching instants after `prev`, in increasing
order: increasing, all after `prev`, and a whole second `u` with `prev < u ≤ max l` is in `l` iff its
civil reading satisfies the expression -/
def ExactlyFirst (f : Cron.Fields) (c : Int) (prev : Int) (l : List Int) : Prop :=
  l.Pairwise (· < ·) ∧ (∀ r ∈ l, prev < r) ∧
  ∀ u : Int, u % 1000000000 = 0 → prev < u → (∃ r ∈ l, u ≤ r) →
    (u ∈ l ↔ Cron.Matches f (Cal.Civil.ofSeconds (u / 1000000000 + c)))

/-- last member of `l`, `d` if there is none -/
def lastOr (d : Int) (l : List Int) : Int := l.getLast?.getD d

/-- Bool-valued checker for `NeverOutdated` (concrete histories) -/
def neverOutdatedB (t : Nat) (obs : List Obs) : Bool :=
  obs.all fun o =>
    match o.out with
    | some out =>
      match out.popped with
      | some e => !(e.tag == t && out.cls == some .outdated)
      | none => true
    | none => true

/-- Bool-valued checker for `OnlySteps` -/
def onlyStepsB (evs : List Ev) : Bool :=
  evs.all fun ev => match ev with | .step _ => true | _ => false

theorem neverOutdatedB_sound (t : Nat) (obs : List Obs) (h : neverOutdatedB t obs = true) :
    NeverOutdated t obs := by
  intro o ho out e hout hpop het hcls
  have := (List.all_eq_true.mp h) o ho
  simp only [hout, hpop, het, hcls, beq_self_eq_true, Bool.and_self, Bool.not_true] at this
  cases this

theorem onlyStepsB_sound (evs : List Ev) (h : onlyStepsB evs = true) : OnlySteps evs := by
  intro ev hev
  have := (List.all_eq_true.mp h) ev hev
  cases ev with
  | step now => exact ⟨now, rfl⟩
  | _ => cases this

@[simp] theorem lastOr_nil (d : Int) : lastOr d [] = d := rfl

theorem lastOr_cons (d a : Int) (l : List Int) : lastOr d (a :: l) = lastOr a l := by
  simp [lastOr, List.getLast?_cons]

theorem cron_fire_eq (f : Cron.Fields) (c prev : Int) :
    Trig.fire (.cron f c) prev = (cronNext f c prev, .cron f c) := by
  unfold cronNext
  simp only [Trig.fire]
  split <;> rfl

theorem cronNext_some_iff (f : Cron.Fields) (c prev r : Int) :
    cronNext f c prev = some r ↔ Cron.nextFire {} f (Cron.fixedZone c) prev = .ok r := by
  unfold cronNext
  simp only [Trig.fire]
  cases h : Cron.nextFire {} f (Cron.fixedZone c) prev <;> simp

/-- C01 for the trigger object -/
theorem cronNext_sound (f : Cron.Fields) (hwf : Cron.WellFormed f = true) (c prev : Int)
    (hc : -100000 ≤ c ∧ c ≤ 100000) (hp : -9223372036854775808 ≤ prev) (r : Int) (h : cronNext f c prev = some r) :
    r % 1000000000 = 0 ∧ prev < r ∧ Cron.Matches f (Cal.Civil.ofSeconds (r / 1000000000 + c)) :=
  Cron.C01_sound f hwf c prev hc hp r ((cronNext_some_iff f c prev r).mp h)

/-- C02 (minimality) for the trigger object -/
theorem cronNext_minimal (f : Cron.Fields) (hwf : Cron.WellFormed f = true) (c prev : Int)
    (hc : -100000 ≤ c ∧ c ≤ 100000) (hp : -9223372036854775808 ≤ prev) (r : Int) (h : cronNext f c prev = some r) :
    ∀ u : Int, prev < u → u < r → u % 1000000000 = 0 →
      ¬ Cron.Matches f (Cal.Civil.ofSeconds (u / 1000000000 + c)) :=
  Cron.C02_minimal f hwf c prev hc hp r ((cronNext_some_iff f c prev r).mp h)

/-- C02 (expiry) for the trigger object: the error answer means that no matching instant is left -/
theorem cronNext_none_iff_no_match (f : Cron.Fields) (hwf : Cron.WellFormed f = true) (c prev : Int)
    (hc : -100000 ≤ c ∧ c ≤ 100000) (hp : -9223372036854775808 ≤ prev) :
    cronNext f c prev = none ↔
      ¬ ∃ u : Int, prev < u ∧ u % 1000000000 = 0 ∧
        Cron.Matches f (Cal.Civil.ofSeconds (u / 1000000000 + c)) := by
  rw [← Cron.C02_expired_iff f hwf c prev hc hp]
  -- on a fixed-offset location the trigger's error is "expired", never "out of fuel"
  obtain ⟨nw, _, hnf⟩ := Cron.nextFire_fixed f hwf c prev hc hp
  unfold cronNext
  simp only [Trig.fire]
  rw [hnf]
  cases nw <;> simp

@[simp] theorem chain_zero (f : Cron.Fields) (c prev : Int) : chain f c prev 0 = [] := rfl

theorem chain_succ_some (f : Cron.Fields) (c prev r : Int) (k : Nat) (h : cronNext f c prev = some r) :
    chain f c prev (k + 1) = r :: chain f c r k := by
  simp only [chain, h]

theorem chain_succ_none (f : Cron.Fields) (c prev : Int) (k : Nat) (h : cronNext f c prev = none) :
    chain f c prev (k + 1) = [] := by
  simp only [chain, h]

/-- C01 + C02 along the chain -/
theorem chain_noSkip (f : Cron.Fields) (hwf : Cron.WellFormed f = true) (c : Int)
    (hc : -100000 ≤ c ∧ c ≤ 100000) (k : Nat) :
    ∀ prev : Int, -9223372036854775808 ≤ prev → NoSkip f c prev (chain f c prev k) := by
  induction k with
  | zero => intro prev _; exact .nil prev
  | succ k ih =>
    intro prev hp
    cases h : cronNext f c prev with
    | none => rw [chain_succ_none f c prev k h]; exact .nil prev
    | some r =>
      rw [chain_succ_some f c prev r k h]
      obtain ⟨h1, h2, h3⟩ := cronNext_sound f hwf c prev hc hp r h
      exact .cons h2 h1 h3 (cronNext_minimal f hwf c prev hc hp r h) (ih r (by omega))

/-- "no gap between consecutive members" is the same as "exactly the first matching instants" -/
theorem noSkip_exactlyFirst (f : Cron.Fields) (c : Int) (l : List Int) :
    ∀ prev : Int, NoSkip f c prev l → ExactlyFirst f c prev l := by
  induction l with
  | nil =>
    intro prev _
    exact ⟨List.Pairwise.nil, (fun r hr => by cases hr), fun u _ _ ⟨r, hr, _⟩ => by cases hr⟩
  | cons r rest ih =>
    intro prev h
    cases h with
    | cons h1 h2 h3 h4 h5 =>
      obtain ⟨i1, i2, i3⟩ := ih r h5
      refine ⟨List.pairwise_cons.mpr ⟨i2, i1⟩,
        List.forall_mem_cons.mpr ⟨h1, fun r' hr' => Int.lt_trans h1 (i2 r' hr')⟩, ?_⟩
      intro u hu hpu ⟨r', hr', hur'⟩
      rcases Int.lt_trichotomy u r with hlt | rfl | hgt
      · refine iff_of_false (fun hmem => ?_) (h4 u hpu hlt hu)
        rcases List.mem_cons.mp hmem with rfl | hmem
        · exact Int.lt_irrefl _ hlt
        · exact Int.lt_asymm hlt (i2 u hmem)
      · exact iff_of_true List.mem_cons_self h3
      · have hex : ∃ r'' ∈ rest, u ≤ r'' := by
          rcases List.mem_cons.mp hr' with rfl | hr'
          · exact absurd hur' (Int.not_le.mpr hgt)
          · exact ⟨r', hr', hur'⟩
        rw [← i3 u hu hgt hex, List.mem_cons]
        exact or_iff_right (Int.ne_of_gt hgt)

/-- the invariant of a registered cron job with trigger object `t`: the stored trigger is `.cron f c`
and every active entry that carries it has a fire time `≥ 0` -/
structure CronInv (t : Nat) (f : Cron.Fields) (c : Int) (s : SState) : Prop where
  trig : s.trig t = .cron f c
  prio : ∀ x ∈ s.q.toList, x.tag = t → x.suspended = false → 0 ≤ x.prio

theorem kind_cron {thr : Int} {s s' : SState} {ev : Ev} {o : Obs} (hwf : WF s)
    (hk : Kind thr s ev s' o) (t : Nat) (f : Cron.Fields) (hwff : Cron.WellFormed f = true) (c : Int)
    (hc : -100000 ≤ c ∧ c ≤ 100000) (hns : ev.schedTag? ≠ some t) (hclk : ev.clockNonneg)
    (hI : CronInv t f c s) :
    CronInv t f c s' ∧
      ∀ cl ∈ o.calls, cl.tag = t → 0 ≤ cl.prev ∧ cl.result = cronNext f c cl.prev := by
  have hcalls : ∀ cl ∈ o.calls, cl.tag = t →
      0 ≤ cl.prev ∧ cl.result = cronNext f c cl.prev ∧ s'.trig t = .cron f c := by
    intro cl hcl hct
    rcases (kind_log hk).calls cl hcl with hst | ⟨e, he, het, hres, htr', hev⟩
    · exact absurd (by rw [hst, hct]) hns
    · -- the argument is the clock reading of the event, or the fire time of the active entry being dispatched
      have hprev : 0 ≤ cl.prev := by
        rcases hev with ⟨_, rfl⟩ | ⟨now, rfl, ha⟩
        · exact hclk
        · obtain ⟨hs, ⟨_, hpv, _⟩ | ⟨_, hpv, _⟩⟩ := askedWith_some_active ha
          · rw [hpv]; exact hI.prio e he (by rw [het, hct]) hs
          · rw [hpv]; exact hclk
      rw [het, hct, hI.trig, cron_fire_eq] at hres htr'
      exact ⟨hprev, hres, htr'⟩
  refine ⟨⟨?_, ?_⟩, fun cl hcl hct => ⟨(hcalls cl hcl hct).1, (hcalls cl hcl hct).2.1⟩⟩
  · by_cases hex : ∃ cl ∈ o.calls, cl.tag = t
    · obtain ⟨cl, hcl, hct⟩ := hex
      exact (hcalls cl hcl hct).2.2
    · rw [(kind_log hk).frame t (fun cl hcl hct => hex ⟨cl, hcl, hct⟩) hns]; exact hI.trig
  · intro x hx hxt hxs
    rcases kind_active hwf hk x hx hxs with ⟨pv, hcl⟩ | ⟨h1, _⟩
    · obtain ⟨(h0 : 0 ≤ pv), hres, _⟩ := hcalls _ hcl hxt
      have := (cronNext_sound f hwff c pv hc (by omega) x.prio hres.symm).2.1
      omega
    · exact hI.prio x h1 hxt hxs

/-- **the history invariant**: as long as the trigger object `t` is not handed to another
`ScheduleJob`, it stays `.cron f c` and every call on it has a non-negative argument and the answer
of `CronTrigger.NextFireTime` -/
theorem run_cron (thr : Int) (t : Nat) (f : Cron.Fields) (hwff : Cron.WellFormed f = true) (c : Int)
    (hc : -100000 ≤ c ∧ c ≤ 100000) (evs : List Ev) (s : SState) (hwf : WF s) (hft : FreshTags evs)
    (hff : FreshFor s evs) (hns : t ∉ schedTags evs) (hclk : NonnegClock evs) (hI : CronInv t f c s) :
    CronInv t f c (run thr s evs).1 ∧
      ∀ cl ∈ callLog (run thr s evs).2, cl.tag = t → 0 ≤ cl.prev ∧ cl.result = cronNext f c cl.prev := by
  obtain ⟨_, h1, h2⟩ := run_fresh_induct thr (I := CronInv t f c) (A := fun ev => ev.schedTag? ≠ some t ∧ ev.clockNonneg)
    (R := fun o => ∀ cl ∈ o.calls, cl.tag = t → 0 ≤ cl.prev ∧ cl.result = cronNext f c cl.prev)
    (fun hwf _ hk hA hI => kind_cron hwf hk t f hwff c hc hA.1 hA.2 hI) evs s hwf hft hff
    (fun ev hev => ⟨not_mem_schedTags.mp hns ev hev, hclk ev hev⟩) hI
  refine ⟨h1, fun cl hcl => ?_⟩
  obtain ⟨o, ho, hco⟩ := List.mem_flatMap.mp hcl
  exact h2 o ho cl hco

theorem schedule_calls (s : SState) (now : Int) (a : SchedArgs) :
    ∀ cl ∈ (schedule s now a).2.2, ∃ t, a.trig = some t ∧ cl = ⟨a.tag, now, (t.fire now).1⟩ := by
  intro cl hcl
  rcases schedule_cases s now a with ⟨_, hs⟩ | ⟨_, ⟨_, t, ht, hf⟩, hs⟩ | ⟨_, _, t, p, t', calls, ht, hpc, hq⟩
  · rw [hs] at hcl; cases hcl
  · rw [hs, List.mem_singleton] at hcl
    exact ⟨t, ht, by rw [hcl, hf]⟩
  · have hcalls : (schedule s now a).2.2 = calls := by
      rcases hq with ⟨e, _, hs⟩ | ⟨q', _, hs⟩ <;> rw [hs]
    rw [hcalls] at hcl
    rcases hpc with ⟨_, _, _, h4⟩ | ⟨_, hf, _, h4⟩
    · rw [h4] at hcl; cases hcl
    · rw [h4, List.mem_singleton] at hcl
      exact ⟨t, ht, by rw [hcl, hf]⟩

/-- a successful `ScheduleJob`, written as the triple the theorems take -/
theorem schedule_ok_eta (s : SState) (now : Int) (a : SchedArgs) (h : (schedule s now a).2.1 = none) :
    schedule s now a = ((schedule s now a).1, none, (schedule s now a).2.2) := by
  rw [← h]

theorem schedule_cron (s : SState) (hwf : WF s) (now : Int) (a : SchedArgs)
    (f : Cron.Fields) (c : Int) (ha : a.trig = some (.cron f c)) (hfresh : AbsentTag a.tag s)
    (hok : (schedule s now a).2.1 = none) :
    WF (schedule s now a).1 ∧ (schedule s now a).1.trig a.tag = .cron f c ∧
      ∃ p, a.entry p ∈ (schedule s now a).1.q.toList ∧ (a.suspended = false → cronNext f c now = some p) := by
  have hwf' := schedule_wf hwf now a hfresh
  obtain ⟨t, p, ht, _, hcs, hmem, _⟩ := schedule_ok_facts s now a hwf.inv hok
  rw [ha] at ht
  cases ht
  rcases hcs with ⟨hsu, _, htr, _⟩ | ⟨_, hp, htr, _⟩
  · exact ⟨hwf', htr, p, hmem, fun h => by rw [hsu] at h; cases h⟩
  · exact ⟨hwf', by rw [htr, cron_fire_eq], p, hmem, fun _ => hp⟩

theorem schedule_cronInv (s : SState) (hwf : WF s) (now : Int) (h0 : 0 ≤ now) (a : SchedArgs)
    (f : Cron.Fields) (hwff : Cron.WellFormed f = true) (c : Int) (hc : -100000 ≤ c ∧ c ≤ 100000)
    (ha : a.trig = some (.cron f c)) (hfresh : AbsentTag a.tag s)
    (hok : (schedule s now a).2.1 = none) :
    WF (schedule s now a).1 ∧ CronInv a.tag f c (schedule s now a).1 := by
  obtain ⟨hwf', htr, p, hmem, hp⟩ := schedule_cron s hwf now a f c ha hfresh hok
  refine ⟨hwf', htr, fun x hx hxt hxs => ?_⟩
  rw [hwf'.tags x hx _ hmem hxt] at hxs ⊢
  have := (cronNext_sound f hwff c now hc (by omega) p (hp hxs)).2.1
  show 0 ≤ p
  omega

theorem fresh_schedule_split {evs1 evs2 : List Ev} {now0 : Int} {a : SchedArgs}
    (hft : FreshTags (evs1 ++ .schedule now0 a :: evs2)) : a.tag ∉ schedTags evs1 ∧ a.tag ∉ schedTags evs2 := by
  unfold FreshTags at hft
  rw [schedTags_append, schedTags_cons] at hft
  exact ⟨fun hh => (List.nodup_append.mp hft).2.2 a.tag hh a.tag List.mem_cons_self rfl,
    (List.nodup_cons.mp (List.nodup_append.mp hft).2.1).1⟩

/-- **calls on a cron job's trigger, whole histories from the empty scheduler**: every call on the
trigger object a `ScheduleJob` event of the history brought with `.cron f c` has an argument `≥ 0` and
the answer of `CronTrigger.NextFireTime` -/
theorem cron_calls (thr : Int) (evs : List Ev) (hft : FreshTags evs) (hclk : NonnegClock evs)
    (now0 : Int) (a : SchedArgs) (f : Cron.Fields) (c : Int) (hsch : Ev.schedule now0 a ∈ evs)
    (ha : a.trig = some (.cron f c)) (hwff : Cron.WellFormed f = true)
    (hc : -100000 ≤ c ∧ c ≤ 100000) :
    ∀ cl ∈ callLog (run thr {} evs).2, cl.tag = a.tag →
      0 ≤ cl.prev ∧ cl.result = cronNext f c cl.prev := by
  obtain ⟨evs1, evs2, rfl⟩ := List.append_of_mem hsch
  obtain ⟨hwf0, habs0, hft2, hff2⟩ := C04_hyps_reachable thr evs1 now0 a evs2 hft
  obtain ⟨hns1, hns2⟩ := fresh_schedule_split hft
  have hc2 : 0 ≤ now0 := hclk (.schedule now0 a) (by simp)
  have hc3 : NonnegClock evs2 := fun ev h => hclk ev (by simp [h])
  have hq1 := (run_absent thr a.tag evs1 {} wf0_empty (fun e he => by simp at he) hns1).2
  intro cl hcl hct
  rw [run_append, run_cons] at hcl
  simp only [callLog_append, callLog_cons, List.mem_append] at hcl
  generalize hs0 : (run thr {} evs1).1 = s0 at *
  rcases hcl with hcl | hcl | hcl
  · exact absurd hct ((quiet_nothing a.tag _ hq1).2.2 cl hcl)
  · obtain ⟨t, ht, hcle⟩ := schedule_calls s0 now0 a cl hcl
    rw [ha] at ht
    cases ht
    rw [hcle]
    exact ⟨hc2, rfl⟩
  · cases herr : (schedule s0 now0 a).2.1 with
    | none =>
      obtain ⟨hwf1, hI1⟩ := schedule_cronInv s0 hwf0 now0 hc2 a f hwff c hc ha habs0 herr
      exact (run_cron thr a.tag f hwff c hc evs2 _ hwf1 hft2 hff2 hns2 hc3 hI1).2 cl hcl hct
    | some err =>
      have hst : (apply thr s0 (.schedule now0 a)).1 = s0 :=
        C09_schedule_error_state_unchanged s0 now0 a (by rw [herr]; exact fun hh => by cases hh)
      rw [hst] at hcl
      have hq2 := (run_absent thr a.tag evs2 s0 hwf0.wf0 habs0 hns2).2
      exact absurd hct ((quiet_nothing a.tag _ hq2).2.2 cl hcl)

/-- `fetchAndReschedule` pops the due, active entry `e` of a cron job: its trigger is asked once, with the scheduled
fire time `e.prio` if the loop is at most `thr` late and with the clock reading otherwise; the entry goes back with
the answer, if there is one; it is handed to a worker in the first case and reported as misfired in the second -/
theorem cron_step_asked (s : SState) (now thr : Int) (h : Inv s.q) (e : Entry) (f : Cron.Fields) (c : Int)
    (hp : (step s now thr).2.popped = some e) (hs : e.suspended = false)
    (htr : s.trig e.tag = .cron f c) (hdue : e.prio ≤ now) :
    (step s now thr).2.calls = [⟨e.tag, if now - thr ≤ e.prio then e.prio else now,
      cronNext f c (if now - thr ≤ e.prio then e.prio else now)⟩] ∧
    (step s now thr).2.pushed = (cronNext f c (if now - thr ≤ e.prio then e.prio else now)).map
      (fun p => ({ e with prio := p } : Entry)) ∧
    (now - thr ≤ e.prio → (step s now thr).2.dispatched = true) ∧
    (e.prio < now - thr → (step s now thr).2.misfired = true) := by
  rcases (C04_accounted s now thr h e hp hs).2 with ⟨_, hd, _, hlo, _, r, hr, hcs, hpu, _⟩ |
    ⟨_, _, hm, hlate, r, hr, hcs, hpu, _⟩ | ⟨_, _, _, hearly, _⟩
  · rw [htr, cron_fire_eq] at hr
    rw [if_pos hlo, hcs, hpu, hr]
    exact ⟨rfl, rfl, fun _ => hd, fun hl => by omega⟩
  · rw [htr, cron_fire_eq] at hr
    rw [if_neg (by omega), hcs, hpu, hr]
    exact ⟨rfl, rfl, fun hl => by omega, fun _ => hm⟩
  · omega

/-- the induction behind `cron_job_no_skip_while_on_time`: the job of entry `x` is registered with the trigger's
answer for `pv` as its fire time, or is gone if there is none; the same holds after the run, of the last
dispatched fire time -/
theorem cron_drift_aux (thr : Int) (f : Cron.Fields) (c : Int) (x : Entry) (evs : List Ev) :
    ∀ (s : SState) (pv : Int), WF s →
      ((∃ p, cronNext f c pv = some p ∧ ({ x with prio := p } : Entry) ∈ s.q.toList ∧ s.trig x.tag = .cron f c) ∨
        (cronNext f c pv = none ∧ AbsentTag x.tag s)) →
      OnlySteps evs → NeverOutdated x.tag (run thr s evs).2 →
      ∃ k : Nat,
        dispatchTimes x.tag (run thr s evs).2 = chain f c pv k ∧ (chain f c pv k).length = k ∧
        (callLog (run thr s evs).2).filter (fun cl => cl.tag == x.tag) =
          (chain f c pv k).map (fun p => (⟨x.tag, p, cronNext f c p⟩ : TrigCall)) ∧
        ((∃ r, cronNext f c (lastOr pv (chain f c pv k)) = some r ∧
            ({ x with prio := r } : Entry) ∈ (run thr s evs).1.q.toList ∧ (run thr s evs).1.trig x.tag = .cron f c) ∨
          (cronNext f c (lastOr pv (chain f c pv k)) = none ∧ AbsentTag x.tag (run thr s evs).1)) := by
  induction evs with
  | nil => exact fun s pv _ h _ _ => ⟨0, rfl, rfl, rfl, h⟩
  | cons ev evs ih =>
    intro s pv hwf h hos hno
    rcases h with ⟨p, hpv, hx, htr⟩ | ⟨hpv, habs⟩
    · obtain ⟨now, rfl⟩ := hos _ List.mem_cons_self
      have hwf' := kind_wf hwf (fun t ht => by cases ht) (apply_kind thr s hwf.wf0 (.step now))
      rw [run_cons] at hno ⊢
      have hno2 : NeverOutdated x.tag (run thr (apply thr s (.step now)).1 evs).2 :=
        fun o ho => hno o (List.mem_cons_of_mem _ ho)
      have hos2 : OnlySteps evs := fun ev hev => hos ev (List.mem_cons_of_mem _ hev)
      rcases stateless_drift_step hwf (step_kind thr s hwf.wf0 now) _ hx _ htr _ (cron_fire_eq f c p)
          (hno _ List.mem_cons_self) with ⟨h1, h2, h3, h4⟩ | ⟨_, h1, h2, hnext⟩
      · -- not dispatched
        obtain ⟨k, i1, i2, i3, i4⟩ := ih _ pv hwf' (.inl ⟨p, hpv, h3, h4⟩) hos2 hno2
        refine ⟨k, ?_, i2, ?_, i4⟩
        · rw [dispatchTimes_cons, h1]; exact i1
        · rw [callLog_cons, List.filter_append, i3, filter_tag_eq_nil h2]; rfl
      · -- dispatched for `p`, the trigger asked with `p`: from here the job goes on from `p` as it did from `pv`
        obtain ⟨k, i1, i2, i3, i4⟩ := ih _ p hwf' hnext hos2 hno2
        have hch : chain f c pv (k + 1) = p :: chain f c p k := chain_succ_some f c pv _ k hpv
        refine ⟨k + 1, ?_, ?_, ?_, ?_⟩
        · rw [dispatchTimes_cons, h1, hch]
          show p :: dispatchTimes x.tag _ = _
          rw [i1]
        · rw [hch, List.length_cons, i2]
        · rw [callLog_cons, List.filter_append, h2, hch, List.map_cons, i3]
          simp
        · rw [hch, lastOr_cons]; exact i4
    · -- the job is gone: nothing of it in the rest of the run
      obtain ⟨habs', hq⟩ := run_absent thr x.tag (ev :: evs) s hwf.wf0 habs
        (by rw [onlySteps_schedTags hos]; exact List.not_mem_nil)
      obtain ⟨q1, q2, _⟩ := quiet_nothing x.tag _ hq
      exact ⟨0, q1, rfl, q2, .inr ⟨hpv, habs'⟩⟩
end Sched
