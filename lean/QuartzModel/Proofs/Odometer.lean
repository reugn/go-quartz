import QuartzModel.Odometer
/-!
# Odometer theory

`findForward_spec`: for levels meeting the four-line contract `LvlOK`, the Go-shaped search returns
the lexicographically least all-valid configuration strictly above the start, or `exhausted` iff
none exists. `loop_fuel`: with digit bounds and a measure, the loop never runs out of fuel.
-/
namespace Odo

variable (L : Nat → Lvl)

@[simp] theorem set_same (c : Cfg) (k v : Nat) : set c k v k = v := by simp [set]
theorem set_ne (c : Cfg) (k v j : Nat) (h : j ≠ k) : set c k v j = c j := by simp [set, h]

theorem forall_lt_six {P : Nat → Prop} : (∀ k, k < 6 → P k) ↔ P 0 ∧ P 1 ∧ P 2 ∧ P 3 ∧ P 4 ∧ P 5 := by
  constructor
  · exact fun h => ⟨h 0 (by omega), h 1 (by omega), h 2 (by omega), h 3 (by omega), h 4 (by omega), h 5 (by omega)⟩
  · rintro ⟨h0, h1, h2, h3, h4, h5⟩ k hk
    have : k = 0 ∨ k = 1 ∨ k = 2 ∨ k = 3 ∨ k = 4 ∨ k = 5 := by omega
    rcases this with rfl | rfl | rfl | rfl | rfl | rfl <;> assumption

/-- agreement above level k -/
def AgreeAbove (n k : Nat) (c c' : Cfg) : Prop := ∀ j, k < j → j < n → c j = c' j

structure LvlOK (n k : Nat) (l : Lvl) : Prop where
  ext_valid : ∀ c c' v, AgreeAbove n k c c' → (l.valid c v ↔ l.valid c' v)
  next_ok : ∀ c v, (l.next c v).2 = false →
      l.valid c (l.next c v).1 ∧ v < (l.next c v).1 ∧ ∀ u, l.valid c u → v < u → (l.next c v).1 ≤ u
  next_ovf : ∀ c v, (l.next c v).2 = true → ∀ u, l.valid c u → u ≤ v
  rst_ok : ∀ c, (∃ u, l.valid c u) → l.valid c (l.rst c) ∧ ∀ u, l.valid c u → l.rst c ≤ u

/-- lexicographic order on the lowest n levels, most significant = n-1 -/
def Lt (n : Nat) (a b : Cfg) : Prop := ∃ k, k < n ∧ a k < b k ∧ ∀ j, k < j → j < n → a j = b j
def Le (n : Nat) (a b : Cfg) : Prop := Lt n a b ∨ ∀ j, j < n → a j = b j

def AllValid (n : Nat) (c : Cfg) : Prop := ∀ k, k < n → (L k).valid c (c k)

theorem not_Lt_zero (a b : Cfg) : ¬ Lt 0 a b := fun ⟨_, hk, _⟩ => Nat.not_lt_zero _ hk

/-- decided at the top level, or equal there and decided below -/
theorem Lt_succ_iff (n : Nat) (a b : Cfg) :
    Lt (n + 1) a b ↔ a n < b n ∨ (a n = b n ∧ Lt n a b) := by
  constructor
  · rintro ⟨k, hk, hlt, hag⟩
    by_cases hkn : k = n
    · subst hkn; exact Or.inl hlt
    · exact Or.inr ⟨hag n (by omega) (by omega), k, by omega, hlt, fun j h1 h2 => hag j h1 (by omega)⟩
  · rintro (h | ⟨he, k, hk, hlt, hag⟩)
    · exact ⟨n, by omega, h, fun j h1 h2 => by omega⟩
    · refine ⟨k, by omega, hlt, fun j h1 h2 => ?_⟩
      by_cases hjn : j = n
      · subst hjn; exact he
      · exact hag j h1 (by omega)

theorem Lt6_iff (a b : Cfg) :
    Lt 6 a b ↔
      a 5 < b 5 ∨ (a 5 = b 5 ∧ (a 4 < b 4 ∨ (a 4 = b 4 ∧ (a 3 < b 3 ∨ (a 3 = b 3 ∧
      (a 2 < b 2 ∨ (a 2 = b 2 ∧ (a 1 < b 1 ∨ (a 1 = b 1 ∧ a 0 < b 0))))))))) := by
  simp only [Lt_succ_iff, not_Lt_zero, and_false, or_false]

theorem Lt_irrefl (n : Nat) (a : Cfg) : ¬ Lt n a a := fun ⟨_, _, h, _⟩ => Nat.lt_irrefl _ h

theorem Lt_trans (n : Nat) (a b c : Cfg) (h1 : Lt n a b) (h2 : Lt n b c) : Lt n a c := by
  induction n with
  | zero => exact absurd h1 (not_Lt_zero a b)
  | succ n ih =>
    rw [Lt_succ_iff] at *
    rcases h1 with h1 | ⟨e1, h1⟩ <;> rcases h2 with h2 | ⟨e2, h2⟩
    · exact Or.inl (Nat.lt_trans h1 h2)
    · exact Or.inl (e2 ▸ h1)
    · exact Or.inl (e1 ▸ h2)
    · exact Or.inr ⟨e1.trans e2, ih h1 h2⟩

theorem Lt_of_Lt_of_Le (n : Nat) (a b c : Cfg) (h1 : Lt n a b) (h2 : Le n b c) : Lt n a c := by
  rcases h2 with h2 | h2
  · exact Lt_trans n a b c h1 h2
  · obtain ⟨i, hi, hlt, hag⟩ := h1
    refine ⟨i, hi, by rw [← h2 i hi]; exact hlt, ?_⟩
    intro k hk hkn; rw [← h2 k hkn]; exact hag k hk hkn

theorem Lt_of_Le_of_Lt (n : Nat) (a b c : Cfg) (h1 : Le n a b) (h2 : Lt n b c) : Lt n a c := by
  rcases h1 with h1 | h1
  · exact Lt_trans n a b c h1 h2
  · obtain ⟨i, hi, hlt, hag⟩ := h2
    refine ⟨i, hi, by rw [h1 i hi]; exact hlt, ?_⟩
    intro k hk hkn; rw [h1 k hkn]; exact hag k hk hkn

theorem resetFrom_above (k : Nat) (c : Cfg) : ∀ j, k ≤ j → resetFrom L k c j = c j := by
  induction k generalizing c with
  | zero => intro j _; rfl
  | succ k ih =>
    intro j hj
    simp only [resetFrom]
    rw [ih _ j (by omega), set_ne _ _ _ _ (by omega)]

/-- after `resetFrom k` the configuration is ≤ every configuration that agrees with it at the levels
`≥ k` and is valid on all levels `< k` -/
theorem resetFrom_least (n : Nat) (hL : ∀ k, LvlOK n k (L k)) (k : Nat) (c u : Cfg)
    (hag : ∀ j, k ≤ j → j < n → u j = c j)
    (hv : ∀ i, i < k → (L i).valid u (u i)) :
    Le n (resetFrom L k c) u := by
  induction k generalizing c with
  | zero => exact Or.inr fun j hj => (hag j (Nat.zero_le _) hj).symm
  | succ k ih =>
    simp only [resetFrom]
    by_cases hkn : k < n
    · -- the contexts of `u` and `c` agree above `k`, so `u k` is valid for `c` and `rst ≤ u k`
      have hvk : (L k).valid c (u k) :=
        ((hL k).ext_valid u c (u k) (fun j hj hjn => hag j (by omega) hjn)).mp (hv k (by omega))
      have hle : (L k).rst c ≤ u k := ((hL k).rst_ok c ⟨u k, hvk⟩).2 _ hvk
      by_cases heq : (L k).rst c = u k
      · refine ih _ (fun j hj hjn => ?_) (fun i hi => hv i (by omega))
        by_cases hjk : j = k
        · subst hjk; rw [set_same, heq]
        · rw [set_ne _ _ _ _ hjk]; exact hag j (by omega) hjn
      · refine Or.inl ⟨k, hkn, ?_, fun j hkj hj => ?_⟩
        · rw [resetFrom_above L _ _ _ (Nat.le_refl _), set_same]; omega
        · rw [resetFrom_above L _ _ _ (by omega), set_ne _ _ _ _ (by omega)]
          exact (hag j (by omega) hj).symm
    · exact ih _ (fun j hj hjn => by omega) (fun i hi => hv i (by omega))

/-- `u` is strictly greater than `c`, first differing at some level `≥ k` -/
def LtAbove (n k : Nat) (c u : Cfg) : Prop :=
  ∃ i, k ≤ i ∧ i < n ∧ c i < u i ∧ ∀ j, i < j → j < n → c j = u j

theorem LtAbove_Lt (n k : Nat) (c u : Cfg) (h : LtAbove n k c u) : Lt n c u := by
  obtain ⟨i, _, h2, h3, h4⟩ := h
  exact ⟨i, h2, h3, h4⟩

/-- no all-valid configuration lies above `p` -/
def Exhausted (n : Nat) (p : Cfg) : Prop := ∀ u, AllValid L n u → Lt n p u → False

/-- the invariant of the carry chain at level `k`, searching from `p` with the cursor at `c`: every all-valid
successor of `p` is strictly above `c`, first differing from it at a level `≥ k` -/
def Inv (n k : Nat) (p c : Cfg) : Prop :=
  ∀ u, AllValid L n u → Lt n p u → LtAbove n k c u

/-- the cursor `c` has skipped nothing: it is a lower bound of the all-valid successors of `p` -/
def LB (n : Nat) (p c : Cfg) : Prop := ∀ u, AllValid L n u → Lt n p u → Le n c u

/-- a level that overflows holds no valid digit above the current one: the successors differ higher up,
also from any `d` that agrees with `c` above the level -/
theorem Inv_step (n : Nat) (hL : ∀ k, LvlOK n k (L k)) (p c d : Cfg) (k : Nat)
    (hd : ∀ j, k < j → j < n → d j = c j)
    (hinv : Inv L n k p c) (hov : ((L k).next c (c k)).2 = true) :
    Inv L n (k+1) p d := by
  intro u hu hpu
  obtain ⟨i, h1, h2, h3, h4⟩ := hinv u hu hpu
  by_cases hik : i = k
  · subst hik
    have hv : (L i).valid c (u i) :=
      ((hL i).ext_valid u c (u i) (fun j hj hjn => (h4 j hj hjn).symm)).mp (hu i h2)
    have := (hL i).next_ovf c (c i) hov (u i) hv
    omega
  · refine ⟨i, by omega, h2, ?_, ?_⟩
    · rw [hd i (by omega) h2]; exact h3
    · intro j hj hjn; rw [hd j (by omega) hjn]; exact h4 j hj hjn

theorem LtAbove_of_agree (n k : Nat) (c d u : Cfg) (hd : ∀ j, k < j → j < n → d j = c j)
    (h : LtAbove n (k+1) d u) : LtAbove n k c u := by
  obtain ⟨i, h1, h2, h3, h4⟩ := h
  exact ⟨i, by omega, h2, hd i h1 h2 ▸ h3, fun j hj hjn => hd j (by omega) hjn ▸ h4 j hj hjn⟩

/-- level `k` moved up to `v`, the least valid digit above the present one, and everything below reset: the result
is strictly above `c` at level `k` and below every all-valid successor of `p` -/
theorem LB_resetFrom_set (n : Nat) (hL : ∀ k, LvlOK n k (L k)) (p : Cfg) (k : Nat) (c : Cfg) (hkn : k < n)
    (hinv : Inv L n k p c) (v : Nat) (hgt : c k < v) (hleast : ∀ u, (L k).valid c u → c k < u → v ≤ u) :
    LB L n p (resetFrom L k (set c k v)) ∧ LtAbove n k c (resetFrom L k (set c k v)) := by
  have hk : resetFrom L k (set c k v) k = v := by rw [resetFrom_above L _ _ _ (Nat.le_refl _), set_same]
  have hj : ∀ j, k < j → resetFrom L k (set c k v) j = c j := fun j hj => by
    rw [resetFrom_above L _ _ _ (by omega), set_ne c k v j (by omega)]
  refine ⟨fun u hu hpu => ?_, k, Nat.le_refl _, hkn, by rw [hk]; exact hgt, fun j hj' _ => (hj j hj').symm⟩
  obtain ⟨i, h1, h2, h3, h4⟩ := hinv u hu hpu
  by_cases hik : i = k
  · subst hik
    have hv : (L i).valid c (u i) :=
      ((hL i).ext_valid u c (u i) (fun j hj hjn => (h4 j hj hjn).symm)).mp (hu i h2)
    have hle := hleast (u i) hv h3
    by_cases heq : v = u i
    · -- `u` continues `set c i v` at the levels `≥ i`: `resetFrom` yields the least such
      refine resetFrom_least L n hL i _ u (fun j hj hjn => ?_) (fun i' hi' => hu i' (by omega))
      by_cases hji : j = i
      · subst hji; rw [set_same]; exact heq.symm
      · rw [set_ne c i v j hji]; exact (h4 j (by omega) hjn).symm
    · exact Or.inl ⟨i, h2, by rw [hk]; omega, fun j hj' hjn => by rw [hj j hj']; exact h4 j hj' hjn⟩
  · exact Or.inl ⟨i, h2, by rw [hj i (by omega)]; exact h3,
      fun j hj' hjn => by rw [hj j (by omega)]; exact h4 j hj' hjn⟩

/-- the carry chain from level `k`: its result is strictly above `c` (first differing at a level `≥ k`)
and below every all-valid successor of `p`; it runs past the top level only if there is none -/
theorem overflowFrom_spec (n : Nat) (hL : ∀ k, LvlOK n k (L k)) (p : Cfg) (k : Nat) (c : Cfg)
    (hinv : Inv L n k p c) :
    ((overflowFrom L n k c).2 = false →
      LB L n p (overflowFrom L n k c).1 ∧ LtAbove n k c (overflowFrom L n k c).1) ∧
    ((overflowFrom L n k c).2 = true → Exhausted L n p) := by
  fun_induction overflowFrom L n k c with
  | case1 k c hk =>
    refine ⟨(fun h => by cases h), fun _ u hu hpu => ?_⟩
    obtain ⟨i, h1, h2, _⟩ := hinv u hu hpu
    omega
  | case2 k c hk r c' hov ih =>
    have hc' : ∀ j, k < j → j < n → c' j = c j := fun j hj _ => set_ne c k r.1 j (by omega)
    obtain ⟨ih1, ih2⟩ := ih (Inv_step L n hL p c c' k hc' hinv hov)
    exact ⟨fun h => ⟨(ih1 h).1, LtAbove_of_agree n k c c' _ hc' (ih1 h).2⟩, ih2⟩
  | case3 k c hk r c' hov =>
    have hnext := (hL k).next_ok c (c k) (Bool.eq_false_iff.mpr hov)
    exact ⟨fun _ => LB_resetFrom_set L n hL p k c (by omega) hinv _ hnext.2.1 hnext.2.2, (fun h => by cases h)⟩

variable (D : ∀ k, LvlDec (L k))

theorem advFrom_succ (n m : Nat) (c : Cfg) :
    advFrom L D n (m+1) c =
      if (D m).isValid c (c m) then advFrom L D n m c else
        some (if ((L m).next c (c m)).2
          then overflowFrom L n (m+1) (resetFrom L m (set c m ((L m).next c (c m)).1))
          else (resetFrom L m (set c m ((L m).next c (c m)).1), false)) := rfl

/-- what a step that changes the configuration `c` establishes: a lower bound of the successors of `p`
above `c`, or the knowledge that `p` has no successor -/
def Step (n : Nat) (p c : Cfg) (r : Cfg × Bool) : Prop :=
  (r.2 = false → LB L n p r.1 ∧ Lt n c r.1) ∧ (r.2 = true → Exhausted L n p)

theorem Step_overflowFrom (n : Nat) (hL : ∀ k, LvlOK n k (L k)) (p : Cfg) (k : Nat) (c : Cfg)
    (hinv : Inv L n k p c) : Step L n p c (overflowFrom L n k c) := by
  obtain ⟨h1, h2⟩ := overflowFrom_spec L n hL p k c hinv
  exact ⟨fun h => ⟨(h1 h).1, LtAbove_Lt n k _ _ (h1 h).2⟩, h2⟩

/-- a lower bound `c` of the successors of `p` whose level `m` is invalid: they all differ from `c` at a
level `≥ m` -/
theorem Inv_of_invalid (n : Nat) (hL : ∀ k, LvlOK n k (L k)) (p c : Cfg) (m : Nat) (hmn : m < n)
    (hLB : LB L n p c) (hinvalid : ¬ (L m).valid c (c m)) : Inv L n m p c := by
  intro u hu hpu
  -- if `u` agrees with `c` at the levels `≥ m`, level `m` of `c` is valid
  have key : (∀ j, m ≤ j → j < n → c j = u j) → False := fun hag => by
    have := ((hL m).ext_valid u c (u m) (fun j hj hjn => (hag j (by omega) hjn).symm)).mp (hu m hmn)
    rw [← hag m (Nat.le_refl _) hmn] at this
    exact hinvalid this
  rcases hLB u hu hpu with ⟨i, hi, hlt, hag⟩ | hall
  · by_cases him : m ≤ i
    · exact ⟨i, him, hi, hlt, hag⟩
    · exact (key fun j hj hjn => hag j (by omega) hjn).elim
  · exact (key fun j _ hjn => hall j hjn).elim

theorem advFrom_spec (n : Nat) (hL : ∀ k, LvlOK n k (L k)) (p : Cfg) (m : Nat) (hm : m ≤ n)
    (c : Cfg) (hLB : LB L n p c) :
    (advFrom L D n m c = none → ∀ k, k < m → (L k).valid c (c k)) ∧
    (∀ r, advFrom L D n m c = some r → Step L n p c r) := by
  induction m with
  | zero => exact ⟨fun _ k hk => by omega, (fun r h => by cases h)⟩
  | succ m ih =>
    have ih := ih (by omega)
    rw [advFrom_succ]
    by_cases hv : (D m).isValid c (c m) = true
    · rw [if_pos hv]
      refine ⟨fun h k hk => ?_, ih.2⟩
      by_cases hkm : k = m
      · subst hkm; exact ((D k).ok c (c k)).mp hv
      · exact ih.1 h k (by omega)
    · rw [if_neg hv]
      have hinv : Inv L n m p c :=
        Inv_of_invalid L n hL p c m (by omega) hLB (fun h => hv (((D m).ok c (c m)).mpr h))
      refine ⟨(fun h => by cases h), fun r h => ?_⟩
      cases h
      by_cases hov : ((L m).next c (c m)).2 = true
      · -- carry: the reset below `m` does not touch the levels above `m`
        rw [if_pos hov]
        have hc' : ∀ j, m < j → j < n →
            resetFrom L m (set c m ((L m).next c (c m)).1) j = c j := fun j hj _ => by
          rw [resetFrom_above L _ _ _ (by omega), set_ne _ _ _ _ (by omega)]
        obtain ⟨h1, h2⟩ := overflowFrom_spec L n hL p (m+1) _ (Inv_step L n hL p c _ m hc' hinv hov)
        exact ⟨fun h => ⟨(h1 h).1, LtAbove_Lt n m _ _ (LtAbove_of_agree n m c _ _ hc' (h1 h).2)⟩, h2⟩
      · rw [if_neg hov]
        have h := Step_overflowFrom L n hL p m c hinv
        rwa [overflowFrom, if_neg (by omega), if_neg hov] at h

/-- what a finished search returns -/
def Found (n : Nat) (p : Cfg) (r : Cfg × Bool) : Prop :=
  (r.2 = false → AllValid L n r.1 ∧ Lt n p r.1 ∧ LB L n p r.1) ∧ (r.2 = true → Exhausted L n p)

theorem loop_spec (n : Nat) (hL : ∀ k, LvlOK n k (L k)) (p : Cfg) (f : Nat) (c : Cfg)
    (hLB : LB L n p c) (hlt : Lt n p c) : ∀ r, loop L D n f c = some r → Found L n p r := by
  induction f generalizing c with
  | zero => intro r h; cases h
  | succ f ih =>
    have hs := advFrom_spec L D n hL p n (Nat.le_refl _) c hLB
    intro r h
    unfold loop at h
    split at h
    · next hadv =>
      cases h
      exact ⟨fun _ => ⟨hs.1 hadv, hlt, hLB⟩, (fun h => by cases h)⟩
    · next c' hadv =>
      cases h
      exact ⟨(fun h => by cases h), (hs.2 _ hadv).2⟩
    · next c' hadv =>
      obtain ⟨hLB', hlt'⟩ := (hs.2 _ hadv).1 rfl
      exact ih c' hLB' (Lt_trans n p c c' hlt hlt') r h

/-- Go `findForward` before the loop: `if !advanceInvalid() { next() }` -/
def firstPass (n : Nat) (p : Cfg) : Cfg × Bool :=
  match advFrom L D n n p with
  | none => overflowFrom L n 0 p
  | some r => r

theorem findForward_eq (n fuel : Nat) (p : Cfg) :
    findForward L D n fuel p =
      if (firstPass L D n p).2 then some (firstPass L D n p) else loop L D n fuel (firstPass L D n p).1 := rfl

theorem firstPass_spec (n : Nat) (hL : ∀ k, LvlOK n k (L k)) (p : Cfg) :
    Step L n p p (firstPass L D n p) := by
  unfold firstPass
  split
  · exact Step_overflowFrom L n hL p 0 p fun u _ ⟨i, hi, hlt, hag⟩ => ⟨i, Nat.zero_le _, hi, hlt, hag⟩
  · next r hadv =>
    exact (advFrom_spec L D n hL p n (Nat.le_refl _) p (fun u _ hpu => Or.inl hpu)).2 r hadv

theorem findForward_spec (n fuel : Nat) (hL : ∀ k, LvlOK n k (L k)) (p : Cfg) :
    (∀ r, findForward L D n fuel p = some (r, false) →
        AllValid L n r ∧ Lt n p r ∧ ∀ u, AllValid L n u → Lt n p u → Le n r u) ∧
    (∀ r, findForward L D n fuel p = some (r, true) → ∀ u, AllValid L n u → Lt n p u → False) := by
  have found : ∀ r, findForward L D n fuel p = some r → Found L n p r := by
    intro r h
    obtain ⟨h1, h2⟩ := firstPass_spec L D n hL p
    rw [findForward_eq] at h
    split at h
    · next hb => cases h; exact ⟨(fun h => by rw [hb] at h; cases h), h2⟩
    · next hb =>
      obtain ⟨hLB, hlt⟩ := h1 (Bool.eq_false_iff.mpr hb)
      exact loop_spec L D n hL p fuel _ hLB hlt r h
  exact ⟨fun r h => (found _ h).1 rfl, fun r h => (found _ h).2 rfl⟩

/-! ## digit-wise invariants

`P k v`: "the digit `v` is admissible at level `k`".  A level keeps `P` when `Next` maps admissible digits to
admissible ones and `Reset` yields one; then reset, carry chain and validation pass keep all digits
admissible.  Upper bounds (`InBox`) are the instance `v ≤ B k`. -/

structure LvlKeeps (P : Nat → Nat → Prop) (k : Nat) (l : Lvl) : Prop where
  next_keeps : ∀ c v, P k v → P k (l.next c v).1
  rst_keeps : ∀ c, P k (l.rst c)

def Digits (P : Nat → Nat → Prop) (n : Nat) (c : Cfg) : Prop := ∀ k, k < n → P k (c k)

theorem Digits_set (P : Nat → Nat → Prop) (n : Nat) (c : Cfg) (k v : Nat) (h : Digits P n c) (hv : P k v) :
    Digits P n (set c k v) := by
  intro j hj
  by_cases hjk : j = k
  · subst hjk; rw [set_same]; exact hv
  · rw [set_ne _ _ _ _ hjk]; exact h j hj

theorem Digits_resetFrom (P : Nat → Nat → Prop) (n : Nat) (hP : ∀ k, LvlKeeps P k (L k)) (k : Nat) (c : Cfg)
    (h : Digits P n c) : Digits P n (resetFrom L k c) := by
  induction k generalizing c with
  | zero => exact h
  | succ k ih => exact ih _ (Digits_set P n c k _ h ((hP k).rst_keeps c))

theorem Digits_overflowFrom (P : Nat → Nat → Prop) (n : Nat) (hP : ∀ k, LvlKeeps P k (L k)) (k : Nat) (c : Cfg)
    (h : Digits P n c) : Digits P n (overflowFrom L n k c).1 := by
  fun_induction overflowFrom L n k c with
  | case1 => exact h
  | case2 k c hk r c' _ ih => exact ih (Digits_set P n c k _ h ((hP k).next_keeps c (c k) (h k (by omega))))
  | case3 k c hk r c' _ =>
    exact Digits_resetFrom L P n hP k _ (Digits_set P n c k _ h ((hP k).next_keeps c (c k) (h k (by omega))))

theorem Digits_advFrom (P : Nat → Nat → Prop) (n : Nat) (hP : ∀ k, LvlKeeps P k (L k)) (m : Nat) (hmn : m ≤ n)
    (c : Cfg) (h : Digits P n c) : ∀ r, advFrom L D n m c = some r → Digits P n r.1 := by
  induction m with
  | zero => intro r hr; cases hr
  | succ m ih =>
    intro r hr
    rw [advFrom_succ] at hr
    split at hr
    · exact ih (by omega) r hr
    · cases hr
      have hrs := Digits_resetFrom L P n hP m _
        (Digits_set P n c m _ h ((hP m).next_keeps c (c m) (h m (by omega))))
      split
      · exact Digits_overflowFrom L P n hP (m+1) _ hrs
      · exact hrs

/-- digit bounds: every level's outputs are ≤ B k -/
structure LvlBound (B : Nat → Nat) (k : Nat) (l : Lvl) : Prop where
  next_le : ∀ c v, v ≤ B k → (l.next c v).1 ≤ B k
  rst_le : ∀ c, l.rst c ≤ B k

def InBox (B : Nat → Nat) (n : Nat) (c : Cfg) : Prop := ∀ k, k < n → c k ≤ B k

theorem LvlBound.keeps {B : Nat → Nat} {k : Nat} {l : Lvl} (h : LvlBound B k l) :
    LvlKeeps (fun k v => v ≤ B k) k l := ⟨h.next_le, h.rst_le⟩

theorem InBox_set (B : Nat → Nat) (n : Nat) (c : Cfg) (k v : Nat) (h : InBox B n c) (hv : v ≤ B k) :
    InBox B n (set c k v) :=
  Digits_set (fun k v => v ≤ B k) n c k v h hv

theorem InBox_resetFrom (B : Nat → Nat) (n : Nat) (hB : ∀ k, LvlBound B k (L k)) (k : Nat) (c : Cfg)
    (h : InBox B n c) : InBox B n (resetFrom L k c) :=
  Digits_resetFrom L _ n (fun k => (hB k).keeps) k c h

theorem InBox_overflowFrom (B : Nat → Nat) (n : Nat) (hB : ∀ k, LvlBound B k (L k)) (k : Nat) (c : Cfg)
    (h : InBox B n c) : InBox B n (overflowFrom L n k c).1 :=
  Digits_overflowFrom L _ n (fun k => (hB k).keeps) k c h

theorem InBox_advFrom (B : Nat → Nat) (n : Nat) (hB : ∀ k, LvlBound B k (L k)) (m : Nat) (hmn : m ≤ n) (c : Cfg)
    (h : InBox B n c) : ∀ r, advFrom L D n m c = some r → InBox B n r.1 :=
  Digits_advFrom L D _ n (fun k => (hB k).keeps) m hmn c h

/-- a measure that is strictly monotone for `Lt` inside the box, bounded by `M` -/
structure Measure (B : Nat → Nat) (n : Nat) (μ : Cfg → Nat) (M : Nat) : Prop where
  mono : ∀ c c', InBox B n c → InBox B n c' → Lt n c c' → μ c < μ c'
  le : ∀ c, InBox B n c → μ c ≤ M

theorem loop_fuel (B : Nat → Nat) (n : Nat) (hL : ∀ k, LvlOK n k (L k)) (hB : ∀ k, LvlBound B k (L k))
    (μ : Cfg → Nat) (M : Nat) (hμ : Measure B n μ M) (p : Cfg) (f : Nat) (c : Cfg)
    (hbox : InBox B n c) (hLB : LB L n p c) (hf : M - μ c < f) :
    loop L D n f c ≠ none := by
  induction f generalizing c with
  | zero => omega
  | succ f ih =>
    unfold loop
    have hs := advFrom_spec L D n hL p n (Nat.le_refl _) c hLB
    cases hadv : advFrom L D n n c with
    | none => simp
    | some res =>
      obtain ⟨c', b⟩ := res
      cases b with
      | true => simp
      | false =>
        simp only
        obtain ⟨hLB', hlt'⟩ := (hs.2 _ hadv).1 rfl
        have hbox' : InBox B n c' := InBox_advFrom L D B n hB n (Nat.le_refl _) c hbox (c', false) hadv
        have h1 := hμ.mono c c' hbox hbox' hlt'
        have h2 := hμ.le c' hbox'
        exact ih c' hbox' hLB' (by omega)

theorem findForward_fuel (B : Nat → Nat) (n : Nat) (hL : ∀ k, LvlOK n k (L k))
    (hB : ∀ k, LvlBound B k (L k)) (μ : Cfg → Nat) (M : Nat) (hμ : Measure B n μ M)
    (p : Cfg) (fuel : Nat) (hbox : InBox B n p) (hf : M < fuel) :
    findForward L D n fuel p ≠ none := by
  have hbox' : InBox B n (firstPass L D n p).1 := by
    unfold firstPass
    split
    · exact InBox_overflowFrom L B n hB 0 p hbox
    · next r hadv => exact InBox_advFrom L D B n hB n (Nat.le_refl _) p hbox r hadv
  rw [findForward_eq]
  split
  · exact fun h => by cases h
  · next hb =>
    exact loop_fuel L D B n hL hB μ M hμ p fuel _ hbox'
      ((firstPass_spec L D n hL p).1 (Bool.eq_false_iff.mpr hb)).1 (by omega)

/-- concrete measure for six levels: mixed radix -/
def μ6 (c : Cfg) : Nat :=
  ((((c 5 * 13 + c 4) * 32 + c 3) * 24 + c 2) * 60 + c 1) * 60 + c 0

/-- the largest digit of each level; 3940 is the upper bound of the parser's year range, which the value
list of the year node may reach although the node itself stops at 2261 -/
def B6 : Nat → Nat
  | 0 => 59 | 1 => 59 | 2 => 23 | 3 => 31 | 4 => 12 | 5 => 3940 | _ => 0

theorem InBox6_iff (c : Cfg) :
    InBox B6 6 c ↔ c 0 ≤ 59 ∧ c 1 ≤ 59 ∧ c 2 ≤ 23 ∧ c 3 ≤ 31 ∧ c 4 ≤ 12 ∧ c 5 ≤ 3940 :=
  forall_lt_six (P := fun k => c k ≤ B6 k)

theorem μ6_measure : Measure B6 6 μ6 (((((3940 * 13 + 12) * 32 + 31) * 24 + 23) * 60 + 59) * 60 + 59) := by
  constructor
  · intro c c' h h' hlt
    rw [Lt6_iff] at hlt
    rw [InBox6_iff] at h h'
    unfold μ6
    omega
  · intro c h
    rw [InBox6_iff] at h
    unfold μ6
    omega

end Odo
