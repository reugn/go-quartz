import QuartzModel.Sched.Model
import QuartzModel.Sched.History
import QuartzModel.Theorems.C11
/-!
# Lemmas behind the scheduler theorems C03 / C04 / C08 / C09 and the composition with the cron trigger

Every registry call and the loop step get a complete outcome table on a well-formed queue.  `apply_kind` reads the
tables once and states one event in closed form, `Kind` = which entry leaves and which enters (`Effect`) + what the
trigger objects show (`Trace`); everything after it reads `Kind` only.  `run_induct` carries an invariant of the state
and a property of every observation along a history; the history lemmas of the theorem files are its instances.
-/
namespace Sched
open Queue

/-! ## queue layer: the C11 contract in the form the outcome tables use -/

theorem hasKey_perm {a : Arr} {l : List Entry} (hp : a.toList.Perm l) (g n : String) :
    hasKey a g n ↔ ∃ e ∈ l, e.group = g ∧ e.name = n := by
  simp only [hasKey, hp.mem_iff]

theorem qpop_min_rest (a : Arr) (h : Inv a) (hne : a.size ≠ 0) :
    ∃ a' e, qpop a = .ok (a', e) ∧ a.toList.Perm (e :: a'.toList) ∧ Inv a' ∧
      (∀ x ∈ a.toList, e.prio ≤ x.prio) ∧ ¬ hasKey a' e.group e.name := by
  obtain ⟨a', e, hq, hperm, hmin⟩ := C11_pop_min a h hne
  refine ⟨a', e, hq, hperm, qpop_inv a a' e h hq, hmin, ?_⟩
  obtain ⟨_, hne'⟩ := keysDistinct_of_cons a a' e h.2 hperm
  rintro ⟨x, hx, hg, hn⟩
  exact hne' x hx ⟨hn.symm, hg.symm⟩

theorem qpush_new (a : Arr) (e : Entry) (h : Inv a) (hk : ¬ hasKey a e.group e.name) :
    qpush a e = .ok (hpush a e) ∧ (hpush a e).toList.Perm (e :: a.toList) ∧ Inv (hpush a e) := by
  have hq : qpush a e = .ok (hpush a e) := by
    unfold qpush
    rw [(findIdx_none_iff a _ _).mpr hk]
  exact ⟨hq, hpush_perm a e, qpush_inv a _ e h hq⟩

theorem qremove_spec (a : Arr) (h : Inv a) (g n : String) (hk : hasKey a g n) :
    ∃ a' e, qremove a g n = .ok (a', e) ∧ e.group = g ∧ e.name = n ∧ e ∈ a.toList ∧
      a.toList.Perm (e :: a'.toList) ∧ Inv a' ∧ ¬ hasKey a' g n := by
  obtain ⟨a', e, hq, hg, hn, hperm⟩ := (C11_remove a h g n).1 hk
  refine ⟨a', e, hq, hg, hn, hperm.mem_iff.mpr List.mem_cons_self, hperm,
    qremove_inv a a' g n e h hq, ?_⟩
  obtain ⟨_, hne'⟩ := keysDistinct_of_cons a a' e h.2 hperm
  rintro ⟨x, hx, hxg, hxn⟩
  exact hne' x hx ⟨by rw [hn, hxn], by rw [hg, hxg]⟩

theorem qget_spec (a : Arr) (h : Inv a) (g n : String) (hk : hasKey a g n) :
    ∃ e, qget a g n = .ok e ∧ e ∈ a.toList ∧ e.group = g ∧ e.name = n := by
  obtain ⟨e, he, hg, hn⟩ := hk
  exact ⟨e, ((C11_get a h g n).1 e).mpr ⟨he, hg, hn⟩, he, hg, hn⟩

theorem qget_none (a : Arr) (h : Inv a) (g n : String) (hk : ¬ hasKey a g n) :
    qget a g n = .error .jobNotFound := (C11_get a h g n).2.mpr hk

theorem qget_ok (a : Arr) (h : Inv a) (g n : String) (e : Entry) (hq : qget a g n = .ok e) :
    e ∈ a.toList ∧ e.group = g ∧ e.name = n := ((C11_get a h g n).1 e).mp hq

/-- `Get`, `Remove`, `Push` of the same key, as `PauseJob` / `ResumeJob` chain them: `Remove` takes out the entry
`Get` found, and `Push` of an entry `ne` with that key then finds the key free -/
theorem requeue (a : Arr) (h : Inv a) (g n : String) (e ne : Entry) (hq : qget a g n = .ok e)
    (hk : ne.group = e.group ∧ ne.name = e.name) :
    ∃ a', qremove a g n = .ok (a', e) ∧ a.toList.Perm (e :: a'.toList) ∧
      qpush a' ne = .ok (hpush a' ne) ∧ Inv (hpush a' ne) := by
  obtain ⟨he, hg, hn⟩ := qget_ok a h g n e hq
  obtain ⟨a', e', hr, hg', hn', he', hperm, hinv, hnk⟩ := qremove_spec a h g n ⟨e, he, hg, hn⟩
  have : e' = e := keysDistinct_unique a h.2 e' e he' he ⟨by rw [hn', hn], by rw [hg', hg]⟩
  subst this
  obtain ⟨hp, _, hinv'⟩ := qpush_new a' ne hinv (by rw [hk.1, hk.2, hg, hn]; exact hnk)
  exact ⟨a', hr, hperm, hp, hinv'⟩

theorem perm_erase_of_cons {l l' : List Entry} {e : Entry} (hp : l.Perm (e :: l')) :
    (l.erase e).Perm l' := by
  simpa using hp.erase e

/-! ## trigger store -/

theorem trig_setTrig_same (s : SState) (t : Nat) (x : Trig) : (s.setTrig t x).trig t = x := by
  simp [SState.setTrig, SState.trig]

theorem lookup_filter_ne (l : List (Nat × Trig)) (t t' : Nat) (h : t' ≠ t) :
    (l.filter (fun p => p.1 != t)).lookup t' = l.lookup t' := by
  induction l with
  | nil => rfl
  | cons p l ih =>
    obtain ⟨k, v⟩ := p
    by_cases hk : k = t
    · subst hk
      have : (t' == k) = false := by simpa using h
      simp [List.filter, List.lookup, this, ih]
    · have hk' : (k != t) = true := by simpa using hk
      simp only [List.filter, hk', List.lookup]
      split <;> simp_all

theorem trig_setTrig_other (s : SState) (t t' : Nat) (x : Trig) (h : t' ≠ t) :
    (s.setTrig t x).trig t' = s.trig t' := by
  have : (t' == t) = false := by simpa using h
  simp only [SState.setTrig, SState.trig, List.lookup, this]
  rw [lookup_filter_ne _ _ _ h]

/-- a state is its two fields -/
theorem SState.eq_mk {s : SState} {q : Arr} {tr : List (Nat × Trig)} (hq : s.q = q) (ht : s.trigs = tr) :
    s = { q := q, trigs := tr } := by
  cases s; subst hq ht; rfl

@[simp] theorem setTrig_q (s : SState) (t : Nat) (x : Trig) : (s.setTrig t x).q = s.q := rfl

@[simp] theorem trig_with_q (s : SState) (q : Arr) (t : Nat) : ({ s with q := q } : SState).trig t = s.trig t := rfl

theorem mem_rest_iff {a a' : Arr} {e : Entry} (h : Inv a) (hp : a.toList.Perm (e :: a'.toList))
    (x : Entry) : x ∈ a'.toList ↔ x ∈ a.toList ∧ x ≠ e := by
  obtain ⟨_, hne⟩ := keysDistinct_of_cons a a' e h.2 hp
  constructor
  · intro hx
    refine ⟨hp.mem_iff.mpr (List.mem_cons_of_mem _ hx), ?_⟩
    rintro rfl
    exact hne x hx ⟨rfl, rfl⟩
  · rintro ⟨hx, hxe⟩
    rcases List.mem_cons.mp (hp.mem_iff.mp hx) with h1 | h1
    · exact absurd h1 hxe
    · exact h1

theorem mem_hpush_iff (a : Arr) (e x : Entry) : x ∈ (hpush a e).toList ↔ x = e ∨ x ∈ a.toList := by
  rw [(hpush_perm a e).mem_iff, List.mem_cons]

/-! ## ScheduleJob -/

theorem schedule_illegal (s : SState) (now : Int) (a : SchedArgs) (h : a.illegal) :
    schedule s now a = (s, some .illegalArgument, []) := by
  unfold schedule
  rcases h with h | h | h | h
  · simp [h]
  · simp [h]
  · simp [h]
  · split
    · rfl
    · simp [h]

theorem legal_fields (a : SchedArgs) (h : ¬ a.illegal) :
    a.hasDetail = true ∧ a.hasKey = true ∧ (a.name == "") = false ∧ ∃ t, a.trig = some t := by
  simp only [SchedArgs.illegal, not_or] at h
  exact ⟨by simpa using h.1, by simpa using h.2.1, by simpa using h.2.2.1,
    Option.ne_none_iff_exists'.mp h.2.2.2⟩

theorem schedule_susp (s : SState) (now : Int) (a : SchedArgs) (t : Trig) (h : ¬ a.illegal)
    (ht : a.trig = some t) (hs : a.suspended = true) :
    schedule s now a =
      match qpush s.q (a.entry maxInt64) with
      | .ok q' => (({ s with q := q' } : SState).setTrig a.tag t, none, [])
      | .error e => (s, some (ofQErr e), []) := by
  obtain ⟨h1, h2, h3, _⟩ := legal_fields a h
  unfold schedule SchedArgs.entry
  simp only [h1, h2, h3, ht, hs, Bool.not_true, Bool.or_false, Bool.false_eq_true, if_false, if_true]
  rfl

theorem schedule_active (s : SState) (now : Int) (a : SchedArgs) (t : Trig) (h : ¬ a.illegal)
    (ht : a.trig = some t) (hs : a.suspended = false) :
    schedule s now a =
      match (t.fire now).1 with
      | none => (s, some .triggerError, [{ tag := a.tag, prev := now, result := none }])
      | some p =>
        match qpush s.q (a.entry p) with
        | .ok q' => (({ s with q := q' } : SState).setTrig a.tag (t.fire now).2, none,
            [{ tag := a.tag, prev := now, result := some p }])
        | .error e => (s, some (ofQErr e), [{ tag := a.tag, prev := now, result := some p }]) := by
  obtain ⟨h1, h2, h3, _⟩ := legal_fields a h
  unfold schedule SchedArgs.entry
  simp only [h1, h2, h3, ht, hs, Bool.not_true, Bool.or_false, Bool.false_eq_true, if_false]
  cases hf : (t.fire now).1 <;> rfl

theorem sched_push_cases (q : Arr) (a : SchedArgs) (p : Int) (h : Inv q) :
    (qpush q (a.entry p) = .error .jobAlreadyExists ∧ hasKey q a.group a.name ∧ a.replace = false) ∨
    (¬ hasKey q a.group a.name ∧ qpush q (a.entry p) = .ok (hpush q (a.entry p))) ∨
    (a.replace = true ∧ ∃ old q', old ∈ q.toList ∧ old.group = a.group ∧ old.name = a.name ∧
      qpush q (a.entry p) = .ok q' ∧ q'.toList.Perm (a.entry p :: q.toList.erase old)) := by
  by_cases hk : hasKey q a.group a.name
  · cases hr : a.replace with
    | false => exact Or.inl ⟨C11_push_duplicate q (a.entry p) hk hr, hk, rfl⟩
    | true =>
      right; right
      obtain ⟨old, ho, hg, hn⟩ := hk
      obtain ⟨q', hq, hperm⟩ := C11_push_replace q (a.entry p) old h ho ⟨hg, hn⟩ hr
      exact ⟨rfl, old, q', ho, hg, hn, hq, hperm⟩
  · right; left
    exact ⟨hk, (qpush_new q (a.entry p) h hk).1⟩

/-- the complete outcome table of `ScheduleJob` -/
theorem schedule_cases (s : SState) (now : Int) (a : SchedArgs) :
    (a.illegal ∧ schedule s now a = (s, some .illegalArgument, [])) ∨
    (¬ a.illegal ∧ a.trigFails now ∧
      schedule s now a = (s, some .triggerError, [{ tag := a.tag, prev := now, result := none }])) ∨
    (¬ a.illegal ∧ ¬ a.trigFails now ∧ ∃ t p t' calls, a.trig = some t ∧
      ((a.suspended = true ∧ p = maxInt64 ∧ t' = t ∧ calls = []) ∨
       (a.suspended = false ∧ (t.fire now).1 = some p ∧ t' = (t.fire now).2 ∧
          calls = [{ tag := a.tag, prev := now, result := some p }])) ∧
      ((∃ e, qpush s.q (a.entry p) = .error e ∧ schedule s now a = (s, some (ofQErr e), calls)) ∨
       (∃ q', qpush s.q (a.entry p) = .ok q' ∧
          schedule s now a = (({ s with q := q' } : SState).setTrig a.tag t', none, calls)))) := by
  by_cases hl : a.illegal
  · exact Or.inl ⟨hl, schedule_illegal s now a hl⟩
  · obtain ⟨_, _, _, t, ht⟩ := legal_fields a hl
    cases hs : a.suspended with
    | true =>
      have hnf : ¬ a.trigFails now := fun hh => by rw [hh.1] at hs; cases hs
      refine Or.inr (Or.inr ⟨hl, hnf, t, maxInt64, t, [], ht, Or.inl ⟨rfl, rfl, rfl, rfl⟩, ?_⟩)
      rw [schedule_susp s now a t hl ht hs]
      cases qpush s.q (a.entry maxInt64) with
      | ok q' => exact Or.inr ⟨q', rfl, rfl⟩
      | error e => exact Or.inl ⟨e, rfl, rfl⟩
    | false =>
      rw [schedule_active s now a t hl ht hs]
      cases hf : (t.fire now).1 with
      | none => exact Or.inr (Or.inl ⟨hl, ⟨hs, t, ht, hf⟩, rfl⟩)
      | some p =>
        have hnf : ¬ a.trigFails now := by
          rintro ⟨_, t', ht', hf'⟩
          rw [ht] at ht'
          cases ht'
          rw [hf] at hf'
          cases hf'
        refine Or.inr (Or.inr ⟨hl, hnf, t, p, (t.fire now).2, _, ht, Or.inr ⟨rfl, hf, rfl, rfl⟩, ?_⟩)
        dsimp only
        cases qpush s.q (a.entry p) with
        | ok q' => exact Or.inr ⟨q', rfl, rfl⟩
        | error e => exact Or.inl ⟨e, rfl, rfl⟩

/-! ## DeleteJob, PauseJob, ResumeJob -/

theorem delete_cases (s : SState) (hk : Bool) (g n : String) (h : Inv s.q) :
    (hk = false ∧ delete s hk g n = (s, some .illegalArgument)) ∨
    (hk = true ∧ ¬ hasKey s.q g n ∧ delete s hk g n = (s, some .jobNotFound)) ∨
    (hk = true ∧ ∃ q1 e, e ∈ s.q.toList ∧ e.group = g ∧ e.name = n ∧ s.q.toList.Perm (e :: q1.toList) ∧
      Inv q1 ∧ ¬ hasKey q1 g n ∧ delete s hk g n = ({ s with q := q1 }, none)) := by
  cases hk with
  | false => exact Or.inl ⟨rfl, rfl⟩
  | true =>
    by_cases hkey : hasKey s.q g n
    · obtain ⟨q1, e, hr, hg, hn, he, hperm, hinv, hnk⟩ := qremove_spec s.q h g n hkey
      exact Or.inr (Or.inr ⟨rfl, q1, e, he, hg, hn, hperm, hinv, hnk, by unfold delete; rw [hr]; rfl⟩)
    · exact Or.inr (Or.inl ⟨rfl, hkey, by unfold delete; rw [(C11_remove s.q h g n).2 hkey]; rfl⟩)

theorem pause_cases (s : SState) (hk : Bool) (g n : String) (h : Inv s.q) :
    (hk = false ∧ pause s hk g n = (s, some .illegalArgument)) ∨
    (hk = true ∧ ¬ hasKey s.q g n ∧ pause s hk g n = (s, some .jobNotFound)) ∨
    (hk = true ∧ ∃ e, e ∈ s.q.toList ∧ e.group = g ∧ e.name = n ∧
      ((e.suspended = true ∧ pause s hk g n = (s, some .jobIsSuspended)) ∨
       (e.suspended = false ∧ ∃ q1, s.q.toList.Perm (e :: q1.toList) ∧ Inv (hpush q1 (pausedOf e)) ∧
          pause s hk g n = ({ s with q := hpush q1 (pausedOf e) }, none)))) := by
  cases hk with
  | false => exact Or.inl ⟨rfl, rfl⟩
  | true =>
    by_cases hkey : hasKey s.q g n
    · obtain ⟨e, hq, he, hg, hn⟩ := qget_spec s.q h g n hkey
      refine Or.inr (Or.inr ⟨rfl, e, he, hg, hn, ?_⟩)
      cases hs : e.suspended with
      | true => exact Or.inl ⟨rfl, by unfold pause; rw [hq]; simp [hs]⟩
      | false =>
        obtain ⟨q1, hr, hperm, hp, hinv⟩ := requeue s.q h g n e (pausedOf e) hq ⟨rfl, rfl⟩
        refine Or.inr ⟨rfl, q1, hperm, hinv, ?_⟩
        unfold pause
        rw [hq]
        simp only [hs, Bool.not_true, Bool.false_eq_true, if_false, hr]
        show (match qpush q1 (pausedOf e) with
          | .ok q'' => (({ s with q := q'' } : SState), (none : Option SErr))
          | .error e => ({ s with q := q1 }, some (ofQErr e))) = _
        rw [hp]
    · exact Or.inr (Or.inl ⟨rfl, hkey, by unfold pause; rw [qget_none s.q h g n hkey]; rfl⟩)

theorem resume_cases (s : SState) (now : Int) (hk : Bool) (g n : String) (h : Inv s.q) :
    (hk = false ∧ resume s now hk g n = (s, some .illegalArgument, [])) ∨
    (hk = true ∧ ¬ hasKey s.q g n ∧ resume s now hk g n = (s, some .jobNotFound, [])) ∨
    (hk = true ∧ ∃ e, e ∈ s.q.toList ∧ e.group = g ∧ e.name = n ∧
      ((e.suspended = false ∧ resume s now hk g n = (s, some .jobIsActive, [])) ∨
       (e.suspended = true ∧ ((s.trig e.tag).fire now).1 = none ∧
          resume s now hk g n = (s.setTrig e.tag ((s.trig e.tag).fire now).2, some .triggerError,
            [{ tag := e.tag, prev := now, result := none }])) ∨
       (e.suspended = true ∧ ∃ p q1, ((s.trig e.tag).fire now).1 = some p ∧
          s.q.toList.Perm (e :: q1.toList) ∧ Inv (hpush q1 (resumedOf e p)) ∧
          resume s now hk g n =
            ({ (s.setTrig e.tag ((s.trig e.tag).fire now).2) with q := hpush q1 (resumedOf e p) }, none,
              [{ tag := e.tag, prev := now, result := some p }])))) := by
  cases hk with
  | false => exact Or.inl ⟨rfl, rfl⟩
  | true =>
    by_cases hkey : hasKey s.q g n
    · obtain ⟨e, hq, he, hg, hn⟩ := qget_spec s.q h g n hkey
      refine Or.inr (Or.inr ⟨rfl, e, he, hg, hn, ?_⟩)
      cases hs : e.suspended with
      | false => exact Or.inl ⟨rfl, by unfold resume; rw [hq]; simp [hs]⟩
      | true =>
        cases hf : ((s.trig e.tag).fire now).1 with
        | none =>
          refine Or.inr (Or.inl ⟨rfl, rfl, ?_⟩)
          unfold resume
          rw [hq]
          simp only [hs, Bool.not_true, Bool.false_eq_true, if_false]
          simp only [hf]
        | some p =>
          obtain ⟨q1, hr, hperm, hp, hinv⟩ := requeue s.q h g n e (resumedOf e p) hq ⟨rfl, rfl⟩
          refine Or.inr (Or.inr ⟨rfl, p, q1, rfl, hperm, hinv, ?_⟩)
          unfold resume
          rw [hq]
          simp only [hs, Bool.not_true, Bool.false_eq_true, if_false]
          simp only [hf, setTrig_q, hr]
          show (match qpush q1 (resumedOf e p) with
            | .ok q'' => (({ (s.setTrig e.tag ((s.trig e.tag).fire now).2) with q := q'' } : SState), (none : Option SErr), _)
            | .error e' => ({ (s.setTrig e.tag ((s.trig e.tag).fire now).2) with q := q1 }, some (ofQErr e'), _)) = _
          rw [hp]
    · exact Or.inr (Or.inl ⟨rfl, hkey, by unfold resume; rw [qget_none s.q h g n hkey]; rfl⟩)

/-! ## the dispatch step -/

theorem step_empty (s : SState) (now thr : Int) (h : s.q.size = 0) : step s now thr = (s, {}) := by
  unfold step
  rw [qpop_empty _ h]

/-- what the step asks the trigger, if it asks: `valid` → the scheduled fire time, `outdated` → the clock -/
def askedWith (e : Entry) (now thr : Int) : Option Int :=
  match classify e now thr with
  | .valid => some e.prio
  | .outdated => some now
  | _ => none

/-- the priority an entry is put back with when the trigger is not asked -/
def keptPrio (e : Entry) (now thr : Int) : Int :=
  match classify e now thr with
  | .suspended => maxInt64
  | _ => e.prio

/-- the part of `StepOut` that is fixed by the popped entry and its class -/
def outBase (e : Entry) (now thr : Int) (calls : List TrigCall) : StepOut :=
  { popped := some e, cls := some (classify e now thr), dispatched := classify e now thr == .valid,
    misfired := classify e now thr == .outdated, calls := calls }

theorem outBase_class {e : Entry} {now thr : Int} {c : Class} (hc : classify e now thr = c)
    (calls : List TrigCall) :
    outBase e now thr calls =
      { popped := some e, cls := some c, dispatched := (c == .valid), misfired := (c == .outdated), calls := calls } := by
  unfold outBase; rw [hc]

/-- the four classes, each with what it says about the entry and the clock and with what the step then
asks the trigger or puts back -/
theorem classify_cases (e : Entry) (now thr : Int) :
    (classify e now thr = .suspended ∧ e.suspended = true ∧ askedWith e now thr = none ∧
      keptPrio e now thr = maxInt64) ∨
    (classify e now thr = .outdated ∧ e.suspended = false ∧ e.prio < now - thr ∧
      askedWith e now thr = some now) ∨
    (classify e now thr = .notDue ∧ e.suspended = false ∧ now - thr ≤ e.prio ∧ now < e.prio ∧
      askedWith e now thr = none ∧ keptPrio e now thr = e.prio) ∨
    (classify e now thr = .valid ∧ e.suspended = false ∧ now - thr ≤ e.prio ∧ e.prio ≤ now ∧
      askedWith e now thr = some e.prio) := by
  have hcls : ∀ c, classify e now thr = c → askedWith e now thr = (match c with
        | .valid => some e.prio | .outdated => some now | _ => none) ∧
      keptPrio e now thr = (match c with | .suspended => maxInt64 | _ => e.prio) :=
    fun c hc => by unfold askedWith keptPrio; rw [hc]; exact ⟨rfl, rfl⟩
  by_cases hs : e.suspended = true
  · have hc : classify e now thr = .suspended := by unfold classify; rw [if_pos hs]
    exact Or.inl ⟨hc, hs, hcls _ hc⟩
  · have hs' : e.suspended = false := by simpa using hs
    by_cases h1 : e.prio < now - thr
    · have hc : classify e now thr = .outdated := by unfold classify; rw [if_neg hs, if_pos h1]
      exact Or.inr (Or.inl ⟨hc, hs', h1, (hcls _ hc).1⟩)
    · by_cases h2 : e.prio > now
      · have hc : classify e now thr = .notDue := by unfold classify; rw [if_neg hs, if_neg h1, if_pos h2]
        exact Or.inr (Or.inr (Or.inl ⟨hc, hs', by omega, by omega, hcls _ hc⟩))
      · have hc : classify e now thr = .valid := by
          unfold classify; rw [if_neg hs, if_neg h1, if_neg h2]
        exact Or.inr (Or.inr (Or.inr ⟨hc, hs', by omega, by omega, (hcls _ hc).1⟩))

theorem askedWith_some_active {e : Entry} {now thr pv : Int} (ha : askedWith e now thr = some pv) :
    e.suspended = false ∧
    ((classify e now thr = .valid ∧ pv = e.prio ∧ now - thr ≤ e.prio ∧ e.prio ≤ now) ∨
     (classify e now thr = .outdated ∧ pv = now ∧ e.prio < now - thr)) := by
  rcases classify_cases e now thr with ⟨_, _, ha', _⟩ | ⟨hc, hs, h3, ha'⟩ | ⟨_, _, _, _, ha', _⟩ |
    ⟨hc, hs, h3, h4, ha'⟩
  · rw [ha'] at ha; cases ha
  · rw [ha'] at ha; cases ha
    exact ⟨hs, Or.inr ⟨hc, rfl, h3⟩⟩
  · rw [ha'] at ha; cases ha
  · rw [ha'] at ha; cases ha
    exact ⟨hs, Or.inl ⟨hc, rfl, h3, h4⟩⟩

/-- `fetchAndReschedule` after a successful `Pop`, by what the trigger is asked -/
theorem step_pop (s : SState) (now thr : Int) (q1 : Arr) (e : Entry) (hp : qpop s.q = .ok (q1, e)) :
    step s now thr =
      match askedWith e now thr with
      | none =>
        match qpush q1 { e with prio := keptPrio e now thr } with
        | .ok q'' => ({ s with q := q'' },
            { outBase e now thr [] with pushed := some { e with prio := keptPrio e now thr } })
        | .error _ => ({ s with q := q1 }, outBase e now thr [])
      | some pv =>
        match ((s.trig e.tag).fire pv).1 with
        | none => (({ s with q := q1 } : SState).setTrig e.tag ((s.trig e.tag).fire pv).2,
            outBase e now thr [{ tag := e.tag, prev := pv, result := none }])
        | some p =>
          match qpush q1 { e with prio := p } with
          | .ok q'' =>
            ({ (({ s with q := q1 } : SState).setTrig e.tag ((s.trig e.tag).fire pv).2) with q := q'' },
              { outBase e now thr [{ tag := e.tag, prev := pv, result := some p }] with
                pushed := some { e with prio := p } })
          | .error _ => (({ s with q := q1 } : SState).setTrig e.tag ((s.trig e.tag).fire pv).2,
              outBase e now thr [{ tag := e.tag, prev := pv, result := some p }]) := by
  unfold step askedWith keptPrio outBase
  rw [hp]
  cases hc : classify e now thr <;> simp only [hc, trig_with_q, setTrig_q]
  case outdated =>
    cases hf : ((s.trig e.tag).fire now).1 with
    | none => simp only
    | some p => simp only; rfl
  case valid =>
    cases hf : ((s.trig e.tag).fire e.prio).1 with
    | none => simp only
    | some p => simp only; rfl
  case notDue => rfl
  case suspended => rfl

/-- the observable part of a step that does not depend on the queue being well-formed -/
theorem step_out_basic (s : SState) (now thr : Int) :
    ((∃ err, qpop s.q = .error err) ∧ step s now thr = (s, {})) ∨
    ∃ q1 e, qpop s.q = .ok (q1, e) ∧ (step s now thr).2.popped = some e ∧
      (step s now thr).2.cls = some (classify e now thr) ∧
      (step s now thr).2.dispatched = (classify e now thr == .valid) ∧
      (step s now thr).2.misfired = (classify e now thr == .outdated) := by
  cases hp : qpop s.q with
  | error err =>
    left
    refine ⟨⟨err, rfl⟩, ?_⟩
    unfold step
    rw [hp]
  | ok r =>
    obtain ⟨q1, e⟩ := r
    right
    refine ⟨q1, e, rfl, ?_⟩
    rw [step_pop s now thr q1 e hp]
    cases askedWith e now thr with
    | none =>
      dsimp only
      split <;> exact ⟨rfl, rfl, rfl, rfl⟩
    | some pv =>
      dsimp only
      cases hf : ((s.trig e.tag).fire pv).1 with
      | none => exact ⟨rfl, rfl, rfl, rfl⟩
      | some p =>
        dsimp only
        split <;> exact ⟨rfl, rfl, rfl, rfl⟩

/-- the three outcomes of a step that popped `e` and left `q1`: not asked, asked with answer `none`, asked
with answer `some p` -/
def StepRows (s : SState) (now thr : Int) (q1 : Arr) (e : Entry) : Prop :=
  (askedWith e now thr = none ∧
      step s now thr = ({ s with q := hpush q1 { e with prio := keptPrio e now thr } },
        { outBase e now thr [] with pushed := some { e with prio := keptPrio e now thr } })) ∨
  (∃ pv, askedWith e now thr = some pv ∧ ((s.trig e.tag).fire pv).1 = none ∧
      step s now thr = (({ s with q := q1 } : SState).setTrig e.tag ((s.trig e.tag).fire pv).2,
        outBase e now thr [{ tag := e.tag, prev := pv, result := none }])) ∨
  (∃ pv p, askedWith e now thr = some pv ∧ ((s.trig e.tag).fire pv).1 = some p ∧
      step s now thr =
        ({ (({ s with q := q1 } : SState).setTrig e.tag ((s.trig e.tag).fire pv).2) with
            q := hpush q1 { e with prio := p } },
          { outBase e now thr [{ tag := e.tag, prev := pv, result := some p }] with
            pushed := some { e with prio := p } }))

/-- the complete outcome table of one loop step on a well-formed queue -/
theorem step_cases (s : SState) (now thr : Int) (h : Inv s.q) :
    (s.q.size = 0 ∧ step s now thr = (s, {})) ∨
    ∃ q1 e, qpop s.q = .ok (q1, e) ∧ s.q.toList.Perm (e :: q1.toList) ∧ Inv q1 ∧
      (∀ x ∈ s.q.toList, e.prio ≤ x.prio) ∧ ¬ hasKey q1 e.group e.name ∧ StepRows s now thr q1 e := by
  by_cases hne : s.q.size = 0
  · exact Or.inl ⟨hne, step_empty s now thr hne⟩
  · right
    obtain ⟨q1, e, hp, hperm, hi, hmin, hnk⟩ := qpop_min_rest s.q h hne
    refine ⟨q1, e, hp, hperm, hi, hmin, hnk, ?_⟩
    unfold StepRows
    rw [step_pop s now thr q1 e hp]
    cases ha : askedWith e now thr with
    | none =>
      dsimp only
      rw [(qpush_new q1 { e with prio := keptPrio e now thr } hi hnk).1]
      exact Or.inl ⟨rfl, rfl⟩
    | some pv =>
      dsimp only
      cases hf : ((s.trig e.tag).fire pv).1 with
      | none => exact Or.inr (Or.inl ⟨pv, rfl, hf, rfl⟩)
      | some p =>
        dsimp only
        rw [(qpush_new q1 { e with prio := p } hi hnk).1]
        exact Or.inr (Or.inr ⟨pv, p, rfl, hf, rfl⟩)

/-- the same, read from the entry the step reports as popped -/
theorem step_popped (s : SState) (now thr : Int) (h : Inv s.q) (e : Entry)
    (hp : (step s now thr).2.popped = some e) :
    ∃ q1, s.q.toList.Perm (e :: q1.toList) ∧ (∀ x ∈ s.q.toList, e.prio ≤ x.prio) ∧
      ¬ hasKey q1 e.group e.name ∧ StepRows s now thr q1 e := by
  rcases step_cases s now thr h with ⟨_, hst⟩ | ⟨q1, e', _, hperm, _, hmin, hnk, hst⟩
  · rw [hst] at hp; cases hp
  · obtain rfl : e' = e := by
      rcases hst with ⟨_, hst⟩ | ⟨_, _, _, hst⟩ | ⟨_, _, _, _, hst⟩ <;> rw [hst] at hp <;>
        exact Option.some.inj hp
    exact ⟨q1, hperm, hmin, hnk, hst⟩

theorem inv_hpush_rest {q1 : Arr} {e : Entry} (hi : Inv q1) (hnk : ¬ hasKey q1 e.group e.name) (p : Int) :
    Inv (hpush q1 { e with prio := p }) :=
  (qpush_new q1 { e with prio := p } hi hnk).2.2

/-! ## one event, in closed form -/

theorem nodup_of_inv {a : Arr} (h : Inv a) : a.toList.Nodup := by
  have := (keysDistinct_iff_pairwise a).mp h.2
  exact this.imp (fun hk heq => hk (by rw [heq]; exact ⟨rfl, rfl⟩))

theorem mem_erase_iff_of_inv {a : Arr} (h : Inv a) (old x : Entry) :
    x ∈ a.toList.erase old ↔ x ∈ a.toList ∧ x ≠ old := by
  rw [(nodup_of_inv h).mem_erase_iff]
  exact ⟨fun ⟨h1, h2⟩ => ⟨h2, h1⟩, fun ⟨h1, h2⟩ => ⟨h2, h1⟩⟩

/-- state invariant of every reachable state (under `FreshTags`) -/
structure WF (s : SState) : Prop where
  inv : Inv s.q
  tags : TagsDistinct s.q
  susp : ∀ e ∈ s.q.toList, e.suspended = true → e.prio = maxInt64

/-- the part of `WF` that needs no assumption on tags -/
structure WF0 (s : SState) : Prop where
  inv : Inv s.q
  susp : ∀ e ∈ s.q.toList, e.suspended = true → e.prio = maxInt64

theorem WF.wf0 {s : SState} (h : WF s) : WF0 s := ⟨h.inv, h.susp⟩

theorem wf_empty : WF {} :=
  ⟨inv_empty, fun x hx => by simp at hx, fun e he => by simp at he⟩

theorem wf0_empty : WF0 {} := wf_empty.wf0

/-- an event that names the key of `e` addresses `e` (`Ev.touches` unfolds to this test) -/
theorem touches_key {g n g' n' : String} (hg : g = g') (hn : n = n') : (g' == g && n' == n) = true := by
  subst hg hn; simp

/-- The registry effect of one event other than `Clear`: at most one entry `rem` leaves, which the event
addresses by its key or (a step) pops as an active one, and at most one entry `add` enters, which takes
over tag and key of the one that left or is the one `ScheduleJob` built. -/
structure Effect (ev : Ev) (q q' : Arr) (rem add : Option Entry) : Prop where
  mem : ∀ x, x ∈ q'.toList ↔ x ∈ add ∨ (x ∈ q.toList ∧ x ∉ rem)
  left : ∀ r ∈ rem, r ∈ q.toList ∧ (ev.touches r.group r.name = true ∨ r.suspended = false)
  entered : ∀ a ∈ add, (a.suspended = true → a.prio = maxInt64) ∧
    ((∃ r ∈ rem, r.tag = a.tag ∧ r.group = a.group ∧ r.name = a.name) ∨
     (∃ now sa, ev = .schedule now sa ∧ sa.tag = a.tag ∧ sa.group = a.group ∧ sa.name = a.name))

theorem Effect.same {ev : Ev} {q q' : Arr} (hmem : ∀ x, x ∈ q'.toList ↔ x ∈ q.toList) :
    Effect ev q q' none none :=
  ⟨fun x => (hmem x).trans ⟨fun h => Or.inr ⟨h, Option.not_mem_none x⟩, fun h => h.elim (fun h => by cases h) And.left⟩,
    fun _ h => (by cases h), fun _ h => (by cases h)⟩

theorem Effect.drop {ev : Ev} {q q1 : Arr} {e : Entry} (he : e ∈ q.toList)
    (hmem : ∀ x, x ∈ q1.toList ↔ x ∈ q.toList ∧ x ≠ e)
    (hev : ev.touches e.group e.name = true ∨ e.suspended = false) : Effect ev q q1 (some e) none := by
  refine ⟨fun x => ?_, ?_, fun _ h => by cases h⟩
  · rw [hmem]; simp [eq_comm]
  · rintro r ⟨⟩; exact ⟨he, hev⟩

theorem Effect.swap {ev : Ev} {q q1 : Arr} {e ne : Entry} (he : e ∈ q.toList)
    (hmem : ∀ x, x ∈ q1.toList ↔ x ∈ q.toList ∧ x ≠ e)
    (hev : ev.touches e.group e.name = true ∨ e.suspended = false)
    (hsusp : ne.suspended = true → ne.prio = maxInt64)
    (hsame : e.tag = ne.tag ∧ e.group = ne.group ∧ e.name = ne.name) :
    Effect ev q (hpush q1 ne) (some e) (some ne) := by
  refine ⟨fun x => ?_, ?_, ?_⟩
  · rw [mem_hpush_iff, hmem]; simp [eq_comm]
  · rintro r ⟨⟩; exact ⟨he, hev⟩
  · rintro a ⟨⟩; exact ⟨hsusp, Or.inl ⟨e, rfl, hsame⟩⟩

theorem disp_stepAsk (e : Entry) (now thr : Int) (calls c : List TrigCall) (pushed : Option Entry)
    (pos : Nat) :
    Obs.disp? { calls := c, out := some { outBase e now thr calls with pushed := pushed } } pos =
      if classify e now thr = .valid then some ⟨pos, e.tag, e.prio⟩ else none := by
  unfold Obs.disp? outBase
  cases classify e now thr <;> simp

/-- What one event shows of the trigger objects: its logged calls, the triggers it leaves alone, the entry it popped. -/
structure Log (thr : Int) (s s' : SState) (ev : Ev) (o : Obs) : Prop where
  /-- a logged call is the first call on the trigger object a `schedule` event brings, or a call on the trigger of
  a registry entry — by `ResumeJob` on its key, with the clock reading, or by a step that popped it, with
  `askedWith`; answer and new state of the trigger are those of `Trig.fire` -/
  calls : ∀ c ∈ o.calls, ev.schedTag? = some c.tag ∨ ∃ e ∈ s.q.toList, e.tag = c.tag ∧
    c.result = ((s.trig e.tag).fire c.prev).1 ∧ s'.trig e.tag = ((s.trig e.tag).fire c.prev).2 ∧
    ((∃ hk, ev = .resume c.prev hk e.group e.name) ∨ ∃ now, ev = .step now ∧ askedWith e now thr = some c.prev)
  /-- trigger objects that are not asked (and not brought in) keep their state -/
  frame : ∀ t, (∀ c ∈ o.calls, c.tag ≠ t) → ev.schedTag? ≠ some t → s'.trig t = s.trig t
  /-- a popped entry was in the registry -/
  pop : ∀ out e, o.out = some out → out.popped = some e → e ∈ s.q.toList

/-- The log of an event together with its registry effect (`rem` leaves, `add` enters): an active entry that enters
carries the answer of a logged call; what is dispatched is the entry that leaves, popped by a step and found
valid. -/
structure Trace (thr : Int) (s s' : SState) (ev : Ev) (o : Obs) (rem add : Option Entry) : Prop
    extends Log thr s s' ev o where
  made : ∀ a ∈ add, a.suspended = false → ∃ pv, (⟨a.tag, pv, some a.prio⟩ : TrigCall) ∈ o.calls
  disp : ∀ pos d, o.disp? pos = some d → ∃ now e, ev = .step now ∧ e ∈ rem ∧ classify e now thr = .valid ∧
    d = ⟨pos, e.tag, e.prio⟩

/-- an event without trigger call and without dispatch -/
theorem Trace.silent {thr : Int} {s s' : SState} {ev : Ev} {o : Obs} {rem add : Option Entry}
    (hcalls : o.calls = []) (hdisp : ∀ pos, o.disp? pos = none) (htr : s'.trigs = s.trigs)
    (hpop : ∀ out e, o.out = some out → out.popped = some e → e ∈ s.q.toList)
    (hadd : ∀ a ∈ add, a.suspended = true) : Trace thr s s' ev o rem add :=
  ⟨⟨fun c hc => (by rw [hcalls] at hc; cases hc), fun t _ _ => (by unfold SState.trig; rw [htr]), hpop⟩,
    fun a ha hs => (by rw [hadd a ha] at hs; cases hs), fun pos d hd => (by rw [hdisp] at hd; cases hd)⟩

/-- a step that popped `e` and asked its trigger with `pv` -/
theorem Trace.step {thr : Int} {s : SState} {now : Int} {e : Entry} {q1 q' : Arr} {pv : Int} {r : Option Int}
    {add : Option Entry} (he : e ∈ s.q.toList) (ha : askedWith e now thr = some pv) (hf : ((s.trig e.tag).fire pv).1 = r)
    (hadd : ∀ a ∈ add, ∃ p, r = some p ∧ a = { e with prio := p }) :
    Trace thr s { (({ s with q := q1 } : SState).setTrig e.tag ((s.trig e.tag).fire pv).2) with q := q' }
      (.step now)
      { calls := [⟨e.tag, pv, r⟩],
        out := some { outBase e now thr [⟨e.tag, pv, r⟩] with pushed := r.map (fun p => { e with prio := p }) } }
      (some e) add := by
  refine ⟨⟨fun c hc => ?_, fun t hnc _ => ?_, fun out x ho hp => ?_⟩, fun a ha' _ => ?_, fun pos d hd => ?_⟩
  · rw [List.mem_singleton] at hc
    subst hc
    exact Or.inr ⟨e, he, rfl, hf.symm, trig_setTrig_same _ _ _, Or.inr ⟨now, rfl, ha⟩⟩
  · show ((({ s with q := q1 } : SState).setTrig e.tag _).trig t) = _
    rw [trig_setTrig_other _ _ _ _ fun hh => hnc _ List.mem_cons_self hh.symm]; rfl
  · cases ho
    cases hp
    exact he
  · obtain ⟨p, rfl, rfl⟩ := hadd a ha'
    exact ⟨pv, List.mem_cons_self⟩
  · rw [disp_stepAsk] at hd
    obtain ⟨_, ⟨hc, rfl, _⟩ | ⟨hc, _⟩⟩ := askedWith_some_active ha
    · rw [if_pos hc] at hd
      cases hd
      exact ⟨now, e, rfl, rfl, hc, rfl⟩
    · rw [if_neg (by rw [hc]; exact fun hh => by cases hh)] at hd; cases hd

/-- One loop step in closed form, the queue seen as a set of entries (which it is, by `Inv`). -/
inductive StepKind (thr : Int) (s : SState) (now : Int) : SState → Obs → Prop
  /-- nothing visible: empty queue, or a popped entry put back as it was -/
  | idle (s' : SState) (o : Obs) (hmem : ∀ x, x ∈ s'.q.toList ↔ x ∈ s.q.toList)
      (hinv : Inv s'.q) (htr : s'.trigs = s.trigs) (hcalls : o.calls = [])
      (hdisp : ∀ pos, o.disp? pos = none)
      (hpop : ∀ out e, o.out = some out → out.popped = some e → e ∈ s.q.toList) : StepKind thr s now s' o
  /-- the step popped a valid / outdated entry, asked its trigger with `pv`, got answer `r` -/
  | ask (e : Entry) (q1 : Arr) (pv : Int) (r : Option Int) (q' : Arr)
      (he : e ∈ s.q.toList) (ha : askedWith e now thr = some pv) (hf : ((s.trig e.tag).fire pv).1 = r)
      (hmem1 : ∀ x, x ∈ q1.toList ↔ x ∈ s.q.toList ∧ x ≠ e)
      (hq' : (r = none ∧ q' = q1) ∨ (∃ p, r = some p ∧ q' = hpush q1 { e with prio := p }))
      (hinv : Inv q') :
      StepKind thr s now
        { (({ s with q := q1 } : SState).setTrig e.tag ((s.trig e.tag).fire pv).2) with q := q' }
        { calls := [⟨e.tag, pv, r⟩],
          out := some { outBase e now thr [⟨e.tag, pv, r⟩] with
            pushed := r.map (fun p => { e with prio := p }) } }

theorem step_kind (thr : Int) (s : SState) (hwf : WF0 s) (now : Int) :
    StepKind thr s now (apply thr s (.step now)).1 (apply thr s (.step now)).2 := by
  show StepKind thr s now (step s now thr).1 { calls := (step s now thr).2.calls, out := some (step s now thr).2 }
  have h := hwf.inv
  rcases step_cases s now thr h with ⟨_, hs⟩ | ⟨q1, e, _, hperm, hi, _, hnk, hrows⟩
  · rw [hs]
    exact .idle _ _ (fun _ => Iff.rfl) h rfl rfl (fun _ => rfl) (fun _ _ hh hp => by cases hh; cases hp)
  have he : e ∈ s.q.toList := hperm.mem_iff.mpr List.mem_cons_self
  rcases hrows with ⟨ha, hs⟩ | ⟨pv, ha, hf, hs⟩ | ⟨pv, p, ha, hf, hs⟩ <;> rw [hs]
  · -- the entry goes back as it was: a suspended one already sits at `maxInt64`
    have hkept : keptPrio e now thr = e.prio := by
      rcases classify_cases e now thr with ⟨_, hs, _, hk⟩ | ⟨_, _, _, ha'⟩ | ⟨_, _, _, _, _, hk⟩ | ⟨_, _, _, _, ha'⟩
      · rw [hk, hwf.susp e he hs]
      · rw [ha'] at ha; cases ha
      · exact hk
      · rw [ha'] at ha; cases ha
    rw [hkept]
    refine .idle _ _ (fun x => ?_) (inv_hpush_rest hi hnk e.prio) rfl rfl (fun pos => ?_) ?_
    · show x ∈ (hpush q1 e).toList ↔ _
      rw [mem_hpush_iff, mem_rest_iff h hperm]
      constructor
      · rintro (rfl | ⟨h1, _⟩)
        · exact he
        · exact h1
      · exact fun hx => (Classical.em (x = e)).imp id (fun hxe => ⟨hx, hxe⟩)
    · rw [disp_stepAsk, if_neg fun hc => by unfold askedWith at ha; rw [hc] at ha; cases ha]
    · intro out e' hh hp
      cases hh
      cases hp
      exact he
  · exact .ask e q1 pv none q1 he ha hf (mem_rest_iff h hperm) (Or.inl ⟨rfl, rfl⟩) hi
  · exact .ask e q1 pv (some p) _ he ha hf (mem_rest_iff h hperm)
      (Or.inr ⟨p, rfl, rfl⟩) (inv_hpush_rest hi hnk p)

/-- What one event does, in closed form: its registry effect and its trace, for some entry `rem` that leaves and
some entry `add` that enters; the new registry is well-formed. -/
def Kind (thr : Int) (s : SState) (ev : Ev) (s' : SState) (o : Obs) : Prop :=
  Inv s'.q ∧ ∃ rem add, ((ev = .clear ∧ s'.q = #[]) ∨ Effect ev s.q s'.q rem add) ∧ Trace thr s s' ev o rem add

theorem kind_mem {thr : Int} {s s' : SState} {ev : Ev} {o : Obs} (hk : Kind thr s ev s' o) :
    (ev = .clear ∧ s'.q = #[]) ∨ ∃ rem add, Effect ev s.q s'.q rem add := by
  obtain ⟨_, rem, add, h, _⟩ := hk
  exact h.imp id fun h => ⟨rem, add, h⟩

theorem kind_log {thr : Int} {s s' : SState} {ev : Ev} {o : Obs} (hk : Kind thr s ev s' o) :
    Log thr s s' ev o := by
  obtain ⟨_, _, _, _, h⟩ := hk
  exact h.toLog

/-- a call (`err`, `calls`) shows no popped entry and no dispatch -/
theorem nopop (s : SState) (err : Option SErr) (calls : List TrigCall) (out : StepOut) (e : Entry)
    (h : ({ err := err, calls := calls } : Obs).out = some out) : out.popped = some e → e ∈ s.q.toList := by
  cases h

theorem nodisp (err : Option SErr) (calls : List TrigCall) (pos : Nat) (d : Disp)
    (h : ({ err := err, calls := calls } : Obs).disp? pos = some d) : False := by
  cases h

/-- a call that failed before touching anything, or found nothing to do -/
theorem kind_noop (thr : Int) (s : SState) (ev : Ev) (err : Option SErr) (h : Inv s.q) :
    Kind thr s ev s { err := err } :=
  ⟨h, none, none, Or.inr (.same fun _ => Iff.rfl),
    .silent rfl (fun _ => rfl) rfl (nopop s _ _) (fun _ h => by cases h)⟩

/-- `ScheduleJob` asked its (new) trigger and then failed -/
theorem kind_schedFail (thr : Int) (s : SState) (now : Int) (a : SchedArgs) (r : Option Int) (err : SErr)
    (h : Inv s.q) : Kind thr s (.schedule now a) s { err := some err, calls := [⟨a.tag, now, r⟩] } := by
  refine ⟨h, none, none, Or.inr (.same fun _ => Iff.rfl), ⟨?_, fun _ _ _ => rfl, nopop s _ _⟩,
    fun _ h => (by cases h), fun pos d hd => (nodisp _ _ pos d hd).elim⟩
  intro c hc
  rw [List.mem_singleton] at hc
  subst hc
  exact Or.inl rfl

/-- `ScheduleJob` succeeded: `old` (same key, only with Replace) leaves, the new entry enters -/
theorem kind_sched (thr : Int) (s : SState) (now : Int) (a : SchedArgs) (t t' : Trig) (p : Int)
    (calls : List TrigCall) (q' : Arr) (old : Option Entry)
    (hpc : (a.suspended = true ∧ p = maxInt64 ∧ t' = t ∧ calls = []) ∨
      (a.suspended = false ∧ (t.fire now).1 = some p ∧ t' = (t.fire now).2 ∧ calls = [⟨a.tag, now, some p⟩]))
    (hold : ∀ o, old = some o → o ∈ s.q.toList ∧ o.group = a.group ∧ o.name = a.name)
    (hmem : ∀ x, x ∈ q'.toList ↔ x = a.entry p ∨ (x ∈ s.q.toList ∧ old ≠ some x)) (hinv : Inv q') :
    Kind thr s (.schedule now a) (({ s with q := q' } : SState).setTrig a.tag t')
      { err := none, calls := calls } := by
  refine ⟨hinv, old, some (a.entry p),
    Or.inr ⟨fun x => (hmem x).trans (by simp [eq_comm]), fun r hr => ?_, ?_⟩,
    ⟨fun c hc => ?_, fun t _ hns => ?_, nopop s _ _⟩, ?_, fun pos d hd => (nodisp _ _ pos d hd).elim⟩
  · obtain ⟨h1, hg, hn⟩ := hold r hr
    exact ⟨h1, Or.inl (touches_key hg hn)⟩
  · rintro _ ⟨⟩
    refine ⟨fun hs => ?_, Or.inr ⟨now, a, rfl, rfl, rfl, rfl⟩⟩
    rcases hpc with ⟨_, hp, _, _⟩ | ⟨hs', _, _, _⟩
    · exact hp
    · rw [show (a.entry p).suspended = a.suspended from rfl, hs'] at hs; cases hs
  · rcases hpc with ⟨_, _, _, rfl⟩ | ⟨_, _, _, rfl⟩
    · cases hc
    · rw [List.mem_singleton] at hc; subst hc; exact Or.inl rfl
  · have : t ≠ a.tag := fun hh => hns (by rw [hh]; rfl)
    rw [trig_setTrig_other _ _ _ _ this]; rfl
  · rintro _ ⟨⟩ hs
    rcases hpc with ⟨h1, _⟩ | ⟨_, _, _, rfl⟩
    · rw [show (a.entry p).suspended = a.suspended from rfl, h1] at hs; cases hs
    · exact ⟨now, List.mem_cons_self⟩

theorem stepKind_kind {thr : Int} {s s' : SState} {now : Int} {o : Obs} (hk : StepKind thr s now s' o) :
    Kind thr s (.step now) s' o := by
  cases hk with
  | idle _ _ hmem hinv htr hcalls hdisp hpop =>
    exact ⟨hinv, none, none, Or.inr (.same hmem), .silent hcalls hdisp htr hpop (fun _ h => by cases h)⟩
  | ask e q1 pv r q' he ha hf hmem1 hq' hinv =>
    have hes := (askedWith_some_active ha).1
    rcases hq' with ⟨_, rfl⟩ | ⟨p, hp, rfl⟩
    · exact ⟨hinv, _, _, Or.inr (.drop he hmem1 (Or.inr hes)), .step he ha hf (fun _ h => by cases h)⟩
    · refine ⟨hinv, _, _, Or.inr (.swap he hmem1 (Or.inr hes) (fun hh => ?_) ⟨rfl, rfl, rfl⟩),
        .step he ha hf (by rintro _ ⟨⟩; exact ⟨p, hp, rfl⟩)⟩
      rw [show ({ e with prio := p } : Entry).suspended = e.suspended from rfl, hes] at hh
      cases hh

theorem apply_kind (thr : Int) (s : SState) (hwf : WF0 s) (ev : Ev) :
    Kind thr s ev (apply thr s ev).1 (apply thr s ev).2 := by
  have h := hwf.inv
  cases ev with
  | schedule now a =>
    show Kind thr s _ (schedule s now a).1 { err := (schedule s now a).2.1, calls := (schedule s now a).2.2 }
    rcases schedule_cases s now a with ⟨_, hs⟩ | ⟨_, _, hs⟩ |
      ⟨hl, _, t, p, t', calls, ht, hpc, ⟨e, _, hs⟩ | ⟨q', hq, hs⟩⟩
    · rw [hs]; exact kind_noop thr s _ _ h
    · rw [hs]; exact kind_schedFail thr s now a none _ h
    · rw [hs]
      rcases hpc with ⟨_, _, _, rfl⟩ | ⟨_, _, _, rfl⟩
      · exact kind_noop thr s _ _ h
      · exact kind_schedFail thr s now a (some p) _ h
    · rw [hs]
      rcases sched_push_cases s.q a p h with ⟨hq', _, _⟩ | ⟨hk, hq'⟩ | ⟨hr, old, q'', ho, hg, hn, hq', hperm⟩
      · rw [hq] at hq'; cases hq'
      · rw [hq] at hq'; cases hq'
        refine kind_sched thr s now a t t' p calls _ none hpc (fun _ hh => by cases hh) (fun x => ?_)
          (qpush_new s.q _ h hk).2.2
        rw [mem_hpush_iff]
        simp
      · rw [hq] at hq'; cases hq'
        refine kind_sched thr s now a t t' p calls _ (some old) hpc ?_ (fun x => ?_)
          (qpush_inv s.q _ _ h hq)
        · rintro o ⟨⟩
          exact ⟨ho, hg, hn⟩
        · rw [hperm.mem_iff, List.mem_cons, mem_erase_iff_of_inv h]
          simp only [ne_eq, Option.some.injEq, eq_comm]
  | delete hk g n =>
    show Kind thr s _ (delete s hk g n).1 { err := (delete s hk g n).2 }
    rcases delete_cases s hk g n h with ⟨_, hd⟩ | ⟨_, _, hd⟩ | ⟨rfl, q1, e, he, hg, hn, hperm, hinv, _, hd⟩ <;>
      rw [hd]
    · exact kind_noop thr s _ _ h
    · exact kind_noop thr s _ _ h
    · exact ⟨hinv, _, _, Or.inr (.drop he (mem_rest_iff h hperm) (Or.inl (touches_key hg hn))),
        .silent rfl (fun _ => rfl) rfl (nopop s _ _) (fun _ h => by cases h)⟩
  | pause hk g n =>
    show Kind thr s _ (pause s hk g n).1 { err := (pause s hk g n).2 }
    rcases pause_cases s hk g n h with ⟨_, hp⟩ | ⟨_, _, hp⟩ |
      ⟨rfl, e, he, hg, hn, ⟨_, hp⟩ | ⟨hs, q1, hperm, hinv, hp⟩⟩ <;> rw [hp]
    · exact kind_noop thr s _ _ h
    · exact kind_noop thr s _ _ h
    · exact kind_noop thr s _ _ h
    · exact ⟨hinv, _, _, Or.inr (.swap he (mem_rest_iff h hperm) (Or.inr hs) (fun _ => rfl) ⟨rfl, rfl, rfl⟩),
        .silent rfl (fun _ => rfl) rfl (nopop s _ _) (by rintro _ ⟨⟩; rfl)⟩
  | resume now hk g n =>
    show Kind thr s _ (resume s now hk g n).1
      { err := (resume s now hk g n).2.1, calls := (resume s now hk g n).2.2 }
    rcases resume_cases s now hk g n h with ⟨_, hr⟩ | ⟨_, _, hr⟩ |
      ⟨rfl, e, he, rfl, rfl, ⟨_, hr⟩ | ⟨hs, hf, hr⟩ | ⟨hs, p, q1, hf, hperm, hinv, hr⟩⟩ <;> rw [hr]
    · exact kind_noop thr s _ _ h
    · exact kind_noop thr s _ _ h
    · exact kind_noop thr s _ _ h
    · -- the trigger answered with an error; the entry stays paused
      refine ⟨h, none, none, Or.inr (.same fun _ => Iff.rfl), ⟨fun c hc => ?_, fun t hnc _ => ?_, nopop s _ _⟩,
        fun _ h => (by cases h), fun pos d hd => (nodisp _ _ pos d hd).elim⟩
      · rw [List.mem_singleton] at hc
        subst hc
        exact Or.inr ⟨e, he, rfl, hf.symm, trig_setTrig_same _ _ _, Or.inl ⟨true, rfl⟩⟩
      · exact trig_setTrig_other _ _ _ _ fun hh => hnc _ List.mem_cons_self hh.symm
    · refine ⟨hinv, _, _, Or.inr (.swap he (mem_rest_iff h hperm) (Or.inl (touches_key rfl rfl))
          (fun hh => by cases hh) ⟨rfl, rfl, rfl⟩),
        ⟨fun c hc => ?_, fun t hnc _ => ?_, nopop s _ _⟩, ?_, fun pos d hd => (nodisp _ _ pos d hd).elim⟩
      · rw [List.mem_singleton] at hc
        subst hc
        exact Or.inr ⟨e, he, rfl, hf.symm, trig_setTrig_same _ _ _, Or.inl ⟨true, rfl⟩⟩
      · show (s.setTrig e.tag _).trig t = _
        exact trig_setTrig_other _ _ _ _ fun hh => hnc _ List.mem_cons_self hh.symm
      · rintro _ ⟨⟩ _
        exact ⟨now, List.mem_cons_self⟩
  | clear =>
    exact ⟨inv_empty, none, none, Or.inl ⟨rfl, rfl⟩,
      .silent rfl (fun _ => rfl) rfl (nopop s _ _) (fun _ h => by cases h)⟩
  | step now =>
    exact stepKind_kind (step_kind thr s hwf now)

/-! ## facts about one event -/

theorem kind_wf0 {thr : Int} {s s' : SState} {ev : Ev} {o : Obs} (hwf : WF0 s)
    (hk : Kind thr s ev s' o) : WF0 s' := by
  refine ⟨hk.1, fun x hx hs => ?_⟩
  rcases kind_mem hk with ⟨_, h0⟩ | ⟨rem, add, hmem, _, hadd⟩
  · rw [h0] at hx; cases hx
  · rcases (hmem x).mp hx with ha | ⟨h1, _⟩
    · exact (hadd x ha).1 hs
    · exact hwf.susp x h1 hs

/-- the tag a `schedule` event brings is not carried by an entry yet -/
def FreshEv (s : SState) (ev : Ev) : Prop := ∀ t, ev.schedTag? = some t → ∀ e ∈ s.q.toList, e.tag ≠ t

theorem kind_wf {thr : Int} {s s' : SState} {ev : Ev} {o : Obs} (hwf : WF s) (hfr : FreshEv s ev)
    (hk : Kind thr s ev s' o) : WF s' := by
  have h0 := kind_wf0 hwf.wf0 hk
  refine ⟨h0.inv, ?_, h0.susp⟩
  rcases kind_mem hk with ⟨_, he⟩ | ⟨rem, add, hmem, hrem, hadd⟩
  · rw [TagsDistinct, he]; exact fun _ hx => by cases hx
  · -- an old entry with the tag of the one that enters is the one that leaves
    have htag : ∀ a ∈ add, ∀ y ∈ s.q.toList, y.tag = a.tag → y ∈ rem := by
      intro a ha y hy hyt
      rcases (hadd a ha).2 with ⟨r, hr, hrt, _⟩ | ⟨now, sa, rfl, hst, _⟩
      · rw [hwf.tags y hy r (hrem r hr).1 (hyt.trans hrt.symm)]; exact hr
      · exact absurd (hyt.trans hst.symm) (hfr sa.tag rfl y hy)
    intro x hx y hy hxy
    rcases (hmem x).mp hx with hxa | ⟨hx1, hx2⟩ <;> rcases (hmem y).mp hy with hya | ⟨hy1, hy2⟩
    · exact Option.mem_unique hxa hya
    · exact absurd (htag x hxa y hy1 hxy.symm) hy2
    · exact absurd (htag y hya x hx1 hxy) hx2
    · exact hwf.tags x hx1 y hy1 hxy

theorem kind_tag_key {thr : Int} {s s' : SState} {ev : Ev} {o : Obs} (hk : Kind thr s ev s' o) :
    ∀ x ∈ s'.q.toList,
      (∃ e ∈ s.q.toList, e.tag = x.tag ∧ e.group = x.group ∧ e.name = x.name) ∨
      (∃ now a, ev = .schedule now a ∧ a.tag = x.tag ∧ a.group = x.group ∧ a.name = x.name) := by
  intro x hx
  rcases kind_mem hk with ⟨_, h0⟩ | ⟨rem, add, hmem, hrem, hadd⟩
  · rw [h0] at hx; cases hx
  · rcases (hmem x).mp hx with ha | ⟨h1, _⟩
    · exact (hadd x ha).2.imp (fun ⟨r, hr, h⟩ => ⟨r, (hrem r hr).1, h⟩) id
    · exact Or.inl ⟨x, h1, rfl, rfl, rfl⟩

theorem kind_tags {thr : Int} {s s' : SState} {ev : Ev} {o : Obs} (hk : Kind thr s ev s' o) :
    ∀ x ∈ s'.q.toList, (∃ e ∈ s.q.toList, e.tag = x.tag) ∨ ev.schedTag? = some x.tag := by
  intro x hx
  rcases kind_tag_key hk x hx with ⟨e, he, ht, _⟩ | ⟨now, a, rfl, ht, _⟩
  · exact Or.inl ⟨e, he, ht⟩
  · exact Or.inr (congrArg some ht)

theorem kind_keep {thr : Int} {s s' : SState} {ev : Ev} {o : Obs} (hk : Kind thr s ev s' o)
    (x : Entry) (hx : x ∈ s.q.toList) (hnt : ev.touches x.group x.name = false)
    (hxs : x.suspended = true) : x ∈ s'.q.toList := by
  rcases kind_mem hk with ⟨rfl, _⟩ | ⟨rem, add, hmem, hrem, _⟩
  · cases hnt
  · refine (hmem x).mpr (Or.inr ⟨hx, fun hr => ?_⟩)
    rcases (hrem x hr).2 with ht | hs
    · rw [hnt] at ht; cases ht
    · rw [hxs] at hs; cases hs

theorem kind_disp {thr : Int} {s s' : SState} {ev : Ev} {o : Obs} (hk : Kind thr s ev s' o)
    (pos : Nat) (d : Disp) (hd : o.disp? pos = some d) :
    ∃ now e, ev = .step now ∧ e ∈ s.q.toList ∧ e.suspended = false ∧ d = ⟨pos, e.tag, e.prio⟩ ∧
      now - thr ≤ e.prio ∧ e.prio ≤ now := by
  obtain ⟨_, rem, add, heff, htr⟩ := hk
  obtain ⟨now, e, rfl, hr, hc, rfl⟩ := htr.disp pos d hd
  rcases heff with ⟨h, _⟩ | heff
  · cases h
  · rcases classify_cases e now thr with ⟨h, _⟩ | ⟨h, _⟩ | ⟨h, _⟩ | ⟨_, hs, h3, h4, _⟩
    · rw [hc] at h; cases h
    · rw [hc] at h; cases h
    · rw [hc] at h; cases h
    · exact ⟨now, e, rfl, (heff.left e hr).1, hs, rfl, h3, h4⟩

theorem kind_active {thr : Int} {s s' : SState} {ev : Ev} {o : Obs} (hwf : WF s)
    (hk : Kind thr s ev s' o) (x : Entry) (hx : x ∈ s'.q.toList) (hxs : x.suspended = false) :
    (∃ pv, (⟨x.tag, pv, some x.prio⟩ : TrigCall) ∈ o.calls) ∨
    (x ∈ s.q.toList ∧ ∀ pos d, o.disp? pos = some d → d.tag ≠ x.tag) := by
  obtain ⟨_, rem, add, heff, htr⟩ := hk
  rcases heff with ⟨_, h0⟩ | heff
  · rw [h0] at hx; cases hx
  · rcases (heff.mem x).mp hx with ha | ⟨h1, h2⟩
    · exact Or.inl (htr.made x ha hxs)
    · refine Or.inr ⟨h1, fun pos d hd hdt => ?_⟩
      obtain ⟨now, e, _, hr, _, rfl⟩ := htr.disp pos d hd
      exact h2 (hwf.tags e (heff.left e hr).1 x h1 hdt ▸ hr)

theorem schedule_wf {s : SState} (hwf : WF s) (now : Int) (a : SchedArgs) (hfresh : AbsentTag a.tag s) :
    WF (schedule s now a).1 :=
  kind_wf hwf (fun t ht e he => by cases ht; exact hfresh e he) (apply_kind 0 s hwf.wf0 (.schedule now a))

theorem schedule_inv (s : SState) (now : Int) (a : SchedArgs) (h : Inv s.q) :
    Inv (schedule s now a).1.q := by
  rcases schedule_cases s now a with ⟨_, hs⟩ | ⟨_, _, hs⟩ |
    ⟨_, _, t, p, t', calls, _, _, ⟨e, _, hs⟩ | ⟨q', hq, hs⟩⟩
  · rw [hs]; exact h
  · rw [hs]; exact h
  · rw [hs]; exact h
  · rw [hs]; exact qpush_inv s.q q' _ h hq

theorem schedule_ok_facts (s : SState) (now : Int) (a : SchedArgs) (h : Inv s.q)
    (hok : (schedule s now a).2.1 = none) :
    ∃ t p, a.trig = some t ∧ ¬ a.illegal ∧
      ((a.suspended = true ∧ p = maxInt64 ∧ (schedule s now a).1.trig a.tag = t ∧
          (schedule s now a).2.2 = []) ∨
       (a.suspended = false ∧ (t.fire now).1 = some p ∧
          (schedule s now a).1.trig a.tag = (t.fire now).2 ∧
          (schedule s now a).2.2 = [⟨a.tag, now, some p⟩])) ∧
      a.entry p ∈ (schedule s now a).1.q.toList ∧
      (∀ t', t' ≠ a.tag → (schedule s now a).1.trig t' = s.trig t') := by
  rcases schedule_cases s now a with ⟨_, hs⟩ | ⟨_, _, hs⟩ |
    ⟨hl, _, t, p, t', calls, ht, hpc, ⟨e, _, hs⟩ | ⟨q', hq, hs⟩⟩
  · rw [hs] at hok; cases hok
  · rw [hs] at hok; cases hok
  · rw [hs] at hok; cases hok
  · rw [hs]
    have hmem : a.entry p ∈ q'.toList := by
      have := C11_get_after_push s.q q' (a.entry p) h hq
      exact (qget_ok q' (qpush_inv s.q q' _ h hq) _ _ _ this).1
    refine ⟨t, p, ht, hl, ?_, hmem, fun t' ht' => by rw [trig_setTrig_other _ _ _ _ ht']; rfl⟩
    rcases hpc with ⟨h1, h2, h3, h4⟩ | ⟨h1, h2, h3, h4⟩
    · exact Or.inl ⟨h1, h2, by rw [trig_setTrig_same, h3], h4⟩
    · exact Or.inr ⟨h1, h2, by rw [trig_setTrig_same, h3], h4⟩

/-! ## `run` -/

@[simp] theorem run_nil (thr : Int) (s : SState) : run thr s [] = (s, []) := rfl

theorem run_cons (thr : Int) (s : SState) (ev : Ev) (evs : List Ev) :
    run thr s (ev :: evs) =
      ((run thr (apply thr s ev).1 evs).1, (apply thr s ev).2 :: (run thr (apply thr s ev).1 evs).2) := rfl

theorem run_append (thr : Int) (s : SState) (evs1 evs2 : List Ev) :
    run thr s (evs1 ++ evs2) =
      ((run thr (run thr s evs1).1 evs2).1, (run thr s evs1).2 ++ (run thr (run thr s evs1).1 evs2).2) := by
  induction evs1 generalizing s with
  | nil => rfl
  | cons ev evs ih =>
    rw [List.cons_append, run_cons, ih, run_cons]
    rfl

theorem run_length (thr : Int) (s : SState) (evs : List Ev) : (run thr s evs).2.length = evs.length := by
  induction evs generalizing s with
  | nil => rfl
  | cons ev evs ih => rw [run_cons]; simp [ih]

theorem callLog_cons (o : Obs) (os : List Obs) : callLog (o :: os) = o.calls ++ callLog os := by
  simp [callLog]

theorem callLog_append (o1 o2 : List Obs) : callLog (o1 ++ o2) = callLog o1 ++ callLog o2 := by
  simp [callLog]

theorem dispatchTimes_append (t : Nat) (o1 o2 : List Obs) :
    dispatchTimes t (o1 ++ o2) = dispatchTimes t o1 ++ dispatchTimes t o2 := by
  unfold dispatchTimes; exact List.filterMap_append

theorem dispatchTimes_cons (t : Nat) (o : Obs) (os : List Obs) :
    dispatchTimes t (o :: os) = (o.dispTime? t).toList ++ dispatchTimes t os := by
  unfold dispatchTimes
  rw [List.filterMap_cons]
  cases o.dispTime? t <;> rfl

theorem dispTime_some_iff (t : Nat) (o : Obs) (f : Int) :
    o.dispTime? t = some f ↔ ∃ d, o.disp? 0 = some d ∧ d.tag = t ∧ d.time = f := by
  unfold Obs.dispTime?
  cases o.disp? 0 with
  | none => simp
  | some d =>
    simp only [Option.some.injEq, exists_eq_left']
    by_cases hd : d.tag = t
    · simp [hd]
    · simp [hd]

theorem filter_tag_eq_nil {l : List TrigCall} {t : Nat} (h : ∀ cl ∈ l, cl.tag ≠ t) :
    l.filter (fun cl => cl.tag == t) = [] := by
  simpa [List.filter_eq_nil_iff] using h

theorem schedTags_cons (ev : Ev) (evs : List Ev) :
    schedTags (ev :: evs) = ev.schedTag?.toList ++ schedTags evs := by
  unfold schedTags
  rw [List.filterMap_cons]
  cases ev.schedTag? <;> rfl

theorem schedTags_append (evs1 evs2 : List Ev) :
    schedTags (evs1 ++ evs2) = schedTags evs1 ++ schedTags evs2 := by
  unfold schedTags
  exact List.filterMap_append

theorem fresh_cons {thr : Int} {s s' : SState} {ev : Ev} {evs : List Ev} {o : Obs}
    (hft : FreshTags (ev :: evs)) (hff : FreshFor s (ev :: evs)) (hk : Kind thr s ev s' o) :
    FreshEv s ev ∧ FreshTags evs ∧ FreshFor s' evs := by
  unfold FreshTags at hft
  unfold FreshFor at hff
  rw [schedTags_cons] at hft hff
  refine ⟨?_, ?_, ?_⟩
  · intro t ht
    exact hff t (List.mem_append_left _ (by rw [ht]; simp))
  · exact (List.nodup_append.mp hft).2.1
  · intro t ht x hx
    rcases kind_tags hk x hx with ⟨e, he, het⟩ | hst
    · rw [← het]; exact hff t (List.mem_append_right _ ht) e he
    · exact (List.nodup_append.mp hft).2.2 x.tag (by rw [hst]; simp) t ht

theorem freshFor_empty (evs : List Ev) : FreshFor {} evs := fun _ _ e he => by simp at he

theorem onlySteps_schedTags {evs : List Ev} (h : OnlySteps evs) : schedTags evs = [] := by
  induction evs with
  | nil => rfl
  | cons ev evs ih =>
    obtain ⟨now, rfl⟩ := h _ List.mem_cons_self
    rw [schedTags_cons, ih (fun ev' hev' => h ev' (List.mem_cons_of_mem _ hev'))]
    rfl

theorem onlySteps_fresh {evs : List Ev} (h : OnlySteps evs) (s : SState) :
    FreshTags evs ∧ FreshFor s evs := by
  unfold FreshTags FreshFor
  rw [onlySteps_schedTags h]
  exact ⟨List.nodup_nil, fun t ht => by cases ht⟩

/-- Induction along a history.  `J` relates a state to the events still to come; every event carries it over,
and its observation then satisfies `R`. -/
theorem run_induct (thr : Int) {J : SState → List Ev → Prop} {R : Obs → Prop}
    (hstep : ∀ s ev evs, J s (ev :: evs) → J (apply thr s ev).1 evs ∧ R (apply thr s ev).2)
    (evs : List Ev) (s : SState) (h : J s evs) :
    J (run thr s evs).1 [] ∧ ∀ o ∈ (run thr s evs).2, R o := by
  induction evs generalizing s with
  | nil => exact ⟨h, fun _ ho => by cases ho⟩
  | cons ev evs ih =>
    obtain ⟨h1, h2⟩ := hstep s ev evs h
    obtain ⟨i1, i2⟩ := ih _ h1
    rw [run_cons]
    exact ⟨i1, List.forall_mem_cons.mpr ⟨h2, i2⟩⟩

/-- ... with `WF0` carried along: an invariant `I` of the state that every event admitted by `A` keeps -/
theorem run_wf0_induct (thr : Int) {I : SState → Prop} {A : Ev → Prop} {R : Obs → Prop}
    (hstep : ∀ {s ev s' o}, WF0 s → Kind thr s ev s' o → A ev → I s → I s' ∧ R o)
    (evs : List Ev) (s : SState) (hwf : WF0 s) (hA : ∀ ev ∈ evs, A ev) (hI : I s) :
    WF0 (run thr s evs).1 ∧ I (run thr s evs).1 ∧ ∀ o ∈ (run thr s evs).2, R o := by
  have h := run_induct thr (J := fun s evs => WF0 s ∧ (∀ ev ∈ evs, A ev) ∧ I s) (R := R)
    (fun s ev evs ⟨hwf, hA, hI⟩ => by
      have hk := apply_kind thr s hwf ev
      obtain ⟨hI', hR⟩ := hstep hwf hk (hA ev List.mem_cons_self) hI
      exact ⟨⟨kind_wf0 hwf hk, fun ev' h => hA ev' (List.mem_cons_of_mem _ h), hI'⟩, hR⟩)
    evs s ⟨hwf, hA, hI⟩
  exact ⟨h.1.1, h.1.2.2, h.2⟩

/-- ... with `WF` carried along a fresh history -/
theorem run_fresh_induct (thr : Int) {I : SState → Prop} {A : Ev → Prop} {R : Obs → Prop}
    (hstep : ∀ {s ev s' o}, WF s → FreshEv s ev → Kind thr s ev s' o → A ev → I s → I s' ∧ R o)
    (evs : List Ev) (s : SState) (hwf : WF s) (hft : FreshTags evs) (hff : FreshFor s evs)
    (hA : ∀ ev ∈ evs, A ev) (hI : I s) :
    WF (run thr s evs).1 ∧ I (run thr s evs).1 ∧ ∀ o ∈ (run thr s evs).2, R o := by
  have h := run_induct thr
    (J := fun s evs => WF s ∧ FreshTags evs ∧ FreshFor s evs ∧ (∀ ev ∈ evs, A ev) ∧ I s) (R := R)
    (fun s ev evs ⟨hwf, hft, hff, hA, hI⟩ => by
      have hk := apply_kind thr s hwf.wf0 ev
      obtain ⟨h1, h2, h3⟩ := fresh_cons hft hff hk
      obtain ⟨hI', hR⟩ := hstep hwf h1 hk (hA ev List.mem_cons_self) hI
      exact ⟨⟨kind_wf hwf h1 hk, h2, h3, fun ev' h => hA ev' (List.mem_cons_of_mem _ h), hI'⟩, hR⟩)
    evs s ⟨hwf, hft, hff, hA, hI⟩
  exact ⟨h.1.1, h.1.2.2.2.2, h.2⟩

theorem run_wf0 (thr : Int) (evs : List Ev) (s : SState) (hwf : WF0 s) : WF0 (run thr s evs).1 :=
  (run_wf0_induct thr (I := fun _ => True) (R := fun _ => True) (fun _ _ _ _ => ⟨trivial, trivial⟩) evs s hwf
    (fun _ _ => trivial) trivial).1

theorem run_wf (thr : Int) (evs : List Ev) (s : SState) (hwf : WF s) (hft : FreshTags evs)
    (hff : FreshFor s evs) : WF (run thr s evs).1 :=
  (run_fresh_induct thr (I := fun _ => True) (R := fun _ => True) (fun _ _ _ _ _ => ⟨trivial, trivial⟩) evs s
    hwf hft hff (fun _ _ => trivial) trivial).1

theorem not_mem_schedTags {t : Nat} {evs : List Ev} :
    t ∉ schedTags evs ↔ ∀ ev ∈ evs, ev.schedTag? ≠ some t := by
  simp [schedTags, List.mem_filterMap]

theorem freshTags_append_left {evs1 evs2 : List Ev} (h : FreshTags (evs1 ++ evs2)) : FreshTags evs1 := by
  unfold FreshTags at h ⊢
  rw [schedTags_append] at h
  exact (List.nodup_append.mp h).1

theorem run_fresh (thr : Int) (evs1 evs2 : List Ev) (s : SState) (hwf : WF s)
    (hft : FreshTags (evs1 ++ evs2)) (hff : FreshFor s (evs1 ++ evs2)) :
    WF (run thr s evs1).1 ∧ FreshTags evs2 ∧ FreshFor (run thr s evs1).1 evs2 := by
  induction evs1 generalizing s with
  | nil => exact ⟨hwf, hft, hff⟩
  | cons ev evs ih =>
    have hk := apply_kind thr s hwf.wf0 ev
    obtain ⟨h1, h2, h3⟩ := fresh_cons hft hff hk
    exact ih _ (kind_wf hwf h1 hk) h2 h3

theorem reachable_split (thr : Int) (evs1 : List Ev) (ev : Ev) (evs2 : List Ev)
    (hft : FreshTags (evs1 ++ ev :: evs2)) :
    WF (run thr {} evs1).1 ∧ FreshTags evs2 ∧ FreshFor (apply thr (run thr {} evs1).1 ev).1 evs2 ∧
      ∀ e ∈ (run thr {} evs1).1.q.toList, e.tag ∉ schedTags evs2 := by
  obtain ⟨hwf, h2, h3⟩ := run_fresh thr evs1 (ev :: evs2) {} wf_empty hft (freshFor_empty _)
  have hk := apply_kind thr _ hwf.wf0 ev
  obtain ⟨_, h4, h5⟩ := fresh_cons h2 h3 hk
  refine ⟨hwf, h4, h5, ?_⟩
  intro e he hmem
  have : e.tag ∈ schedTags (ev :: evs2) := by
    rw [schedTags_cons]; exact List.mem_append_right _ hmem
  exact h3 e.tag this e he rfl

/-! ## a tag that is not in the registry stays out, and silent -/

theorem quiet_noConsume {t : Nat} {o : Obs} (h : o.quiet t) : o.noConsume t := by
  refine ⟨h.1, ?_⟩
  intro pos d hd
  unfold Obs.disp? at hd
  split at hd
  · rename_i out ho
    split at hd
    · split at hd
      · rename_i e hp
        injection hd with hd
        subst hd
        exact h.2 out e ho hp
      · cases hd
    · cases hd
  · cases hd

theorem dispTime_none_of_quiet {t : Nat} {o : Obs} (h : o.quiet t) : o.dispTime? t = none := by
  cases hd : o.dispTime? t with
  | none => rfl
  | some v =>
    obtain ⟨d, hd0, hdt, _⟩ := (dispTime_some_iff t o v).mp hd
    exact absurd hdt ((quiet_noConsume h).2 0 d hd0)

theorem quiet_nothing (t : Nat) (obs : List Obs) (h : ∀ o ∈ obs, o.quiet t) :
    dispatchTimes t obs = [] ∧ (callLog obs).filter (fun cl => cl.tag == t) = [] ∧
      ∀ cl ∈ callLog obs, cl.tag ≠ t := by
  have hcl : ∀ cl ∈ callLog obs, cl.tag ≠ t := by
    intro cl hcl
    obtain ⟨o, ho, hco⟩ := List.mem_flatMap.mp hcl
    exact (h o ho).1 cl hco
  exact ⟨List.filterMap_eq_nil_iff.mpr fun o ho => dispTime_none_of_quiet (h o ho), filter_tag_eq_nil hcl, hcl⟩

theorem kind_absent {thr : Int} {s s' : SState} {ev : Ev} {o : Obs} {t : Nat}
    (hk : Kind thr s ev s' o) (ha : AbsentTag t s) (hns : ev.schedTag? ≠ some t) :
    AbsentTag t s' ∧ o.quiet t := by
  refine ⟨?_, ?_, ?_⟩
  · intro x hx hxt
    rcases kind_tags hk x hx with ⟨e, he, het⟩ | hst
    · exact ha e he (by rw [het, hxt])
    · exact hns (by rw [hst, hxt])
  · intro c hc hct
    rcases (kind_log hk).calls c hc with hst | ⟨e, he, het, _⟩
    · exact hns (by rw [hst, hct])
    · exact ha e he (by rw [het, hct])
  · intro out e ho hp
    exact ha e ((kind_log hk).pop out e ho hp)

theorem run_absent (thr : Int) (t : Nat) (evs : List Ev) (s : SState) (hwf : WF0 s)
    (ha : AbsentTag t s) (hns : t ∉ schedTags evs) :
    AbsentTag t (run thr s evs).1 ∧ ∀ o ∈ (run thr s evs).2, o.quiet t :=
  (run_wf0_induct thr (fun _ hk hns ha => kind_absent hk ha hns) evs s hwf (not_mem_schedTags.mp hns) ha).2

theorem run_nokey (thr : Int) (g n : String) (evs : List Ev) (s : SState) (hwf : WF0 s)
    (hnk : ¬ hasKey s.q g n) (hns : ∀ ev ∈ evs, ev.schedulesKey g n = false) :
    ¬ hasKey (run thr s evs).1.q g n := by
  refine (run_wf0_induct thr (I := fun s => ¬ hasKey s.q g n) (R := fun _ => True)
    (fun {s ev s' o} _ hk hns hnk => ⟨?_, trivial⟩) evs s hwf hns hnk).2.1
  rintro ⟨x, hx, hg, hn⟩
  rcases kind_tag_key hk x hx with ⟨e, he, _, heg, hen⟩ | ⟨now, a, rfl, _, hag, han⟩
  · exact hnk ⟨e, he, by rw [heg, hg], by rw [hen, hn]⟩
  · simp [Ev.schedulesKey, hag, han, hg, hn] at hns

theorem run_tag_key (thr : Int) (t : Nat) (g n : String) (evs : List Ev) (s : SState) (hwf : WF0 s)
    (hns : t ∉ schedTags evs) (hkey : ∀ x ∈ s.q.toList, x.tag = t → x.group = g ∧ x.name = n) :
    ∀ x ∈ (run thr s evs).1.q.toList, x.tag = t → x.group = g ∧ x.name = n := by
  refine (run_wf0_induct thr (I := fun s => ∀ x ∈ s.q.toList, x.tag = t → x.group = g ∧ x.name = n)
    (R := fun _ => True) (fun {s ev s' o} _ hk hns hkey => ⟨fun x hx hxt => ?_, trivial⟩)
    evs s hwf (not_mem_schedTags.mp hns) hkey).2.1
  rcases kind_tag_key hk x hx with ⟨e, he, het, heg, hen⟩ | ⟨now, a, rfl, hat, _⟩
  · rw [← heg, ← hen]; exact hkey e he (by rw [het, hxt])
  · exact absurd (congrArg some (hat.trans hxt)) hns

/-! ## a paused entry whose key is left alone -/

theorem kind_paused {thr : Int} {s s' : SState} {ev : Ev} {o : Obs} (hwf : WF s)
    (hk : Kind thr s ev s' o) (hfr : FreshEv s ev) (x : Entry) (hx : x ∈ s.q.toList)
    (hxs : x.suspended = true) (hnt : ev.touches x.group x.name = false) :
    x ∈ s'.q.toList ∧ o.noConsume x.tag ∧ s'.trig x.tag = s.trig x.tag := by
  have hcalls : ∀ c ∈ o.calls, c.tag ≠ x.tag := by
    intro c hc hct
    rcases (kind_log hk).calls c hc with hst | ⟨e, he, het, _, _, hev⟩
    · exact hfr c.tag hst x hx hct.symm
    · obtain rfl : e = x := hwf.tags e he x hx (by rw [het, hct])
      rcases hev with ⟨_, rfl⟩ | ⟨now, _, ha⟩
      · rw [show (Ev.resume _ _ e.group e.name).touches e.group e.name = true from touches_key rfl rfl] at hnt
        cases hnt
      · rw [(askedWith_some_active ha).1] at hxs; cases hxs
  refine ⟨kind_keep hk x hx hnt hxs, ⟨hcalls, ?_⟩, ?_⟩
  · intro pos d hd hdt
    obtain ⟨now, e, _, he, hes, hde, _⟩ := kind_disp hk pos d hd
    subst hde
    have : e = x := hwf.tags e he x hx hdt
    subst this
    rw [hxs] at hes; cases hes
  · apply (kind_log hk).frame x.tag hcalls
    intro hst
    exact hfr x.tag hst x hx rfl

theorem run_paused (thr : Int) (evs : List Ev) (s : SState) (hwf : WF s) (hft : FreshTags evs)
    (hff : FreshFor s evs) (x : Entry) (hx : x ∈ s.q.toList) (hxs : x.suspended = true)
    (hnt : ∀ ev ∈ evs, ev.touches x.group x.name = false) :
    x ∈ (run thr s evs).1.q.toList ∧ (∀ o ∈ (run thr s evs).2, o.noConsume x.tag) ∧
      (run thr s evs).1.trig x.tag = s.trig x.tag := by
  obtain ⟨_, ⟨h1, h2⟩, h3⟩ := run_fresh_induct thr
    (I := fun s' => x ∈ s'.q.toList ∧ s'.trig x.tag = s.trig x.tag) (R := fun o => o.noConsume x.tag)
    (fun hwf hfr hk hnt ⟨hx, htr⟩ => by
      obtain ⟨i1, i2, i3⟩ := kind_paused hwf hk hfr x hx hxs hnt
      exact ⟨⟨i1, i3.trans htr⟩, i2⟩)
    evs s hwf hft hff hnt ⟨hx, rfl⟩
  exact ⟨h1, h3, h2⟩

/-! ## dispatches, and the pending-call invariant (C03) -/

theorem AllPairs.length_eq {α β : Type} {R : α → β → Prop} {as : List α} {bs : List β}
    (h : AllPairs R as bs) : as.length = bs.length := by
  induction h with
  | nil => rfl
  | cons _ _ ih => simp [ih]

theorem AllPairs.get {α β : Type} {R : α → β → Prop} {as : List α} {bs : List β}
    (h : AllPairs R as bs) : ∀ (i : Nat) (h1 : i < as.length) (h2 : i < bs.length), R as[i] bs[i] := by
  induction h with
  | nil => intro i h1; cases h1
  | cons hr _ ih =>
    intro i h1 h2
    cases i with
    | zero => exact hr
    | succ i => exact ih i (by simpa using h1) (by simpa using h2)

/-- what `dispatchesFrom` lists: exactly the dispatches of the observations, each stamped with the
length of the call log before its step -/
theorem mem_dispatchesFrom (p : Nat) (obs : List Obs) (d : Disp) :
    d ∈ dispatchesFrom p obs ↔
      ∃ pre o post, obs = pre ++ o :: post ∧ o.disp? (p + (callLog pre).length) = some d := by
  induction obs generalizing p with
  | nil =>
    constructor
    · intro h; cases h
    · rintro ⟨pre, o, post, h, _⟩
      cases pre <;> cases h
  | cons o os ih =>
    rw [dispatchesFrom, List.mem_append, ih, Option.mem_toList]
    constructor
    · rintro (h | ⟨pre, o', post, rfl, h⟩)
      · exact ⟨[], o, os, rfl, h⟩
      · exact ⟨o :: pre, o', post, rfl, by rw [callLog_cons, List.length_append, ← Nat.add_assoc]; exact h⟩
    · rintro ⟨pre, o', post, h1, h2⟩
      cases pre with
      | nil => cases h1; exact Or.inl h2
      | cons o'' pre =>
        cases h1
        rw [callLog_cons, List.length_append, ← Nat.add_assoc] at h2
        exact Or.inr ⟨pre, o', post, rfl, h2⟩

/-- an observation in the middle of a run belongs to one event, applied to the state the events before
it lead to -/
theorem run_split_obs (thr : Int) (evs : List Ev) :
    ∀ (s : SState) (pre : List Obs) (o : Obs) (post : List Obs),
      (run thr s evs).2 = pre ++ o :: post →
      ∃ evs1 ev evs2, evs = evs1 ++ ev :: evs2 ∧ pre = (run thr s evs1).2 ∧
        o = (apply thr (run thr s evs1).1 ev).2 := by
  induction evs with
  | nil =>
    intro s pre o post h
    cases pre <;> cases h
  | cons ev evs ih =>
    intro s pre o post h
    rw [run_cons] at h
    cases pre with
    | nil =>
      simp only [List.nil_append, List.cons.injEq] at h
      exact ⟨[], ev, evs, rfl, rfl, h.1.symm⟩
    | cons o' pre =>
      simp only [List.cons_append, List.cons.injEq] at h
      obtain ⟨evs1, ev', evs2, h1, h2, h3⟩ := ih _ pre o post h.2
      refine ⟨ev :: evs1, ev', evs2, by rw [h1]; rfl, ?_, ?_⟩
      · rw [run_cons, ← h2, h.1]
      · rw [run_cons]; exact h3

theorem dispatch_at_step (thr : Int) (s : SState) (hwf : WF0 s) (evs : List Ev) (d : Disp)
    (hd : d ∈ dispatches (run thr s evs).2) :
    ∃ (evs1 : List Ev) (now : Int) (evs2 : List Ev), evs = evs1 ++ .step now :: evs2 ∧
      (apply thr (run thr s evs1).1 (.step now)).2.disp? (callLog (run thr s evs1).2).length = some d ∧
      d.time ≤ now ∧ now - thr ≤ d.time := by
  unfold dispatches at hd
  obtain ⟨pre, o, post, hobs, hdisp⟩ := (mem_dispatchesFrom 0 _ d).mp hd
  obtain ⟨evs1, ev, evs2, rfl, rfl, rfl⟩ := run_split_obs thr evs s pre o post hobs
  rw [Nat.zero_add] at hdisp
  obtain ⟨now, e, rfl, _, _, hde, h1, h2⟩ :=
    kind_disp (apply_kind thr _ (run_wf0 thr evs1 s hwf) _) _ d hdisp
  exact ⟨evs1, now, evs2, rfl, hdisp, by rw [hde]; exact h2, by rw [hde]; exact h1⟩

/-- every active entry has a trigger call in the log that produced its fire time and has not been
consumed by a dispatch yet -/
def PInv (s : SState) (log : List TrigCall) (used : List Nat) : Prop :=
  ∀ x ∈ s.q.toList, x.suspended = false →
    ∃ k, k ∉ used ∧ ∃ pv, log[k]? = some ⟨x.tag, pv, some x.prio⟩

theorem getElem?_append_of_some {α : Type} (l l' : List α) (k : Nat) (a : α) (h : l[k]? = some a) :
    (l ++ l')[k]? = some a :=
  List.getElem?_append_left (List.getElem?_eq_some_iff.1 h).1 ▸ h

theorem pinv_step {thr : Int} {s s' : SState} {ev : Ev} {o : Obs} (hwf : WF s)
    (hk : Kind thr s ev s' o) (log : List TrigCall) (used : List Nat) (hp : PInv s log used)
    (hu : ∀ k ∈ used, k < log.length) :
    (o.disp? log.length = none ∧ PInv s' (log ++ o.calls) used) ∨
    (∃ d k, o.disp? log.length = some d ∧ d.pos = log.length ∧ k ∉ used ∧ k < log.length ∧
      (∃ pv, log[k]? = some ⟨d.tag, pv, some d.time⟩) ∧ PInv s' (log ++ o.calls) (k :: used)) := by
  -- `PInv` afterwards, for a set `used'` of consumed indices of the old log, follows from what it says of the old
  -- entries that are not dispatched
  have hpinv : ∀ used', (∀ k ∈ used', k < log.length) →
      (∀ x ∈ s.q.toList, x.suspended = false → (∀ pos d, o.disp? pos = some d → d.tag ≠ x.tag) →
        ∃ k, k ∉ used' ∧ ∃ pv, log[k]? = some ⟨x.tag, pv, some x.prio⟩) → PInv s' (log ++ o.calls) used' := by
    intro used' hu' hold x hx hxs
    rcases kind_active hwf hk x hx hxs with ⟨pv, hc⟩ | ⟨hx0, hnd⟩
    · -- an entry produced by a call of this event: its index is beyond the old log
      obtain ⟨i, hi, hget⟩ := List.getElem_of_mem hc
      refine ⟨log.length + i, fun hh => by have := hu' _ hh; omega, pv, ?_⟩
      rw [List.getElem?_append_right (Nat.le_add_right _ _), Nat.add_sub_cancel_left,
        List.getElem?_eq_getElem hi, hget]
    · obtain ⟨k, hk1, pv, hk2⟩ := hold x hx0 hxs hnd
      exact ⟨k, hk1, pv, getElem?_append_of_some _ _ _ _ hk2⟩
  cases hd : o.disp? log.length with
  | none => exact Or.inl ⟨rfl, hpinv used hu fun x hx hxs _ => hp x hx hxs⟩
  | some d =>
    right
    obtain ⟨now, e, _, he, hes, hde, _⟩ := kind_disp hk log.length d hd
    obtain ⟨ke, hke1, pve, hke2⟩ := hp e he hes
    have hkelt := (List.getElem?_eq_some_iff.1 hke2).1
    refine ⟨d, ke, rfl, by rw [hde], hke1, hkelt, ⟨pve, by rw [hde]; exact hke2⟩,
      hpinv _ (List.forall_mem_cons.mpr ⟨hkelt, hu⟩) fun x hx hxs hnd => ?_⟩
    obtain ⟨k, hk1, pv, hk2⟩ := hp x hx hxs
    refine ⟨k, fun hh => ?_, pv, hk2⟩
    rcases List.mem_cons.mp hh with rfl | h1
    · -- the index the dispatch consumed carries the dispatched tag
      rw [hke2] at hk2
      injection hk2 with hk2
      injection hk2 with ht
      exact hnd log.length d hd (by rw [hde]; exact ht)
    · exact hk1 h1

/-- the induction behind `C03_own_trigger_once`: start anywhere, with a log and a set of consumed indices -/
theorem own_trigger_aux (thr : Int) (evs : List Ev) :
    ∀ (s : SState) (log : List TrigCall) (used : List Nat), WF s → FreshTags evs → FreshFor s evs →
      PInv s log used → (∀ k ∈ used, k < log.length) →
      ∃ m : List Nat, (∀ k ∈ m, k ∉ used) ∧ m.Nodup ∧
        AllPairs (fun d k => k < d.pos ∧
            ∃ pv, (log ++ callLog (run thr s evs).2)[k]? = some ⟨d.tag, pv, some d.time⟩)
          (dispatchesFrom log.length (run thr s evs).2) m := by
  induction evs with
  | nil =>
    intro s log used _ _ _ _ _
    exact ⟨[], (fun k hk => by cases hk), List.nodup_nil, AllPairs.nil⟩
  | cons ev evs ih =>
    intro s log used hwf hft hff hp hu
    have hk := apply_kind thr s hwf.wf0 ev
    obtain ⟨h1, h2, h3⟩ := fresh_cons hft hff hk
    have hwf' := kind_wf hwf h1 hk
    have hlog : log ++ callLog (run thr s (ev :: evs)).2 =
        (log ++ (apply thr s ev).2.calls) ++ callLog (run thr (apply thr s ev).1 evs).2 :=
      (List.append_assoc _ _ _).symm
    have hdis : dispatchesFrom log.length (run thr s (ev :: evs)).2 =
        ((apply thr s ev).2.disp? log.length).toList ++
          dispatchesFrom (log ++ (apply thr s ev).2.calls).length (run thr (apply thr s ev).1 evs).2 := by
      rw [List.length_append]
      rfl
    rw [hlog, hdis]
    have hlen : ∀ k, k < log.length → k < (log ++ (apply thr s ev).2.calls).length :=
      fun k h => by rw [List.length_append]; omega
    rcases pinv_step hwf hk log used hp hu with ⟨hd, hp'⟩ | ⟨d, k, hd, hpos, hk1, hk2, ⟨pv, hk3⟩, hp'⟩
    · obtain ⟨m, hm1, hm2, hm3⟩ := ih _ _ used hwf' h2 h3 hp' fun k hk => hlen k (hu k hk)
      refine ⟨m, hm1, hm2, ?_⟩
      rw [hd]
      exact hm3
    · obtain ⟨m, hm1, hm2, hm3⟩ := ih _ _ (k :: used) hwf' h2 h3 hp'
        (List.forall_mem_cons.mpr ⟨hlen k hk2, fun k' hk' => hlen k' (hu k' hk')⟩)
      refine ⟨k :: m, ?_, ?_, ?_⟩
      · intro k' hk'
        rcases List.mem_cons.mp hk' with rfl | hk'
        · exact hk1
        · exact fun hh => hm1 k' hk' (List.mem_cons_of_mem _ hh)
      · exact List.nodup_cons.mpr ⟨fun hh => hm1 k hh List.mem_cons_self, hm2⟩
      · rw [hd]
        refine AllPairs.cons ⟨by rw [hpos]; exact hk2, pv, ?_⟩ hm3
        exact getElem?_append_of_some _ _ _ _ (getElem?_append_of_some _ _ _ _ hk3)

/-! ## the saturating addition of `SimpleTrigger` / `RunOnceTrigger` (`addNanos`) -/

theorem satAdd_eq {t d : Int} (h : ¬ (d > 0 ∧ t + d > maxInt64)) : satAdd t d = t + d := by
  unfold satAdd; rw [if_neg h]

theorem satAdd_sat {t d : Int} (hd : d > 0) (h : t + d > maxInt64) : satAdd t d = maxInt64 := by
  unfold satAdd; rw [if_pos ⟨hd, h⟩]

theorem satAdd_le (t d : Int) : satAdd t d ≤ t + d := by
  unfold satAdd; split <;> omega

theorem satAdd_le_max {t d : Int} (ht : t ≤ maxInt64) : satAdd t d ≤ maxInt64 := by
  unfold satAdd; split <;> omega

/-- a positive interval never answers a time before `t` (this is what the unrepaired wrapping addition violated) -/
theorem satAdd_ge {t d : Int} (hd : d > 0) (ht : t ≤ maxInt64) : t ≤ satAdd t d := by
  unfold satAdd; split <;> omega

theorem satAdd_gt {t d : Int} (hd : d > 0) (ht : t < maxInt64) : t < satAdd t d := by
  unfold satAdd; split <;> omega

theorem satAdd_mono {t t' d : Int} (h : t ≤ t') : satAdd t d ≤ satAdd t' d := by
  unfold satAdd; split <;> split <;> omega

/-! ## one step seen from a registry entry; no drift -/

theorem fire_simple (I prev : Int) : Trig.fire (.simple I) prev = (some (satAdd prev I), .simple I) := rfl

theorem fire_runOnce (d prev : Int) :
    Trig.fire (.runOnce d false) prev = (some (satAdd prev d), .runOnce d true) := rfl

/-- One step, seen from a registry entry `x`: either the step leaves it alone (not dispatched, not asked, still
there, its trigger object untouched), or `x` is the popped entry, active, and its trigger is asked. -/
theorem step_frame {thr : Int} {s s' : SState} {now : Int} {o : Obs} (hwf : WF s)
    (hk : StepKind thr s now s' o) (x : Entry) (hx : x ∈ s.q.toList) :
    (o.dispTime? x.tag = none ∧ (∀ c ∈ o.calls, c.tag ≠ x.tag) ∧ x ∈ s'.q.toList ∧
      s'.trig x.tag = s.trig x.tag) ∨
    (∃ pv out, askedWith x now thr = some pv ∧ o.calls = [⟨x.tag, pv, ((s.trig x.tag).fire pv).1⟩] ∧
      o.out = some out ∧ out.popped = some x ∧ out.cls = some (classify x now thr) ∧
      o.dispTime? x.tag = (if classify x now thr = .valid then some x.prio else none) ∧
      s'.trig x.tag = ((s.trig x.tag).fire pv).2 ∧
      (∀ p, ((s.trig x.tag).fire pv).1 = some p → ({ x with prio := p } : Entry) ∈ s'.q.toList) ∧
      (((s.trig x.tag).fire pv).1 = none → AbsentTag x.tag s')) := by
  cases hk with
  | idle _ _ hmem hinv htrs hcalls hdisp hpop =>
    refine Or.inl ⟨by unfold Obs.dispTime?; rw [hdisp 0], by rw [hcalls]; exact fun _ hc => (by cases hc), (hmem x).mpr hx, ?_⟩
    unfold SState.trig; rw [htrs]
  | ask e q1 pv r q' he ha hf hmem1 hq' hinv =>
    have hdt : ∀ t, Obs.dispTime? t { calls := [⟨e.tag, pv, r⟩], out := some { outBase e now thr [⟨e.tag, pv, r⟩] with
        pushed := r.map (fun p => { e with prio := p }) } } =
        if e.tag = t then (if classify e now thr = .valid then some e.prio else none) else none := by
      intro t
      unfold Obs.dispTime?
      rw [disp_stepAsk]
      by_cases hv : classify e now thr = .valid
      · simp only [hv, if_true]
      · simp only [hv, if_false, ite_self]
    by_cases hex : e = x
    · subst hex
      refine Or.inr ⟨pv, _, ha, by rw [hf], rfl, rfl, rfl, by rw [hdt, if_pos rfl], trig_setTrig_same _ _ _,
        fun p hp => ?_, fun hn y hy hyt => ?_⟩
      · rcases hq' with ⟨h1, _⟩ | ⟨p', hp', rfl⟩
        · rw [← hf, hp] at h1; cases h1
        · rw [← hf, hp] at hp'; cases hp'
          exact (mem_hpush_iff _ _ _).mpr (Or.inl rfl)
      · rcases hq' with ⟨_, rfl⟩ | ⟨p', hp', _⟩
        · obtain ⟨hy1, hy2⟩ := (hmem1 y).mp hy
          exact hy2 (hwf.tags y hy1 e he hyt)
        · rw [← hf, hn] at hp'; cases hp'
    · have hte : x.tag ≠ e.tag := fun hh => hex (hwf.tags e he x hx hh.symm)
      refine Or.inl ⟨?_, ?_, ?_, ?_⟩
      · rw [hdt, if_neg (fun hh => hte hh.symm)]
      · intro c hc
        rw [List.mem_singleton] at hc
        subst hc
        exact fun hh => hte hh.symm
      · have hx1 : x ∈ q1.toList := (hmem1 x).mpr ⟨hx, fun hh => hex hh.symm⟩
        rcases hq' with ⟨_, rfl⟩ | ⟨p, _, rfl⟩
        · exact hx1
        · exact (mem_hpush_iff _ _ _).mpr (Or.inr hx1)
      · show ((({ s with q := q1 } : SState).setTrig e.tag _).trig x.tag) = _
        exact trig_setTrig_other _ _ _ _ hte

/-- one loop step, seen from a job `x` that is not found outdated and whose trigger `T` answers `r` for `x.prio`
without changing state (`.cron`, `.simple`, `.fixed`): not dispatched and left as it is; or dispatched for its
scheduled fire time `x.prio`, the trigger asked with exactly that fire time, and the job put back with the answer —
or gone if the trigger had nothing left -/
theorem stateless_drift_step {thr : Int} {s s' : SState} {now : Int} {o : Obs} (hwf : WF s)
    (hk : StepKind thr s now s' o) (x : Entry) (hx : x ∈ s.q.toList)
    (T : Trig) (htr : s.trig x.tag = T) (r : Option Int) (hfire : T.fire x.prio = (r, T))
    (hno : ∀ out e, o.out = some out → out.popped = some e → e.tag = x.tag → out.cls ≠ some .outdated) :
    (o.dispTime? x.tag = none ∧ (∀ cl ∈ o.calls, cl.tag ≠ x.tag) ∧ x ∈ s'.q.toList ∧ s'.trig x.tag = T) ∨
    (x.prio ≤ now ∧ o.dispTime? x.tag = some x.prio ∧ o.calls = [⟨x.tag, x.prio, r⟩] ∧
      ((∃ p, r = some p ∧ ({ x with prio := p } : Entry) ∈ s'.q.toList ∧ s'.trig x.tag = T) ∨
       (r = none ∧ AbsentTag x.tag s'))) := by
  rcases step_frame hwf hk x hx with ⟨h1, h2, h3, h4⟩ |
    ⟨pv, out, ha, hcalls, hout, hpop, hcls, hdt, htr', hin, hgone⟩
  · exact Or.inl ⟨h1, h2, h3, h4.trans htr⟩
  · obtain ⟨_, ⟨hc, rfl, _, hdue⟩ | ⟨hc, _⟩⟩ := askedWith_some_active ha
    · rw [htr, hfire] at hcalls htr' hin hgone
      refine Or.inr ⟨hdue, by rw [hdt, if_pos hc], hcalls, ?_⟩
      cases r with
      | none => exact Or.inr ⟨rfl, hgone rfl⟩
      | some p => exact Or.inl ⟨p, rfl, hin p rfl, htr'⟩
    · exact absurd (hcls.trans (congrArg some hc)) (hno out x hout hpop rfl)

theorem range_shift (k : Nat) (f I : Int) :
    f :: (List.range k).map (fun (i : Nat) => (f + I) + (i : Int) * I) =
      (List.range (k + 1)).map (fun (i : Nat) => f + (i : Int) * I) := by
  rw [List.range_succ_eq_map, List.map_cons, List.map_map]
  congr 1
  · simp
  · apply List.map_congr_left
    intro i _
    simp only [Function.comp]
    rw [Int.natCast_succ, Int.add_mul, Int.one_mul]
    omega

/-- the calls on the trigger are read off the dispatched fire times: each is asked for its successor -/
theorem no_drift_aux (thr I : Int) (t : Nat) (evs : List Ev) :
    ∀ (s : SState) (x : Entry), WF s → x ∈ s.q.toList → x.tag = t →
      s.trig t = .simple I → OnlySteps evs → NeverOutdated t (run thr s evs).2 →
      (I ≤ 0 ∨ ∀ now, Ev.step now ∈ evs → now + I ≤ maxInt64) →
      ∃ k : Nat,
        dispatchTimes t (run thr s evs).2 = (List.range k).map (fun (i : Nat) => x.prio + (i : Int) * I) ∧
        (callLog (run thr s evs).2).filter (fun c => c.tag == t) =
          (dispatchTimes t (run thr s evs).2).map (fun f => (⟨t, f, some (f + I)⟩ : TrigCall)) ∧
        ({ x with prio := x.prio + (k : Int) * I } : Entry) ∈ (run thr s evs).1.q.toList ∧
        (run thr s evs).1.trig t = .simple I := by
  induction evs with
  | nil =>
    intro s x _ hx _ htr _ _ _
    refine ⟨0, rfl, rfl, ?_, htr⟩
    simpa using hx
  | cons ev evs ih =>
    intro s x hwf hx hxt htr hos hno hov
    obtain ⟨now, rfl⟩ := hos _ List.mem_cons_self
    have hov1 : I ≤ 0 ∨ now + I ≤ maxInt64 := hov.imp id (fun h => h now List.mem_cons_self)
    have hov2 : I ≤ 0 ∨ ∀ now', Ev.step now' ∈ evs → now' + I ≤ maxInt64 :=
      hov.imp id (fun h now' hm => h now' (List.mem_cons_of_mem _ hm))
    have hk := apply_kind thr s hwf.wf0 (.step now)
    have hwf' := kind_wf hwf (fun t ht => by cases ht) hk
    rw [run_cons] at hno ⊢
    have hno2 : NeverOutdated t (run thr (apply thr s (.step now)).1 evs).2 :=
      fun o ho => hno o (List.mem_cons_of_mem _ ho)
    have hos2 : OnlySteps evs := fun ev hev => hos ev (List.mem_cons_of_mem _ hev)
    subst hxt
    simp only [dispatchTimes_cons, callLog_cons, List.filter_append]
    rcases stateless_drift_step hwf (step_kind thr s hwf.wf0 now) x hx _ htr _ (fire_simple I x.prio)
        (hno _ List.mem_cons_self) with
      ⟨h1, h2, h3, h4⟩ | ⟨hdue, h1, h2, ⟨p, hp, h3, h4⟩ | ⟨hr, _⟩⟩
    · obtain ⟨k, i1, i2, i3, i4⟩ := ih _ x hwf' h3 rfl h4 hos2 hno2 hov2
      rw [h1, filter_tag_eq_nil h2]
      exact ⟨k, i1, i2, i3, i4⟩
    · -- dispatched only when due (`x.prio ≤ now`): the addition for the next fire time cannot overflow
      have hsat : satAdd x.prio I = x.prio + I := satAdd_eq (fun hh => by omega)
      rw [hsat] at hp h2
      cases hp
      obtain ⟨k, i1, i2, i3, i4⟩ := ih _ { x with prio := x.prio + I } hwf' h3 rfl h4 hos2 hno2 hov2
      rw [h1, h2]
      refine ⟨k + 1, ?_, ?_, ?_, i4⟩
      · rw [← range_shift]; exact congrArg _ i1
      · simp only [List.filter_cons, beq_self_eq_true, if_true, List.filter_nil]
        exact congrArg _ i2
      · have : x.prio + I + (k : Int) * I = x.prio + ((k + 1 : Nat) : Int) * I := by
          rw [Int.natCast_succ, Int.add_mul, Int.one_mul]; omega
        rw [← this]; exact i3
    · cases hr

/-! ## an entry at the largest representable time (a saturated fire time) is left alone -/

theorem parked_aux (thr : Int) (hthr : 0 ≤ thr) (s : SState) (hwf : WF s) (x : Entry) (hx : x ∈ s.q.toList)
    (hprio : x.prio = maxInt64) (evs : List Ev) (hos : OnlySteps evs)
    (hnows : ∀ now, Ev.step now ∈ evs → now < maxInt64) :
    dispatchTimes x.tag (run thr s evs).2 = [] ∧
    (∀ c ∈ callLog (run thr s evs).2, c.tag ≠ x.tag) ∧
    x ∈ (run thr s evs).1.q.toList ∧ (run thr s evs).1.trig x.tag = s.trig x.tag := by
  obtain ⟨⟨_, h1, h2, _⟩, h3⟩ := run_induct thr
    (J := fun s' evs => WF s' ∧ x ∈ s'.q.toList ∧ s'.trig x.tag = s.trig x.tag ∧ OnlySteps evs ∧
      ∀ now, Ev.step now ∈ evs → now < maxInt64)
    (R := fun o => o.dispTime? x.tag = none ∧ ∀ c ∈ o.calls, c.tag ≠ x.tag)
    (fun s' ev evs ⟨hwf, hx, htr, hos, hnows⟩ => by
      obtain ⟨now, rfl⟩ := hos _ List.mem_cons_self
      have hk := apply_kind thr s' hwf.wf0 (.step now)
      have hnow := hnows now List.mem_cons_self
      rcases step_frame hwf (step_kind thr s' hwf.wf0 now) x hx with ⟨i1, i2, i3, i4⟩ | ⟨pv, _, ha, _⟩
      · exact ⟨⟨kind_wf hwf (fun t ht => by cases ht) hk, i3, i4.trans htr,
          fun ev hev => hos ev (List.mem_cons_of_mem _ hev),
          fun now' hm => hnows now' (List.mem_cons_of_mem _ hm)⟩, i1, i2⟩
      · -- asked only if due or late, and `maxInt64` is neither before `now < maxInt64`
        obtain ⟨_, ⟨_, _, _, hdue⟩ | ⟨_, _, hlate⟩⟩ := askedWith_some_active ha <;> omega)
    evs s ⟨hwf, hx, rfl, hos, hnows⟩
  refine ⟨List.filterMap_eq_nil_iff.mpr fun o ho => (h3 o ho).1, fun c hc => ?_, h1, h2⟩
  obtain ⟨o, ho, hco⟩ := List.mem_flatMap.mp hc
  exact (h3 o ho).2 c hco

/-! ## a trigger that has nothing more to give -/

/-- one event, seen from a tag whose trigger object is exhausted (`fire` answers `none` and stays) -/
theorem spent_step {thr : Int} {s s' : SState} {ev : Ev} {o : Obs} (hwf : WF s)
    (hk : Kind thr s ev s' o) (t : Nat) (T : Trig) (hT : ∀ pv, T.fire pv = (none, T))
    (hns : ev.schedTag? ≠ some t) (htr : s.trig t = T) :
    s'.trig t = T ∧ (∀ c ∈ o.calls, c.tag = t → c.result = none) ∧
    (∀ x ∈ s'.q.toList, x.tag = t → x.suspended = false →
      x ∈ s.q.toList ∧ ∀ pos d, o.disp? pos = some d → d.tag ≠ t) := by
  have hcalls : ∀ c ∈ o.calls, c.tag = t → c.result = none ∧ s'.trig t = T := by
    intro c hc hct
    rcases (kind_log hk).calls c hc with hst | ⟨e, he, het, hres, htr', _⟩
    · exact absurd (by rw [hst, hct]) hns
    · rw [het, hct, htr, hT] at hres htr'
      exact ⟨hres, htr'⟩
  refine ⟨?_, fun c hc hct => (hcalls c hc hct).1, ?_⟩
  · by_cases hex : ∃ c ∈ o.calls, c.tag = t
    · obtain ⟨c, hc, hct⟩ := hex
      exact (hcalls c hc hct).2
    · rw [(kind_log hk).frame t (fun c hc hct => hex ⟨c, hc, hct⟩) hns]; exact htr
  · intro x hx hxt hxs
    rcases kind_active hwf hk x hx hxs with ⟨pv, hc⟩ | ⟨h1, h2⟩
    · have := (hcalls _ hc hxt).1
      cases this
    · exact ⟨h1, fun pos d hd => by rw [← hxt]; exact h2 pos d hd⟩

/-- the trigger of tag `t` is spent and its only possible active entry is the one in `a`, if any: at most one
dispatch, of that entry's fire time, and every later call on the trigger answers `none` -/
theorem run_spent_once (thr : Int) (t : Nat) (a : Option Entry) (T : Trig) (hT : ∀ pv, T.fire pv = (none, T))
    (evs : List Ev) (s : SState) (hwf : WF s) (hft : FreshTags evs) (hff : FreshFor s evs)
    (hns : t ∉ schedTags evs) (htr : s.trig t = T)
    (hR : ∀ x ∈ s.q.toList, x.tag = t → x.suspended = false → x ∈ a) :
    (dispatchTimes t (run thr s evs).2 = [] ∨ dispatchTimes t (run thr s evs).2 = a.toList.map (·.prio)) ∧
    (∀ c ∈ callLog (run thr s evs).2, c.tag = t → c.result = none) ∧
    (run thr s evs).1.trig t = T ∧
    (∀ x ∈ (run thr s evs).1.q.toList, x.tag = t → x.suspended = false → x ∈ a) := by
  induction evs generalizing s a with
  | nil => exact ⟨Or.inl rfl, (fun c hc => by cases hc), htr, hR⟩
  | cons ev evs ih =>
    have hk := apply_kind thr s hwf.wf0 ev
    obtain ⟨h1, h2, h3⟩ := fresh_cons hft hff hk
    rw [schedTags_cons] at hns
    have hns1 : ev.schedTag? ≠ some t := fun hh => hns (List.mem_append_left _ (by rw [hh]; simp))
    have hns2 : t ∉ schedTags evs := fun hh => hns (List.mem_append_right _ hh)
    obtain ⟨s1, s2, s3⟩ := spent_step hwf hk t T hT hns1 htr
    have hwf' := kind_wf hwf h1 hk
    rw [run_cons, dispatchTimes_cons]
    have hcl : ∀ rest : List Obs, (∀ c ∈ callLog rest, c.tag = t → c.result = none) →
        ∀ c ∈ callLog ((apply thr s ev).2 :: rest), c.tag = t → c.result = none := by
      intro rest hrest c hc hct
      rw [callLog_cons, List.mem_append] at hc
      rcases hc with hc | hc
      · exact s2 c hc hct
      · exact hrest c hc hct
    cases hdt : (apply thr s ev).2.dispTime? t with
    | none =>
      obtain ⟨i1, i2, i3, i4⟩ := ih a _ hwf' h2 h3 hns2 s1 fun x hx hxt hxs => hR x (s3 x hx hxt hxs).1 hxt hxs
      exact ⟨i1, hcl _ i2, i3, i4⟩
    | some f =>
      -- the dispatched entry is the one in `a`, and the step leaves no active entry with tag `t`
      obtain ⟨d, hd, hdt', hdf⟩ := (dispTime_some_iff _ _ _).mp hdt
      obtain ⟨i1, i2, i3, i4⟩ := ih none _ hwf' h2 h3 hns2 s1
        fun x hx hxt hxs => absurd hdt' ((s3 x hx hxt hxs).2 0 d hd)
      obtain ⟨_, e, _, he, hes, rfl, _⟩ := kind_disp hk 0 d hd
      obtain rfl : a = some e := hR e he hdt' hes
      refine ⟨Or.inr ?_, hcl _ i2, i3, fun x hx hxt hxs => (Option.not_mem_none x (i4 x hx hxt hxs)).elim⟩
      -- with `a := none` both alternatives of `i1` read `= []`
      rw [i1.elim id id, ← hdf]
      rfl

end Sched
