import QuartzModel.Generated.TransCron
import QuartzModel.Theorems.TransFinal
import QuartzModel.Proofs.ZoneLemmas
import QuartzModel.Cron.Parse
/-!
# Lemmas for `Theorems/TransCron.lean`: the translated `CronTrigger.NextFireTime` is the model's `Cron.nextFire`

Here are the concrete externals the translated code is run with: `goClock : ClockExt` (package `time`'s calendar on UTC
seconds, from `Cal.Civil.toSeconds` / `ofSeconds`, with `time.Date`'s normalisation via `Cron.goDate`) and
`locOfZone z : LocExt` (the model's `Zone`); then the inner call of the retry loop (`nextTriggerTime_exact`), what the
cursor shows (`Shows`), and the loops of the parser's integer helpers.
-/

namespace TransCron
open Generated.TransCron Generated.Trans Cron Cal Odo TransRepr TransCsm TransA

/-- `time.Date(y, time.Month(m), d, h, mi, s, 0, time.UTC).Unix()` -/
def goUnixOf (y m d h mi s : Int) : Int := (goDate y m d - epochDay) * 86400 + h * 3600 + mi * 60 + s

/-- a civil date-time as the six `Int`s of the translated code -/
def wallOfCivil (c : Civil) : Wall :=
  { year := c.year, month := c.month, day := c.day, hour := c.hour, minute := c.minute, second := c.second }

/-- the wall-clock fields of `time.Unix(u, 0).UTC()` -/
def goCivil (u : Int) : Wall := wallOfCivil (Civil.ofSeconds u)

/-- package `time` on UTC seconds -/
def goClock : ClockExt := { unixOf := goUnixOf, civil := goCivil }

/-- the model's `Zone` as the location of the translated code -/
def locOfZone (z : Zone) : LocExt := { offsetAt := z.offsetAt, date := z.date }

/-- a `CronTrigger` whose parsed fields are the model's `f` -/
def mkTrigger (expression : String) (f : Fields) (lastDefined : Int) : CronTrigger :=
  { expression := expression, fields := mkFields f, lastDefined := lastDefined }

/-- the model's outcome as the Go result `(int64, error)` of the translated code (`none` = out of fuel) -/
def ofOutcome : Outcome → Option (Int × Option String)
  | .ok r => some (r, none)
  | .expired => some (0, some "ErrTriggerExpired")
  | .outOfFuel => none

theorem ofOutcome_inj (a b : Outcome) (h : ofOutcome a = ofOutcome b) : a = b := by
  -- two different outcomes give results that differ in a constructor; `ok r`, `ok r'` give `r = r'`
  cases a <;> cases b <;> cases h <;> rfl

theorem ofOutcome_expired (o : Outcome) (r : Int) (s : String) (h : ofOutcome o = some (r, some s)) : o = .expired := by
  cases o <;> simp [ofOutcome] at h
  rfl

/-- Go: `prevSec := prev / int64(time.Second); if prev%int64(time.Second) < 0 { prevSec-- }` is floor division -/
theorem floorDiv (p : Int) :
    (if Int.tmod p 1000000000 < 0 then Int.tdiv p 1000000000 - 1 else Int.tdiv p 1000000000) = p / 1000000000 := by
  -- `p = 1e9 * q + r` with `|r| < 1e9` (truncation); the floor quotient is `q - 1` exactly when `r < 0`
  have h1 := Int.mul_tdiv_add_tmod p 1000000000
  have h2 := Int.tmod_lt_of_pos p (show (0 : Int) < 1000000000 by decide)
  have h3 := Int.lt_tmod_of_pos p (show (0 : Int) < 1000000000 by decide)
  split <;> omega

theorem goUnixOf_valid (t : Civil) (hv : t.Valid) :
    goUnixOf t.year t.month t.day t.hour t.minute t.second = t.toSeconds := by
  obtain ⟨⟨hm1, hm12, _, _⟩, _⟩ := hv
  unfold goUnixOf Civil.toSeconds
  rw [TransDay.goDate_valid t.year t.month t.day hm1 hm12]

theorem goCivil_toSeconds (t : Civil) (hv : t.Valid) : goCivil t.toSeconds = wallOfCivil t := by
  unfold goCivil
  rw [Civil.ofSeconds_toSeconds t hv]

/-- the inner call: the exact `Wall` record returned (`TransCsm.trans_nextTriggerTime` reads it back through `Int.toNat`) -/
theorem nextTriggerTime_exact (f : Fields) (hwf : WellFormed f = true) (fuel : Nat) (hfuel : csmFuel + 1 ≤ fuel)
    (wall : Civil) (hv : wall.Valid) (hy : wall.year ≤ 3940) :
    ∃ csm', CronStateMachine.NextTriggerTime goTime
        (newCSMFromFields wall.year wall.month wall.day wall.hour wall.minute wall.second (mkFields f)) fuel =
      some (csm', match csmNext {} f wall with
                  | some (some t) => (wallOfCivil t, true)
                  | _ => (Wall.zero, false)) := by
  obtain ⟨c, fl, hff, hN⟩ := nextTriggerTime_mk goTime f hwf fuel
    (trans_dayEquiv f hwf fuel (Nat.le_trans (by decide) hfuel)) hfuel wall hv hy
  unfold csmNext
  rw [hff, hN]
  -- for `fl = false`: the six node values of `mkCsm {} f c false` are the fields of `wallOfCivil (civilOfCfg c)`
  cases fl <;> exact ⟨_, rfl⟩

/-- the translated cursor (a `time.Time`) shows the model's wall clock -/
def Shows (z : Zone) (wallT : Time) (wallM : Civil) : Prop :=
  goCivil (Time.wallSec (locOfZone z) wallT) = wallOfCivil wallM

theorem shows_fields (z : Zone) (wallT : Time) (wallM : Civil) (h : Shows z wallT wallM) :
    Time.Year goClock (locOfZone z) wallT = wallM.year ∧ Time.Month goClock (locOfZone z) wallT = wallM.month ∧
    Time.Day goClock (locOfZone z) wallT = wallM.day ∧ Time.Hour goClock (locOfZone z) wallT = wallM.hour ∧
    Time.Minute goClock (locOfZone z) wallT = wallM.minute ∧ Time.Second goClock (locOfZone z) wallT = wallM.second := by
  unfold Shows at h
  simp only [Time.Year, Time.Month, Time.Day, Time.Hour, Time.Minute, Time.Second, goClock, h, wallOfCivil, and_self]

theorem shows_utc (z : Zone) (t : Civil) (hv : t.Valid) : Shows z ⟨t.toSeconds, true⟩ t := by
  simp only [Shows, Time.wallSec, Time.zoneOffset, if_true, Int.add_zero]
  exact goCivil_toSeconds t hv

theorem shows_start (z : Zone) (s : Int) :
    Shows z (Time.unixIn s) (Civil.ofSeconds (s + z.offsetAt s)) := rfl

theorem goClock_unixOf : goClock.unixOf = goUnixOf := rfl
theorem locOfZone_date (z : Zone) : (locOfZone z).date = z.date := rfl
theorem locOfZone_offsetAt (z : Zone) : (locOfZone z).offsetAt = z.offsetAt := rfl

/-- (of the model alone) fuel beyond what `zoneLoop` needs does not change its result -/
theorem zoneLoop_mono (f : Fields) (z : Zone) (prevSec prevOff : Int) (fuel : Nat) :
    ∀ (wall : Civil) (fuel' : Nat), fuel ≤ fuel' → zoneLoop {} f z prevSec prevOff fuel wall ≠ .outOfFuel →
      zoneLoop {} f z prevSec prevOff fuel' wall = zoneLoop {} f z prevSec prevOff fuel wall := by
  induction fuel with
  | zero => intro wall _ _ h; exact absurd rfl h
  | succ fuel ih =>
    intro wall fuel' hle hne
    obtain ⟨k, rfl⟩ := Nat.exists_eq_add_one_of_ne_zero (Nat.ne_zero_of_lt hle)
    rw [zoneLoop_succ] at hne ⊢
    rw [zoneLoop_succ]
    cases hc : csmNext {} f wall with
    | none => rfl
    | some o =>
      cases o with
      | none => rfl
      | some nw =>
        simp only [hc] at hne ⊢
        generalize (if fires z (z.date nw.toSeconds) nw.toSeconds prevSec = true
          then z.date nw.toSeconds else nw.toSeconds - prevOff) = next at hne ⊢
        by_cases hf : fires z next nw.toSeconds prevSec = true
        · simp only [hf, if_true]
        · simp only [hf] at hne ⊢
          exact ih nw k (Nat.le_of_succ_le_succ hle) hne

/-- the loop of `fillRangeValues` is that of `fillStepValues` with step 1 -/
theorem fillRange_loop1 (to : Int) : ∀ (cnt : Nat) (i j : Int) (l : List Int),
    fillRangeValues.loop1 to cnt i j l = fillStepValues.loop1 1 to cnt i j l
  | 0, _, _, _ => rfl
  | cnt+1, i, j, l => by
    simp only [fillRangeValues.loop1, fillStepValues.loop1, fillRange_loop1 to cnt]

/-- the loop of `fillStepValues` writes `i, i+step, …` into the `r` remaining cells, `r` being the number of values `≤ ub` -/
theorem fillStep_loop (step : Nat) (ub : Int) : ∀ (r i : Nat) (pre rest : List Int) (cnt : Nat),
    rest.length = r → (∀ x ∈ List.range' i r step, (x : Int) ≤ ub) → ub < ((i + r * step : Nat) : Int) → r < cnt →
    fillStepValues.loop1 step ub cnt i pre.length (pre ++ rest) = some (pre ++ ints (List.range' i r step))
  | 0, i, pre, rest, cnt+1, hr, _, hhi, _ => by
    obtain rfl := List.eq_nil_of_length_eq_zero hr
    have hgt : ¬ (i : Int) ≤ ub := Int.not_le.mpr (by rw [Nat.zero_mul] at hhi; exact hhi)
    simp only [fillStepValues.loop1, hgt, decide_false, Bool.false_eq_true, if_false]
    rfl
  | r+1, i, pre, x :: rest, cnt+1, hr, hlo, hhi, hc => by
    have hle : (i : Int) ≤ ub := hlo i (List.mem_cons_self ..)
    have hset : setIdx (pre ++ x :: rest) pre.length i = (pre ++ [(i : Int)]) ++ rest := by
      simp [setIdx]
    have hj : ((pre.length : Nat) : Int) + 1 = ((pre ++ [(i : Int)]).length : Nat) := by simp
    simp only [fillStepValues.loop1, hle, decide_true, if_true, hset, hj, ← Int.natCast_add i step]
    rw [fillStep_loop step ub r (i + step) (pre ++ [(i : Int)]) rest cnt (Nat.succ.inj hr)
      (fun x hx => hlo x (List.mem_cons_of_mem _ hx)) (by rw [Nat.succ_mul, Nat.add_comm (r * step), ← Nat.add_assoc] at hhi; exact hhi)
      (Nat.lt_of_succ_lt_succ hc)]
    rw [List.range'_succ, ints_cons, List.append_assoc]
    rfl

/-- the whole loop of `fillStepValues`: exactly `(to - frm) / step + 1` values `frm + j * step` are `≤ to` -/
theorem fillStep_run (frm step to fuel : Nat) (hs : 0 < step) (hft : frm ≤ to) (hfuel : to + 3 ≤ fuel + frm) :
    fillStepValues.loop1 step to fuel frm 0 (List.replicate ((to - frm) / step + 1) 0) =
      some (ints (List.range' frm ((to - frm) / step + 1) step)) := by
  have hhi : (to : Int) < ((frm + ((to - frm) / step + 1) * step : Nat) : Int) := by
    have : to - frm < ((to - frm) / step + 1) * step := by rw [Nat.mul_comm]; exact Nat.lt_mul_div_succ _ hs
    omega
  have hlo : ∀ x ∈ List.range' frm ((to - frm) / step + 1) step, (x : Int) ≤ to := fun x hx => by
    obtain ⟨j, hj, rfl⟩ := List.mem_range'.mp hx
    have : step * j ≤ step * ((to - frm) / step) := Nat.mul_le_mul_left _ (Nat.le_of_lt_succ hj)
    have := Nat.mul_div_le (to - frm) step
    omega
  exact fillStep_loop step to ((to - frm) / step + 1) frm [] (List.replicate ((to - frm) / step + 1) 0) fuel
    List.length_replicate hlo hhi (by have := Nat.div_le_self (to - frm) step; omega)

theorem range'_eq_map (step n s : Nat) : List.range' s n step = (List.range n).map (fun j => s + j * step) :=
  List.ext_getElem (by simp) fun i _ _ => by simp [Nat.mul_comm]

/-- the loop of `(*cronField).add` -/
theorem add_loop (delta : Int) : ∀ (rest pre : List Int) (n : Int) (s : Nat), pre.length = s →
    cronField.add.loop1 delta ⟨pre ++ rest, n⟩ ((List.range' s rest.length).map Int.ofNat) =
      ⟨pre ++ rest.map (· + delta), n⟩ := by
  intro rest
  induction rest with
  | nil => intro pre n s _; simp [cronField.add.loop1]
  | cons x rest' ih =>
    intro pre n s hs
    have hidx : Generated.Trans.idx (pre ++ x :: rest') (Int.ofNat s) = x := by
      subst hs; simp [Generated.Trans.idx]
    have hset : setIdx (pre ++ x :: rest') (Int.ofNat s) (x + delta) = (pre ++ [x + delta]) ++ rest' := by
      subst hs; simp [setIdx]
    simp only [List.length_cons, List.range'_succ, List.map_cons, cronField.add.loop1, hidx, hset]
    rw [ih (pre ++ [x + delta]) n (s + 1) (by simp [hs])]
    simp

end TransCron
