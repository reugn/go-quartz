import QuartzModel.Sched.Faults
/-! Lemmas about the fault model `Sched/Faults.lean`: one iteration (`iter`, `fetch`), the timing of a well-timed run once a
back-off deadline is set, the invariant behind `C15_no_double_fire`, and fault-free iterations next to the loop without
back-off state. -/
namespace Faults

variable (S : Shape) (c : Cfg) (trig : Trig)

/-! What `WF` says, clause by clause (the names are those of the fields of `Shape`). -/
theorem WF.onSizeErr {S : Shape} (h : WF S) : S.onSizeErr = .retry := h.1
theorem WF.backoff {S : Shape} (h : WF S) : S.backoff = .deadline := h.2.1
theorem WF.onBackoff {S : Shape} (h : WF S) : S.onBackoff = .untilRetry := h.2.2.1
theorem WF.onEmpty {S : Shape} (h : WF S) : S.onEmpty = .max := h.2.2.2.1
theorem WF.onDefault {S : Shape} (h : WF S) : S.onDefault = .nextTick := h.2.2.2.2.1
theorem WF.headErr {S : Shape} (h : WF S) : S.headErr = .retry := h.2.2.2.2.2.1
theorem WF.headEmpty {S : Shape} (h : WF S) : S.headEmpty = .retry := h.2.2.2.2.2.2.1
theorem WF.stateFromTick {S : Shape} (h : WF S) : S.stateFromTick = true := h.2.2.2.2.2.2.2.1
theorem WF.popErrReturned {S : Shape} (h : WF S) : S.popErrReturned = true := h.2.2.2.2.2.2.2.2.1
theorem WF.popEmpty {S : Shape} (h : WF S) : S.popEmpty = .unlessSizeZero := h.2.2.2.2.2.2.2.2.2.1
theorem WF.pushErrReturned {S : Shape} (h : WF S) : S.pushErrReturned = true := h.2.2.2.2.2.2.2.2.2.2.1
theorem WF.backoffFirst {S : Shape} (h : WF S) : S.backoffFirst = true := h.2.2.2.2.2.2.2.2.2.2.2.1
theorem WF.stateFromArm {S : Shape} (h : WF S) : S.stateFromArm = true := h.2.2.2.2.2.2.2.2.2.2.2.2

/-- The one well-formed shape as a literal. The evaluated examples rewrite `Generated.Faults.shape` to it first: that shape
    is computed from the extractor's strings, and the kernel would compare those strings again each time a field is read. -/
theorem WF.eq_shape {S : Shape} (h : WF S) : S =
    { onSizeErr := .retry, backoff := .deadline, backoffFirst := true, stateFromArm := true, onBackoff := .untilRetry,
      onEmpty := .max, onDefault := .nextTick, headErr := .retry, headEmpty := .retry, stateFromTick := true,
      popErrReturned := true, popEmpty := .unlessSizeZero, pushErrReturned := true } := by
  obtain ⟨h1, h2, h3, h4, h5, h6, h7, h8, h9, h10, h11, h12, h13⟩ := h
  cases S
  simp only at *
  subst h1 h2 h3 h4 h5 h6 h7 h8 h9 h10 h11 h12 h13
  rfl

theorem iter_fields (st : BState) (i : In) :
    (iter S c trig st i).dispatched = (if i.interrupted then none else (fetch S c trig i).dispatched) ∧
    (iter S c trig st i).pushed = (if i.interrupted then none else (fetch S c trig i).pushed) ∧
    (iter S c trig st i).popped = (if i.interrupted then none else (fetch S c trig i).popped) ∧
    (iter S c trig st i).tickErr = (if i.interrupted then false else (fetch S c trig i).tickErr) ∧
    (iter S c trig st i).st =
      (if i.interrupted then afterArm S c st (iter S c trig st i).armErr i.now2
       else afterTick S c (afterArm S c st (iter S c trig st i).armErr i.now2) (fetch S c trig i).retErr i.nowErr) := by
  unfold iter; cases i.interrupted <;> exact ⟨rfl, rfl, rfl, rfl, rfl⟩

theorem iter_armed (st : BState) (i : In) :
    (iter S c trig st i).armed = (match chooseArm S st i.size i.now1 with
      | .zero => 0 | .retry => c.R | .max => c.M | .other => 0
      | .nextTick => calcNextTick S c i.head i.now2
      | .untilRetry => st.retryAt.getD i.now2 - i.now2) := by
  unfold iter; cases i.interrupted <;> rfl

theorem iter_armErr_eq (st : BState) (i : In) :
    (iter S c trig st i).armErr =
      ((!skipsSize S st i.now1 && i.size.isNone) ||
        (decide (chooseArm S st i.size i.now1 = .nextTick) && decide (i.head = .err))) := by
  unfold iter; cases i.interrupted <;> rfl

theorem iter_calls_eq (st : BState) (i : In) :
    (iter S c trig st i).calls =
      (if !skipsSize S st i.now1 then [(.size, if i.size.isSome then .ok else .err)] else []) ++
      (if decide (chooseArm S st i.size i.now1 = .nextTick) then [(.head, i.head.outcome)] else []) ++
      (if i.interrupted then [] else (fetch S c trig i).calls) := by
  unfold iter; cases i.interrupted
  · rfl
  · exact (List.append_nil _).symm

theorem iter_interrupted (st : BState) (i : In)
    (h : i.interrupted = true) :
    (iter S c trig st i).st = afterArm S c st (iter S c trig st i).armErr i.now2 ∧
    (iter S c trig st i).dispatched = none ∧
    (iter S c trig st i).popped = none ∧ (iter S c trig st i).pushed = none ∧
    (iter S c trig st i).tickErr = false := by
  unfold iter; simp [h]

/-- a tick extends the interrupted iteration on the same input by what `fetch` does -/
theorem iter_tick_eq (st : BState) (i : In) (hint : i.interrupted = false) :
    iter S c trig st i =
      let o := iter S c trig st { i with interrupted := true }
      let f := fetch S c trig i
      { o with calls := o.calls ++ f.calls, dispatched := f.dispatched, pushed := f.pushed, popped := f.popped,
               tickErr := f.tickErr, st := afterTick S c o.st f.retErr i.nowErr } := by
  simp only [iter, hint]
  rfl

theorem afterArm_noErr (st : BState) (t : Int) : afterArm S c st false t = st := by
  unfold afterArm; cases S.stateFromArm <;> cases S.backoff <;> simp

theorem afterArm_err (hS : WF S) (st : BState) (t : Int) :
    afterArm S c st true t = { st with retryAt := some (t + c.R) } := by
  simp [afterArm, hS.backoff, hS.stateFromArm]

theorem iter_backoff_quiet (hS : WF S) (st : BState) (i : In)
    (hb : inBackoff S st i.now1 = true) :
    (iter S c trig st i).armErr = false ∧ chooseArm S st i.size i.now1 = .untilRetry ∧
    (iter S c trig st i).calls = (if i.interrupted then [] else (fetch S c trig i).calls) := by
  have hsk : skipsSize S st i.now1 = true := by simp [skipsSize, hb, hS.backoffFirst]
  have hch : chooseArm S st i.size i.now1 = .untilRetry := by simp [chooseArm, hsk, hS.onBackoff]
  refine ⟨?_, hch, ?_⟩
  · rw [iter_armErr_eq]; simp [hsk, hch]
  · rw [iter_calls_eq]; simp [hsk, hch]

theorem iter_asks_size (S : Shape) (c : Cfg) (trig : Trig) (st : BState) (i : In)
    (hb : inBackoff S st i.now1 = false) :
    (iter S c trig st i).calls.head? = some (.size, if i.size.isSome then .ok else .err) := by
  rw [iter_calls_eq]; simp [skipsSize, hb]

theorem iter_armed_of_armErr (hS : WF S) (st : BState) (i : In)
    (h : (iter S c trig st i).armErr = true) : (iter S c trig st i).armed = c.R := by
  by_cases hb : inBackoff S st i.now1 = true
  · rw [(iter_backoff_quiet S c trig hS st i hb).1] at h; cases h
  · have hsk : skipsSize S st i.now1 = false := by simp [skipsSize, hb]
    rw [iter_armErr_eq] at h
    rw [iter_armed]
    cases hs : i.size with
    | none => simp [chooseArm, hS.onSizeErr, hsk]
    | some n =>
      simp [hs] at h
      obtain ⟨ha, hh⟩ := h
      rw [ha]
      simp [calcNextTick, hh, hS.headErr]

/-- before the deadline the timer is armed for exactly the deadline and the queue is asked nothing -/
theorem iter_before_deadline (hS : WF S) (st : BState) (i : In) (r : Int)
    (hr : st.retryAt = some r) (hlt : i.now1 < r) :
    i.now2 + (iter S c trig st i).armed = r ∧ (iter S c trig st i).armErr = false ∧
    (iter S c trig st i).calls = (if i.interrupted then [] else (fetch S c trig i).calls) := by
  have hb : inBackoff S st i.now1 = true := by simp [inBackoff, hS.backoff, hr, hlt]
  obtain ⟨h1, h2, h3⟩ := iter_backoff_quiet S c trig hS st i hb
  refine ⟨?_, h1, h3⟩
  rw [iter_armed, h2]
  simp [hr]
  omega

theorem chooseArm_plain (st : BState) (sz : Option Nat) (now1 : Int)
    (h : inBackoff S st now1 = false) : chooseArm S st sz now1 = chooseArm (plain S) {} sz now1 := by
  have hp : inBackoff (plain S) {} now1 = false := by simp [inBackoff, plain]
  unfold chooseArm skipsSize
  rw [h, hp]
  cases sz <;> simp [plain]

theorem calcNextTick_plain (h : Res Int) (n : Int) :
    calcNextTick (plain S) c h n = calcNextTick S c h n := by
  simp [calcNextTick, plain]

theorem iter_retErr (hS : WF S) (st : BState) (i : In)
    (hni : i.interrupted = false) (hret : (fetch S c trig i).retErr = true) :
    (iter S c trig st i).st.retryAt = some (i.nowErr + c.R) := by
  rw [(iter_fields S c trig st i).2.2.2.2]
  simp [hni, afterTick, hS.stateFromTick, hS.backoff, hret]

/-- what `fetchAndReschedule` can do: a failed `Pop()`; an empty one, perhaps followed by `Size()`; a successful one, of `e`,
    followed by at most one `Push()`, of `e` with the new fire time `validate` computes; nothing but the popped entry is
    dispatched, and only if `validate` says so -/
theorem fetch_cases (i : In) :
    (i.pop = .err ∧ fetch S c trig i = ⟨[(.pop, .err)], none, none, none, true, S.popErrReturned⟩) ∨
    (i.pop = .empty ∧ ∃ cs r, fetch S c trig i = ⟨(.pop, .empty) :: cs, none, none, none, false, r⟩ ∧
      (cs = [] ∨ cs = [(.size, .ok)] ∨ cs = [(.size, .err)])) ∨
    (∃ e d, i.pop = .ok e ∧ (d = none ∨ d = some e ∧ (validate c trig e i.nowVal).1 = true) ∧
      (fetch S c trig i = ⟨[(.pop, .ok)], d, none, some e, false, false⟩ ∨
       (∃ t, (validate c trig e i.nowVal).2 = some t ∧
          fetch S c trig i = ⟨[(.pop, .ok), (.push, .ok)], d, some { e with prio := t }, some e, false, false⟩) ∨
       fetch S c trig i = ⟨[(.pop, .ok), (.push, .err)], d, none, some e, true, S.pushErrReturned⟩)) := by
  unfold fetch
  cases i.pop with
  | err => exact .inl ⟨rfl, rfl⟩
  | empty =>
    refine .inr (.inl ⟨rfl, ?_⟩)
    cases S.popEmpty
    · exact ⟨_, _, rfl, .inl rfl⟩
    · exact ⟨_, _, rfl, .inl rfl⟩
    · cases i.size2
      · exact ⟨_, _, rfl, .inr (.inr rfl)⟩
      · exact ⟨_, _, rfl, .inr (.inl rfl)⟩
  | ok e =>
    refine .inr (.inr ⟨e, if (validate c trig e i.nowVal).1 then some e else none, rfl, ?_, ?_⟩)
    · cases (validate c trig e i.nowVal).1 <;> simp
    · simp only
      cases (validate c trig e i.nowVal).2 with
      | none => exact .inl rfl
      | some t => cases i.pushOk <;> simp

theorem fetch_dispatched_popped (i : In) (e : Entry)
    (h : (fetch S c trig i).dispatched = some e) : (fetch S c trig i).popped = some e := by
  obtain ⟨_, hf⟩ | ⟨_, cs, r, hf, _⟩ | ⟨e', d, _, hd, hf | ⟨t, _, hf⟩ | hf⟩ := fetch_cases S c trig i <;>
    rw [hf] at h ⊢ <;> simp_all

theorem fetch_tickErr_calls (i : In) :
    (fetch S c trig i).tickErr =
      ((fetch S c trig i).calls.contains (.pop, .err) || (fetch S c trig i).calls.contains (.push, .err)) := by
  obtain ⟨_, h⟩ | ⟨_, cs, r, h, hc⟩ | ⟨e, d, _, _, h | ⟨t, _, h⟩ | h⟩ := fetch_cases S c trig i <;> rw [h]
  · rfl
  · obtain rfl | rfl | rfl := hc <;> rfl
  all_goals rfl

@[simp] theorem fetch_calls_no_head (i : In) (o : Outcome) :
    ((Op.head, o) ∈ (fetch S c trig i).calls) = False := by
  obtain ⟨_, h⟩ | ⟨_, cs, r, h, hc⟩ | ⟨e, d, _, _, h | ⟨t, _, h⟩ | h⟩ := fetch_cases S c trig i <;> rw [h]
  · simp
  · obtain rfl | rfl | rfl := hc <;> simp
  all_goals simp

/-- a tick whose `Pop()` answers `ErrQueueEmpty`: `Size()` is asked again, and only the answer 0 makes the result `nil` -/
theorem fetch_popEmpty (hS : WF S) (i : In) (h : i.pop = .empty) :
    fetch S c trig i = ⟨[(.pop, .empty), (.size, if i.size2.isSome then .ok else .err)], none, none, none, false,
      !decide (i.size2 = some 0)⟩ := by
  unfold fetch; rw [h, hS.popEmpty]

theorem fetch_tickErr (hS : WF S) (i : In)
    (h : (fetch S c trig i).tickErr = true) : (fetch S c trig i).retErr = true := by
  obtain ⟨_, hf⟩ | ⟨_, cs, r, hf, _⟩ | ⟨e, d, _, _, hf | ⟨t, _, hf⟩ | hf⟩ := fetch_cases S c trig i <;> rw [hf] at h ⊢
  · exact hS.popErrReturned
  · cases h
  · cases h
  · cases h
  · exact hS.pushErrReturned

theorem iter_retryAt_of_tickErr (hS : WF S) (st : BState) (i : In)
    (h : (iter S c trig st i).tickErr = true) :
    i.interrupted = false ∧ (iter S c trig st i).st.retryAt = some (i.nowErr + c.R) := by
  rw [(iter_fields S c trig st i).2.2.2.1] at h
  cases hint : i.interrupted
  · simp only [hint, Bool.false_eq_true, ↓reduceIte] at h
    exact ⟨rfl, iter_retErr S c trig hS st i hint (fetch_tickErr S c trig hS i h)⟩
  · simp [hint] at h

/-- the deadline an iteration leaves respects every bound that the deadline after its arming part respects and that lies at
    most `R` after the current time -/
theorem iter_retryAt_ge (hS : WF S) (st : BState) (i : In) (X r1 : Int)
    (hr1 : (afterArm S c st (iter S c trig st i).armErr i.now2).retryAt = some r1) (hX1 : X ≤ r1)
    (hnow : X ≤ i.nowErr + c.R) : ∃ r', (iter S c trig st i).st.retryAt = some r' ∧ X ≤ r' := by
  rw [(iter_fields S c trig st i).2.2.2.2]
  cases i.interrupted
  · simp only [Bool.false_eq_true, ↓reduceIte, afterTick, hS.stateFromTick, hS.backoff]
    cases (fetch S c trig i).retErr
    · exact ⟨r1, by simpa using hr1, hX1⟩
    · exact ⟨i.nowErr + c.R, by simp, hnow⟩
  · exact ⟨r1, by simpa using hr1, hX1⟩

theorem iter_armErr_retryAt (hS : WF S) (st : BState) (i : In)
    (h : (iter S c trig st i).armErr = true) (hle : i.now2 ≤ i.nowErr) :
    ∃ r', (iter S c trig st i).st.retryAt = some r' ∧ i.now2 + c.R ≤ r' :=
  iter_retryAt_ge S c trig hS st i _ _ (by rw [h, afterArm_err S c hS]) (Int.le_refl _) (by omega)

theorem fetch_calls_head (i : In) :
    ∃ o, (fetch S c trig i).calls.head? = some (.pop, o) := by
  obtain ⟨_, h⟩ | ⟨_, cs, r, h, _⟩ | ⟨e, d, _, _, h | ⟨t, _, h⟩ | h⟩ := fetch_cases S c trig i <;> rw [h] <;> exact ⟨_, rfl⟩

/-- Key timing lemma: once the deadline is at least `X` (and `X` is at most `R` after the current time), no later
    iteration ticks before `X`, and none asks `Size()` (the call an iteration outside the back-off window starts with)
    before `X`, whatever the inputs (faults, interrupts) are: until the deadline the loop asks the queue nothing at all. -/
theorem no_tick_before (hS : WF S) (X : Int) (ins : List In) (st : BState)
    (prev r : Int) (hr : st.retryAt = some r) (hX : X ≤ r) (hprev : X ≤ prev + c.R)
    (hwt : WellTimed S c trig st prev ins) (j : Nat) (ij : In) (hj : ins[j]? = some ij) :
    (ij.interrupted = false → X ≤ ij.tickAt) ∧
    (∀ oj o, (runLoop S c trig st ins).1[j]? = some oj → oj.calls.head? = some (.size, o) → X ≤ ij.now1) := by
  induction ins generalizing st prev r j with
  | nil => simp at hj
  | cons i is ih =>
    obtain ⟨w1, w2, w3, w4, w5, w6, w7, wrest⟩ := hwt
    cases j with
    | zero =>
      simp at hj; subst hj
      by_cases hlt : i.now1 < r
      · -- backing off: the timer is armed for `r`, and the first call, if any, is the `Pop()` of the tick
        obtain ⟨harm, -, hcalls⟩ := iter_before_deadline S c trig hS st i r hr hlt
        refine ⟨fun hnint => ?_, fun oj o hoj hsz => ?_⟩
        · have := w5 hnint
          omega
        · have hoj' : iter S c trig st i = oj := by simpa [runLoop] using hoj
          subst hoj'
          rw [hcalls] at hsz
          obtain ⟨o', ho'⟩ := fetch_calls_head S c trig i
          cases hint : i.interrupted <;> simp [hint, ho'] at hsz
      · exact ⟨fun _ => by omega, fun _ _ _ _ => by omega⟩
    | succ j =>
      simp only [List.getElem?_cons_succ] at hj
      simp only [runLoop, List.getElem?_cons_succ]
      -- the deadline never moves backwards past `X`: a failing `Size()` / `Head()` sets it to `now2 + R`
      have h1 : ∃ r1, (afterArm S c st (iter S c trig st i).armErr i.now2).retryAt = some r1 ∧ X ≤ r1 := by
        cases (iter S c trig st i).armErr
        · rw [afterArm_noErr]; exact ⟨r, hr, hX⟩
        · rw [afterArm_err S c hS]; exact ⟨i.now2 + c.R, rfl, by omega⟩
      obtain ⟨r1, hr1, hX1⟩ := h1
      obtain ⟨r', hr', hXr'⟩ := iter_retryAt_ge S c trig hS st i X r1 hr1 hX1 (by omega)
      exact ih _ i.nowErr r' hr' hXr' (by omega) wrest j hj

theorem mem_runLoop (st : BState) (ins : List In) (o : Out) (h : o ∈ (runLoop S c trig st ins).1) :
    ∃ st' i, i ∈ ins ∧ o = iter S c trig st' i := by
  induction ins generalizing st with
  | nil => simp [runLoop] at h
  | cons i is ih =>
    simp only [runLoop, List.mem_cons] at h
    rcases h with rfl | h
    · exact ⟨st, i, by simp, rfl⟩
    · obtain ⟨st', j, hj, rfl⟩ := ih _ h
      exact ⟨st', j, by simp [hj], rfl⟩

/-- iteration `k` of a well-timed run: the state it starts from, its clock readings in program order, and the rest of
    the run, well-timed again from the state and the last clock reading that the iteration leaves -/
theorem wellTimed_at (st0 : BState) (prev : Int) (ins : List In) (hwt : WellTimed S c trig st0 prev ins) (k : Nat)
    (ik : In) (hik : ins[k]? = some ik) :
    ∃ stk, (runLoop S c trig st0 ins).1[k]? = some (iter S c trig stk ik) ∧
      (ik.now1 ≤ ik.now2 ∧ ik.now2 ≤ ik.tArm ∧ ik.tArm ≤ ik.tickAt ∧ ik.tickAt ≤ ik.nowVal ∧ ik.nowVal ≤ ik.nowErr ∧
        (ik.interrupted = false → ik.tArm + (iter S c trig stk ik).armed ≤ ik.tickAt)) ∧
      WellTimed S c trig (iter S c trig stk ik).st ik.nowErr (ins.drop (k + 1)) ∧
      ∀ j, (runLoop S c trig st0 ins).1[k + 1 + j]? =
        (runLoop S c trig (iter S c trig stk ik).st (ins.drop (k + 1))).1[j]? := by
  induction ins generalizing st0 prev k with
  | nil => simp at hik
  | cons i is ih =>
    obtain ⟨w1, w2, w3, w4, w5, w6, w7, wrest⟩ := hwt
    cases k with
    | zero =>
      obtain rfl : i = ik := by simpa using hik
      exact ⟨st0, by simp [runLoop], ⟨w2, w3, w4, w6, w7, w5⟩, wrest, fun j => by simp [runLoop, Nat.add_comm 1 j]⟩
    | succ k =>
      obtain ⟨stk, h1, h2, h3, h4⟩ := ih _ _ wrest k (by simpa using hik)
      refine ⟨stk, by simpa [runLoop] using h1, h2, h3, fun j => ?_⟩
      rw [show k + 1 + 1 + j = (k + 1 + j) + 1 by omega]
      simpa [runLoop] using h4 j

/-- In a well-timed run: if iteration `k` leaves a deadline of at least `X` (and `X` is at most `R` after its last clock
    reading), then no later iteration ticks, and none asks `Size()`, before `X`. -/
theorem after_deadline (hS : WF S) (st0 : BState) (prev : Int) (ins : List In)
    (hwt : WellTimed S c trig st0 prev ins) (k : Nat) (ik : In) (ok : Out) (hik : ins[k]? = some ik)
    (hok : (runLoop S c trig st0 ins).1[k]? = some ok) (X : Int)
    (hX : ∃ r, ok.st.retryAt = some r ∧ X ≤ r) (hXn : X ≤ ik.nowErr + c.R)
    (j : Nat) (ij : In) (hkj : k < j) (hij : ins[j]? = some ij) :
    (ij.interrupted = false → X ≤ ij.tickAt) ∧
    (∀ oj o, (runLoop S c trig st0 ins).1[j]? = some oj → oj.calls.head? = some (.size, o) → X ≤ ij.now1) := by
  obtain ⟨stk, hk, -, wrest, hidx⟩ := wellTimed_at S c trig st0 prev ins hwt k ik hik
  obtain rfl := Option.some.inj (hk.symm.trans hok)
  obtain ⟨j, rfl⟩ : ∃ j', j = k + 1 + j' := ⟨j - (k + 1), by omega⟩
  rw [hidx]
  rw [← List.getElem?_drop] at hij
  obtain ⟨r, hr, hXr⟩ := hX
  exact no_tick_before S c trig hS X _ _ ik.nowErr r hr hXr hXn wrest j ij hij

theorem backoff_after (hS : WF S) (st0 : BState) (prev : Int) (ins : List In)
    (hwt : WellTimed S c trig st0 prev ins) (k : Nat) (ik : In) (hik : ins[k]? = some ik)
    (hni : ik.interrupted = false) (hret : (fetch S c trig ik).retErr = true)
    (j : Nat) (ij : In) (hkj : k < j) (hij : ins[j]? = some ij) (hnj : ij.interrupted = false) :
    ik.nowErr + c.R ≤ ij.tickAt := by
  obtain ⟨stk, hok, -⟩ := wellTimed_at S c trig st0 prev ins hwt k ik hik
  exact (after_deadline S c trig hS st0 prev ins hwt k ik _ hik hok (ik.nowErr + c.R)
    ⟨_, iter_retErr S c trig hS stk ik hni hret, Int.le_refl _⟩ (Int.le_refl _) j ij hkj hij).1 hnj

theorem runLoop_const (st : BState) (ins : List In) (h : ∀ i ∈ ins, (iter S c trig st i).st = st) :
    runLoop S c trig st ins = (ins.map (iter S c trig st), st) := by
  induction ins with
  | nil => rfl
  | cons i is ih =>
    simp only [runLoop, h i (by simp), ih (fun x hx => h x (by simp [hx])), List.map_cons]

/-- an iteration that returns to the state it started from, reads the one instant `now` off every clock and arms a timer
    that fires at once can be repeated any number of times in a well-timed run: the loop spins -/
theorem runLoop_replicate (st : BState) (i : In) (o : Out) (hit : iter S c trig st i = o) (hst : o.st = st)
    (harm : o.armed ≤ 0) (now : Int)
    (hnow : i.now1 = now ∧ i.now2 = now ∧ i.tArm = now ∧ i.tickAt = now ∧ i.nowVal = now ∧ i.nowErr = now) (n : Nat) :
    (runLoop S c trig st (List.replicate n i)).1 = List.replicate n o ∧
    WellTimed S c trig st now (List.replicate n i) := by
  subst hit
  refine ⟨?_, ?_⟩
  · rw [runLoop_const _ _ _ _ _ (fun j hj => by rw [List.eq_of_mem_replicate hj, hst]), List.map_replicate]
  · induction n with
    | zero => trivial
    | succ n ih =>
      obtain ⟨h1, h2, h3, h4, h5, h6⟩ := hnow
      simp only [List.replicate_succ, WellTimed, hst, h1, h2, h3, h4, h5, h6]
      exact ⟨Int.le_refl _, Int.le_refl _, Int.le_refl _, Int.le_refl _, fun _ => by omega, Int.le_refl _, Int.le_refl _, ih⟩

theorem qpush_perm (e : Entry) (q : Queue) : (qpush e q).Perm (e :: q) := by
  induction q with
  | nil => simp [qpush]
  | cons y ys ih =>
    unfold qpush
    split
    · exact List.Perm.refl _
    · exact (List.Perm.cons y ih).trans (List.Perm.swap e y ys)

theorem validate_le (hthr : 0 ≤ c.thr) (hmono : ∀ k p t, trig k p = some t → p < t)
    (e : Entry) (now t : Int) (h : (validate c trig e now).2 = some t) :
    e.prio ≤ t ∧ ((validate c trig e now).1 = true → e.prio < t) := by
  unfold validate at h ⊢
  by_cases h1 : e.prio < now - c.thr
  · simp only [h1, ↓reduceIte] at h ⊢
    have := hmono _ _ _ h
    simp; omega
  · by_cases h2 : e.prio > now
    · simp only [h1, h2, ↓reduceIte] at h ⊢
      simp at h; simp; omega
    · simp only [h1, h2, ↓reduceIte] at h ⊢
      have := hmono _ _ _ h
      simp; omega

/-- invariant linking the execution log and the stored entries -/
def LogInv (log : List (Nat × Int)) (q : Queue) : Prop :=
  (q.map (·.key)).Nodup ∧ ∀ e ∈ q, ∀ t, (e.key, t) ∈ log → t < e.prio

def logOf (o : Out) : List (Nat × Int) := (o.dispatched.map (fun e => (e.key, e.prio))).toList

theorem LogInv.drop_head (log : List (Nat × Int)) (e : Entry) (rest : Queue) (hJ : LogInv log (e :: rest))
    (hl : log.Nodup)
    (d : Option Entry) (hd : d = none ∨ d = some e) :
    (log ++ (d.map (fun e => (e.key, e.prio))).toList).Nodup ∧
      LogInv (log ++ (d.map (fun e => (e.key, e.prio))).toList) rest := by
  obtain ⟨hk, hlt⟩ := hJ
  simp only [List.map_cons, List.nodup_cons] at hk
  obtain rfl | rfl := hd
  · simp only [Option.map_none, Option.toList_none, List.append_nil]
    exact ⟨hl, hk.2, fun x hx t ht => hlt x (List.mem_cons_of_mem _ hx) t ht⟩
  · simp only [Option.map_some, Option.toList_some]
    refine ⟨?_, hk.2, ?_⟩
    · rw [List.nodup_append]
      refine ⟨hl, by simp, ?_⟩
      intro a ha b hb
      simp at hb; subst hb
      intro hab; subst hab
      have := hlt e (by simp) e.prio ha
      omega
    · intro x hx t ht
      simp only [List.mem_append, List.mem_singleton, Prod.mk.injEq] at ht
      rcases ht with ht | ⟨hke, _⟩
      · exact hlt x (List.mem_cons_of_mem _ hx) t ht
      · exact absurd (List.mem_map.mpr ⟨x, hx, hke⟩) hk.1

theorem LogInv.repush (log : List (Nat × Int)) (e : Entry) (rest : Queue) (hJ : LogInv log (e :: rest))
    (hl : log.Nodup)
    (d : Option Entry) (hd : d = none ∨ d = some e) (t : Int) (hle : e.prio ≤ t) (hlt' : d = some e → e.prio < t) :
    (log ++ (d.map (fun e => (e.key, e.prio))).toList).Nodup ∧
      LogInv (log ++ (d.map (fun e => (e.key, e.prio))).toList) (qpush { e with prio := t } rest) := by
  obtain ⟨hnd, hk', hrest⟩ := LogInv.drop_head log e rest hJ hl d hd
  refine ⟨hnd, ?_, ?_⟩
  · have hp := (qpush_perm { e with prio := t } rest).map (·.key)
    rw [hp.nodup_iff]
    simpa using hJ.1
  · intro x hx u hu
    rw [(qpush_perm _ rest).mem_iff, List.mem_cons] at hx
    rcases hx with hx | hx
    · subst hx
      simp only [List.mem_append] at hu
      rcases hu with hu | hu
      · have := hJ.2 e (by simp) u hu
        simp; omega
      · obtain rfl | rfl := hd
        · simp at hu
        · simp at hu
          have := hlt' rfl
          simp; omega
    · exact hrest x hx u hu

theorem inOf_pop_ok (q : Queue) (p : Plan) (e : Entry) (h : (inOf q p).pop = .ok e) : ∃ rest, q = e :: rest := by
  cases hf : p.fPop <;> cases q <;> simp [inOf, hf] at h
  exact ⟨_, by rw [h]⟩

theorem iterQ_logInv (hthr : 0 ≤ c.thr)
    (hmono : ∀ k p t, trig k p = some t → p < t) (log : List (Nat × Int)) (s : LState) (p : Plan)
    (hJ : LogInv log s.q) (hl : log.Nodup) :
    (log ++ logOf (iterQ S c trig s p).1).Nodup ∧
      LogInv (log ++ logOf (iterQ S c trig s p).1) (iterQ S c trig s p).2.q := by
  obtain ⟨e1, e2, e3, -⟩ := iter_fields S c trig s.st (inOf s.q p)
  simp only [iterQ, logOf, qAfter, e1, e2, e3]
  cases (inOf s.q p).interrupted
  · simp only [Bool.false_eq_true, ↓reduceIte]
    obtain ⟨_, h⟩ | ⟨_, cs, r, h, _⟩ | ⟨e, d, hp, hd, hf⟩ := fetch_cases S c trig (inOf s.q p)
    · -- a failed `Pop()` changes nothing
      rw [h]; simpa using ⟨hl, hJ⟩
    · -- nor does an empty one
      rw [h]; simpa using ⟨hl, hJ⟩
    · -- `e` is popped: it is the head of the stored entries; it is dispatched or not, pushed back or not
      obtain ⟨rest, hq⟩ := inOf_pop_ok s.q p e hp
      rw [hq] at hJ hf ⊢
      have hd' : d = none ∨ d = some e := hd.imp_right And.left
      obtain h | ⟨t, ht, h⟩ | h := hf
      · rw [h]; exact LogInv.drop_head log e rest hJ hl d hd'
      · obtain ⟨v1, v2⟩ := validate_le c trig hthr hmono e _ t ht
        rw [h]
        exact LogInv.repush log e rest hJ hl d hd' t v1 (fun h => v2 (by rcases hd with h' | h' <;> simp_all))
      · rw [h]; exact LogInv.drop_head log e rest hJ hl d hd'
  · simpa using ⟨hl, hJ⟩

theorem dispatchLog_cons (o : Out) (os : List Out) : dispatchLog (o :: os) = logOf o ++ dispatchLog os := by
  unfold dispatchLog logOf
  cases h : o.dispatched <;> simp [h]

theorem runQ_nodup (hthr : 0 ≤ c.thr)
    (hmono : ∀ k p t, trig k p = some t → p < t) (ps : List Plan) (log : List (Nat × Int)) (s : LState)
    (hJ : LogInv log s.q) (hl : log.Nodup) : (log ++ dispatchLog (runQ S c trig s ps).1).Nodup := by
  induction ps generalizing log s with
  | nil => simpa [runQ, dispatchLog] using hl
  | cons p ps ih =>
    simp only [runQ, dispatchLog_cons]
    obtain ⟨h1, h2⟩ := iterQ_logInv S c trig hthr hmono log s p hJ hl
    rw [← List.append_assoc]
    exact ih _ _ h2 h1

theorem fetch_plain (i : In) :
    fetch (plain S) c trig i = fetch S c trig i := by
  unfold fetch plain; rfl

theorem afterTick_noErr (hS : WF S) (st : BState) (t : Int) :
    afterTick S c st false t = st := by
  simp [afterTick, hS.backoff]

theorem afterTick_plain (st : BState) (b : Bool) (t : Int) :
    afterTick (plain S) c st b t = st := by
  unfold afterTick plain
  by_cases h : S.stateFromTick = true <;> simp [h]

theorem iter_faultFree_st (hS : WF S) (st : BState) (q : Queue) (p : Plan)
    (hp : p.faultFree = true) : (iter S c trig st (inOf q p)).st = st := by
  simp only [Plan.faultFree, Bool.and_eq_true, Bool.not_eq_eq_eq_not, Bool.not_true] at hp
  obtain ⟨⟨⟨⟨hs, hh⟩, hpop⟩, hpush⟩, hs2⟩ := hp
  have harm : (iter S c trig st (inOf q p)).armErr = false := by
    rw [iter_armErr_eq]
    cases q <;> simp [inOf, hs, hh]
  have hret : (fetch S c trig (inOf q p)).retErr = false := by
    cases q with
    | nil => rw [fetch_popEmpty S c trig hS _ (by simp [inOf, hpop])]; simp [inOf, hs2]
    | cons e rest =>
      unfold fetch inOf
      simp only [hpop, hpush, Bool.false_eq_true, ↓reduceIte]
      cases (validate c trig e p.nowVal).2 <;> simp
  rw [(iter_fields S c trig st (inOf q p)).2.2.2.2, harm, afterArm_noErr, hret, afterTick_noErr S c hS st _]
  simp

/-- outside the back-off window an iteration differs from that of the loop without back-off state only in the state it
    leaves -/
theorem iter_eq_plain (hS : WF S) (st : BState) (i : In) (hout : inBackoff S st i.now1 = false) :
    iter S c trig st i = { iter (plain S) c trig {} i with st := (iter S c trig st i).st } := by
  have hsk : skipsSize S st i.now1 = false := by simp [skipsSize, hout]
  have hskp : skipsSize (plain S) {} i.now1 = false := by simp [skipsSize, inBackoff, plain]
  have hne : chooseArm (plain S) {} i.size i.now1 ≠ .untilRetry := by
    unfold chooseArm
    rw [hskp]
    cases i.size with
    | none => simp [plain, hS.onSizeErr]
    | some n => simp [plain, inBackoff, hS.onEmpty, hS.onDefault]; split <;> simp
  unfold iter
  simp only [chooseArm_plain S st _ _ hout, hsk, hskp, calcNextTick_plain, fetch_plain]
  -- what is left differs only in the duration of the `untilRetry` arm, which is not the one chosen
  generalize chooseArm (plain S) {} i.size i.now1 = a at hne ⊢
  cases a with
  | untilRetry => exact absurd rfl hne
  | _ => cases i.interrupted <;> rfl

theorem iter_plain_st (st : BState) (i : In) : (iter (plain S) c trig st i).st = st := by
  have hA : ∀ b t, afterArm (plain S) c st b t = st := by
    intro b t; unfold afterArm plain; cases S.stateFromArm <;> simp
  rw [(iter_fields (plain S) c trig st i).2.2.2.2]
  cases i.interrupted <;> simp [afterTick_plain, hA]

theorem iterQ_vs_plain (hS : WF S) (st : BState) (q : Queue) (p : Plan)
    (hp : p.faultFree = true) :
    (iterQ S c trig ⟨st, q⟩ p).2 = ⟨st, (iterQ (plain S) c trig ⟨{}, q⟩ p).2.q⟩ ∧
    logOf (iterQ S c trig ⟨st, q⟩ p).1 = logOf (iterQ (plain S) c trig ⟨{}, q⟩ p).1 ∧
    (inBackoff S st p.now1 = false →
      (iterQ S c trig ⟨st, q⟩ p).1 = { (iterQ (plain S) c trig ⟨{}, q⟩ p).1 with st := st }) := by
  -- what a tick dispatches, pops and pushes is `fetch`'s doing, and `fetch` does not look at the back-off state
  obtain ⟨a1, a2, a3, -⟩ := iter_fields S c trig st (inOf q p)
  obtain ⟨b1, b2, b3, -⟩ := iter_fields (plain S) c trig {} (inOf q p)
  refine ⟨?_, ?_, ?_⟩
  · simp only [iterQ, qAfter, a2, a3, b2, b3, fetch_plain, iter_faultFree_st S c trig hS st q p hp]
  · simp only [iterQ, logOf, a1, b1, fetch_plain]
  · exact fun hout => (iter_eq_plain S c trig hS st (inOf q p) hout).trans
      (by rw [iter_faultFree_st S c trig hS st q p hp]; rfl)

/-- `Size()` says non-empty, `Head()` and `Pop()` answer `ErrQueueEmpty` -/
def SpuriousEmpty (i : In) : Prop :=
  (∃ n, i.size = some (n + 1)) ∧ i.head = .empty ∧ i.pop = .empty ∧ i.size2 ≠ some 0

theorem iter_spurious (hS : WF S) (st : BState) (i : In) (hsp : SpuriousEmpty i) :
    (inBackoff S st i.now1 = false → (iter S c trig st i).armed = c.R) ∧ (iter S c trig st i).dispatched = none := by
  obtain ⟨⟨n, hn⟩, hh, hp, _⟩ := hsp
  refine ⟨fun hnb => ?_, ?_⟩
  · rw [iter_armed]
    simp [chooseArm, skipsSize, hn, hnb, hS.onDefault, calcNextTick, hh, hS.headEmpty]
  · rw [(iter_fields S c trig st i).1, fetch_popEmpty S c trig hS i hp]; simp

end Faults
