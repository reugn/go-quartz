import QuartzModel.Generated.TransRetry
import QuartzModel.Sched.Retry
import QuartzModel.Proofs.RetryLemmas
/-!
# Helpers for `Theorems/TransRetry.lean`

The scripted environment (`Scripted`), the abstraction of the recorded events of the translated
`executeWithRetries` (`Generated.TransRetry`, regenerated from quartz/scheduler.go by `gotolean-retry`) to
the events of the hand-written model `Sched.Retry`, and the translated retry loop against the model's
`retryLoop`, both in the form `LoopSim`: in any environment for some script and cancel point (`loop1_any`), in a
scripted one for its own (`loop1_spec`).
-/
set_option autoImplicit false

namespace TransRetry
open Generated.TransRetry
open Sched.Retry (Outcome End Exit Normal ctxDone retryLoop)

abbrev REvent := Sched.Retry.Event

/-- the world of the scripted environment: the outcomes of the `Execute` calls still to come (an exhausted
script means the job succeeds) and the number of `select`s (retry waits) made so far -/
structure MW where
  script : List Outcome
  waits : Nat
deriving Repr, DecidableEq

/-- what `Execute` returns for a scripted outcome -/
def resOf : Outcome → CallResult (Option Err)
  | .ok => .returned none
  | .err => .returned (some {})
  | .panic => .panicked

/-- `jobDetail.job.Execute(ctx)`: the next outcome of the script -/
def scriptExecute (w : MW) (_ : Ref) : MW × CallResult (Option Err) :=
  match w.script with
  | [] => (w, .returned none)
  | o :: t => ({ w with script := t }, resOf o)

/-- the `i`-th `select` (1-based): as long as the context has not ended (`ctxDone cancelAt i = false`) only the
timer can fire (case 0); once it has ended `pick i` says which case wins — ANY value: the timer may be ready at
the same time (0) or `<-ctx.Done()` wins (≥ 1) -/
def scriptSelect (cancelAt : Option Nat) (pick : Nat → Nat) (w : MW) (_ : List Chan) : MW × Nat :=
  ({ w with waits := w.waits + 1 }, if ctxDone cancelAt (w.waits + 1) then pick (w.waits + 1) else 0)

/-- `ctx.Err()` after the `i`-th select: non-nil iff the context has ended by then -/
def scriptCtxErr (cancelAt : Option Nat) (w : MW) : MW × Option Err :=
  (w, if ctxDone cancelAt w.waits then some {} else none)

/-- `X` answers `Execute`, `select`, `ctx.Err()` from the script; its other fields are arbitrary -/
structure Scripted {SJ : Type} (X : Ext MW SJ) (cancelAt : Option Nat) (pick : Nat → Nat) : Prop where
  execute : X.Execute = scriptExecute
  select : X.select = scriptSelect cancelAt pick
  ctxErr : X.ctxErr = scriptCtxErr cancelAt

/-- a scripted environment built on any other one -/
def scriptedOn {SJ : Type} (base : Ext MW SJ) (cancelAt : Option Nat) (pick : Nat → Nat) : Ext MW SJ :=
  { base with Execute := scriptExecute, select := scriptSelect cancelAt pick, ctxErr := scriptCtxErr cancelAt }

theorem scriptedOn_scripted {SJ : Type} (base : Ext MW SJ) (cancelAt : Option Nat) (pick : Nat → Nat) :
    Scripted (scriptedOn base cancelAt pick) cancelAt pick := ⟨rfl, rfl, rfl⟩

/-! ## from recorded events to the model's events -/

def outcomeOf : CallResult (Option Err) → Outcome
  | .returned none => .ok
  | .returned (some _) => .err
  | .panicked => .panic

@[simp] theorem outcomeOf_resOf (o : Outcome) : outcomeOf (resOf o) = o := by cases o <;> rfl

/-- `Execute` ↦ `attempt`; the answer of `ctx.Err()` after a select won by the timer decides between a completed
wait and a cancelled one; a select won by a later case (`<-ctx.Done()`) is a cancelled wait; timers, logger
calls and everything else are not events of the model -/
def absEvent {SJ : Type} : Event SJ → Option REvent
  | .execute _ r => some (.attempt (outcomeOf r))
  | .ctxErr none => some .wait
  | .ctxErr (some _) => some .waitCancelled
  | .select _ (_ + 1) => some .waitCancelled
  | _ => none

def absTrace {SJ : Type} (es : List (Event SJ)) : List REvent := es.filterMap absEvent

section
variable {SJ : Type}
@[simp] theorem absEvent_execute (j : Ref) (r : CallResult (Option Err)) :
    absEvent (Event.execute j r : Event SJ) = some (.attempt (outcomeOf r)) := rfl
@[simp] theorem absEvent_ctxErr_none : absEvent (Event.ctxErr none : Event SJ) = some .wait := rfl
@[simp] theorem absEvent_ctxErr_some (e : Err) : absEvent (Event.ctxErr (some e) : Event SJ) = some .waitCancelled := rfl
@[simp] theorem absEvent_select_zero (cs : List Chan) : absEvent (Event.select cs 0 : Event SJ) = none := rfl
@[simp] theorem absEvent_select_succ (cs : List Chan) (n : Nat) :
    absEvent (Event.select cs (n + 1) : Event SJ) = some .waitCancelled := rfl
@[simp] theorem absEvent_log (l m : String) : absEvent (Event.log l m : Event SJ) = none := rfl
@[simp] theorem absEvent_newTimer (d : Int) : absEvent (Event.newTimer d : Event SJ) = none := rfl
@[simp] theorem absEvent_timerStop : absEvent (Event.timerStop : Event SJ) = none := rfl
@[simp] theorem absEvent_fetch (b : Bool) : absEvent (Event.fetch b : Event SJ) = none := rfl
@[simp] theorem absEvent_wgAdd (n : Int) : absEvent (Event.wgAdd n : Event SJ) = none := rfl
@[simp] theorem absEvent_wgDone : absEvent (Event.wgDone : Event SJ) = none := rfl
end

def isLog {SJ : Type} (level msg : String) : Event SJ → Bool
  | .log l m => l == level && m == msg
  | _ => false

/-- the deferred function logged a recovered panic -/
def panicLogged {SJ : Type} (es : List (Event SJ)) : Bool := es.any (isLog "Error" "Job panicked")

/-- the function ended with `err != nil` -/
def termLogged {SJ : Type} (es : List (Event SJ)) : Bool := es.any (isLog "Warn" "Job terminated")

/-- how the function ended, read off what it logged and whether a wait was cancelled -/
def absEnd {SJ : Type} (es : List (Event SJ)) : End :=
  if panicLogged es then .recovered
  else if termLogged es then (if Sched.Retry.Event.waitCancelled ∈ absTrace es then .cancelled else .gaveUp)
  else .succeeded

def absResult {SJ : Type} (es : List (Event SJ)) : Sched.Retry.Result := ⟨absTrace es, absEnd es⟩

/-- the outcomes of the `Execute` calls, in order -/
def executes {SJ : Type} : List (Event SJ) → List Outcome
  | [] => []
  | .execute _ r :: t => outcomeOf r :: executes t
  | _ :: t => executes t

theorem absTrace_append {SJ : Type} (a b : List (Event SJ)) : absTrace (a ++ b) = absTrace a ++ absTrace b :=
  List.filterMap_append

theorem panicLogged_append {SJ : Type} (a b : List (Event SJ)) :
    panicLogged (a ++ b) = (panicLogged a || panicLogged b) := List.any_append

theorem termLogged_append {SJ : Type} (a b : List (Event SJ)) :
    termLogged (a ++ b) = (termLogged a || termLogged b) := List.any_append

/-! What `absResult` reads off the end of the record: neither final log line, the recovered panic, `err != nil`. -/

theorem absResult_quiet {SJ : Type} (es : List (Event SJ)) (hp : panicLogged es = false) (ht : termLogged es = false) :
    absResult es = ⟨absTrace es, .succeeded⟩ := by
  simp [absResult, absEnd, hp, ht]

theorem absResult_panicked {SJ : Type} (es : List (Event SJ)) :
    absResult (es ++ [Event.log "Error" "Job panicked"]) = ⟨absTrace es, .recovered⟩ := by
  have h1 : panicLogged (es ++ [Event.log "Error" "Job panicked"]) = true := by
    rw [panicLogged_append]; exact Bool.or_true _
  have h3 : absTrace (es ++ [Event.log "Error" "Job panicked"]) = absTrace es := by
    rw [absTrace_append]; exact List.append_nil _
  rw [absResult, absEnd, if_pos h1, h3]

theorem absResult_terminated {SJ : Type} (es : List (Event SJ)) (hp : panicLogged es = false) :
    absResult (es ++ [Event.log "Warn" "Job terminated"]) =
      ⟨absTrace es, if Sched.Retry.Event.waitCancelled ∈ absTrace es then .cancelled else .gaveUp⟩ := by
  have h1 : panicLogged (es ++ [Event.log "Warn" "Job terminated"]) = false := by
    rw [panicLogged_append, hp]; rfl
  have h2 : termLogged (es ++ [Event.log "Warn" "Job terminated"]) = true := by
    rw [termLogged_append]; exact Bool.or_true _
  have h3 : absTrace (es ++ [Event.log "Warn" "Job terminated"]) = absTrace es := by
    rw [absTrace_append]; exact List.append_nil _
  rw [absResult, absEnd, h1, if_neg Bool.false_ne_true, if_pos h2, h3]

theorem absEnd_recovered {SJ : Type} {es : List (Event SJ)} (h : absEnd es = .recovered) : panicLogged es = true := by
  unfold absEnd at h
  split at h
  · assumption
  · split at h
    · split at h <;> cases h
    · cases h

theorem attempts_eq_executes {SJ : Type} (es : List (Event SJ)) :
    (absResult es).attempts = executes es := by
  show Sched.Retry.attemptsOf (absTrace es) = executes es
  induction es with
  | nil => rfl
  | cons e t ih =>
    cases e with
    | execute j r => exact congrArg (outcomeOf r :: ·) ih
    | ctxErr x => cases x <;> exact ih
    | select cs n => cases n <;> exact ih
    | _ => exact ih

@[simp] theorem deref_some {α : Type} [Inhabited α] (a : α) : deref (some a) = a := rfl

/-! ## any environment: the retry loop against the model, script and cancel point read off the run -/

section
variable {W SJ : Type}

/-- from `a` to `b` the record grew by events whose abstraction is `tr`, none of them one of the two final log lines -/
def Adds (a b : St W SJ) (tr : List REvent) : Prop :=
  absTrace b.out = absTrace a.out ++ tr ∧ panicLogged b.out = panicLogged a.out ∧ termLogged b.out = termLogged a.out

theorem Adds.refl (a : St W SJ) : Adds a a [] := ⟨by simp, rfl, rfl⟩

theorem Adds.trans {a b c : St W SJ} {t1 t2 : List REvent} (h1 : Adds a b t1) (h2 : Adds b c t2) :
    Adds a c (t1 ++ t2) :=
  ⟨by rw [h2.1, h1.1, List.append_assoc], by rw [h2.2.1, h1.2.1], by rw [h2.2.2, h1.2.2]⟩

theorem Adds.one (a : St W SJ) (w : W) (e : Event SJ) (hp : isLog "Error" "Job panicked" e = false)
    (ht : isLog "Warn" "Job terminated" e = false) :
    Adds a { world := w, out := a.out ++ [e] } (absEvent e).toList := by
  refine ⟨?_, ?_, ?_⟩
  · simp only [absTrace, List.filterMap_append, List.filterMap_cons, List.filterMap_nil]
    cases absEvent e <;> rfl
  · simp [panicLogged, List.any_append, hp]
  · simp [termLogged, List.any_append, ht]

theorem Adds.newTimer (a : St W SJ) (d : Int) : Adds a (a.emit (Event.newTimer d)) [] := Adds.one a _ _ rfl rfl

theorem Adds.timerStop (a : St W SJ) : Adds a (a.emit Event.timerStop) [] := Adds.one a _ _ rfl rfl

theorem Adds.retryLog (a : St W SJ) : Adds a (a.emit (Event.log "Trace" "Job retry")) [] :=
  Adds.one a _ _ (by simp [isLog]) (by simp [isLog])

theorem Adds.select (a : St W SJ) (X : Ext W SJ) (cs : List Chan) :
    Adds a (a.select X cs).1 (absEvent (Event.select cs (a.select X cs).2 : Event SJ)).toList :=
  Adds.one a _ _ rfl rfl

theorem Adds.ctxErr (a : St W SJ) (X : Ext W SJ) :
    Adds a (a.ctxErr X).1 (absEvent (Event.ctxErr (a.ctxErr X).2 : Event SJ)).toList :=
  Adds.one a _ _ rfl rfl

theorem Adds.select_zero (a : St W SJ) (X : Ext W SJ) (cs : List Chan) (h : (a.select X cs).2 = 0) :
    Adds a (a.select X cs).1 [] := by
  have := Adds.select a X cs
  rwa [h] at this

theorem Adds.select_succ (a : St W SJ) (X : Ext W SJ) (cs : List Chan) (h : (a.select X cs).2 = 0 → False) :
    Adds a (a.select X cs).1 [.waitCancelled] := by
  have := Adds.select a X cs
  cases hs : (a.select X cs).2 with
  | zero => exact absurd hs h
  | succ n => rwa [hs] at this

theorem Adds.ctxErr_some (a : St W SJ) (X : Ext W SJ) (h : (a.ctxErr X).2.isSome = true) :
    Adds a (a.ctxErr X).1 [.waitCancelled] := by
  have := Adds.ctxErr a X
  obtain ⟨e, hs⟩ := Option.isSome_iff_exists.mp h
  rwa [hs] at this

theorem Adds.ctxErr_none (a : St W SJ) (X : Ext W SJ) (h : ¬ (a.ctxErr X).2.isSome = true) :
    Adds a (a.ctxErr X).1 [.wait] := by
  have := Adds.ctxErr a X
  rwa [Option.not_isSome_iff_eq_none.mp h] at this

theorem Adds.execute (a : St W SJ) (X : Ext W SJ) (j : Ref) :
    Adds a (a.execute X j).1 [.attempt (outcomeOf (a.execute X j).2)] :=
  Adds.one a (X.Execute a.world j).1 (Event.execute j (X.Execute a.world j).2) rfl rfl

/-- the head of an iteration of the retry loop: `time.NewTimer(d)`, then the `select` (state and winning case) -/
abbrev _root_.Generated.TransRetry.St.timed (a : St W SJ) (X : Ext W SJ) (d : Int) (cs : List Chan) : St W SJ × Nat :=
  (a.emit (Event.newTimer d)).select X cs

/-- … then `ctx.Err()` and the "Job retry" line: the state in which `Execute` is called again -/
abbrev _root_.Generated.TransRetry.St.waited (a : St W SJ) (X : Ext W SJ) (d : Int) (cs : List Chan) : St W SJ :=
  ((a.timed X d cs).1.ctxErr X).1.emit (Event.log "Trace" "Job retry")

/-- an iteration whose wait completes: the timer wins the `select`, `ctx.Err()` is nil, `Execute` is called and
answers `r` -/
theorem Adds.retry (a : St W SJ) (X : Ext W SJ) (d : Int) (cs : List Chan) (j : Ref) {r : CallResult (Option Err)}
    (hs : (a.timed X d cs).2 = 0) (hce : ¬ ((a.timed X d cs).1.ctxErr X).2.isSome = true)
    (hx : ((a.waited X d cs).execute X j).2 = r) :
    Adds a ((a.waited X d cs).execute X j).1 [.wait, .attempt (outcomeOf r)] :=
  hx ▸ ((((Adds.newTimer a d).trans (Adds.select_zero _ X cs hs)).trans (Adds.ctxErr_none _ X hce)).trans
    (Adds.retryLog _)).trans (Adds.execute _ X j)

/-- an iteration cancelled after the timer won the `select`: `ctx.Err()` is non-nil -/
theorem Adds.cancelled_ctxErr (a : St W SJ) (X : Ext W SJ) (d : Int) (cs : List Chan)
    (hs : (a.timed X d cs).2 = 0) (hce : ((a.timed X d cs).1.ctxErr X).2.isSome = true) :
    Adds a ((a.timed X d cs).1.ctxErr X).1 [.waitCancelled] :=
  ((Adds.newTimer a d).trans (Adds.select_zero _ X cs hs)).trans (Adds.ctxErr_some _ X hce)

/-- an iteration cancelled in the `select`: `<-ctx.Done()` won, the timer is stopped -/
theorem Adds.cancelled_select (a : St W SJ) (X : Ext W SJ) (d : Int) (cs : List Chan)
    (hs : (a.timed X d cs).2 = 0 → False) :
    Adds a ((a.timed X d cs).1.emit Event.timerStop) [.waitCancelled] :=
  ((Adds.newTimer a d).trans (Adds.select_succ _ X cs hs)).trans (Adds.timerStop _)

/-- the loop condition `i <= jobDetail.opts.MaxRetries` of the translated loop at `i = w + 1`, for options `o` -/
theorem loop1_cond {jd : JobDetail} {o : JobDetailOptions} (hjd : jd.opts = some o) (w : Nat) :
    decide ((w : Int) + 1 ≤ (deref (deref (some jd)).opts).MaxRetries) = true ↔
      ((w + 1 : Nat) : Int) ≤ o.MaxRetries := by
  rw [deref_some, hjd, deref_some, decide_eq_true_eq]
  exact Iff.rfl

/-- what the loop lemma says about one run of the translated loop `r` from state `σ` against the model's loop `m` -/
def LoopSim (σ : St W SJ) (r : St W SJ × Option Err × Flow) (m : List REvent × Exit) : Prop :=
  Adds σ r.1 m.1 ∧
  (match m.2 with
   | .panicking => r.2.2 = Flow.panic
   | .returned .succeeded => r.2.2 = Flow.next ∧ r.2.1 = none
   | .returned _ => r.2.2 = Flow.next ∧ r.2.1.isSome = true)

theorem loop1_any (X : Ext W SJ) (env : Env) (jd : JobDetail) (o : JobDetailOptions) (hjd : jd.opts = some o)
    (n : Nat) (i : Int) (σ : St W SJ) (err : Option Err) :
    ∀ (w : Nat) (e : Err), i = (w : Int) + 1 → o.MaxRetries + 1 - i ≤ n → err = some e →
      ∃ (rest : List Outcome) (c : Option Nat), (∀ j, j ≤ w → ctxDone c j = false) ∧
        LoopSim σ (executeWithRetries.loop1 X env (some jd) n i σ err) (retryLoop o.MaxRetries c (w + 1) rest) := by
  -- one case per path through `Generated.TransRetry.executeWithRetries.loop1`; `σ1 … σ5` are its successive states,
  -- `r2`, `r3`, `r4` the answers of the `select`, of `ctx.Err()` and of `Execute`, `hs`, `hce`, `hx` what they were
  fun_induction executeWithRetries.loop1 X env (some jd) n i σ err
  all_goals rintro w e rfl hn rfl
  -- case1: no iteration left; the fuel covers `MaxRetries + 1 - i`, so the loop condition is false
  case case1 σ =>
    refine ⟨[], none, (fun _ _ => rfl), ?_⟩
    rw [Sched.Retry.loop_stop [] (by omega)]
    exact ⟨Adds.refl σ, rfl, rfl⟩
  -- case2: the timer won the `select`, `ctx.Err()` is non-nil: `break retryLoop`
  case case2 fuel σ σ1 r2 σ2 hs r3 σ3 hce hc =>
    have hle := (loop1_cond hjd w).mp hc
    refine ⟨[], some (w + 1), (fun j hj => decide_eq_false (by omega)), ?_⟩
    rw [Sched.Retry.loop_cancel [] hle (by simp [ctxDone])]
    exact ⟨Adds.cancelled_ctxErr σ X _ _ hs hce, rfl, rfl⟩
  -- case3: the wait completed, `Execute` panicked
  case case3 fuel σ σ1 r2 σ2 hs r3 σ3 hce σ4 r4 σ5 hx hc =>
    have hle := (loop1_cond hjd w).mp hc
    refine ⟨[.panic], none, (fun _ _ => rfl), ?_⟩
    rw [Sched.Retry.loop_step _ hle rfl]
    exact ⟨Adds.retry σ X _ _ _ hs hce hx, rfl⟩
  -- case4: the wait completed, `Execute` returned nil: `break`
  case case4 fuel σ σ1 r2 σ2 hs r3 σ3 hce σ4 r4 σ5 err' hx hnone hc =>
    have hle := (loop1_cond hjd w).mp hc
    refine ⟨[], none, (fun _ _ => rfl), ?_⟩
    rw [Sched.Retry.loop_step _ hle rfl]
    obtain rfl : err' = none := Option.isNone_iff_eq_none.mp hnone
    exact ⟨Adds.retry σ X _ _ _ hs hce hx, rfl, rfl⟩
  -- case5: the wait completed, `Execute` returned an error: next iteration (`ih`)
  case case5 fuel σ σ1 r2 σ2 hs r3 σ3 hce σ4 r4 σ5 err' hx hsome hc ih =>
    have hle := (loop1_cond hjd w).mp hc
    obtain ⟨a, rfl⟩ : ∃ a, err' = some a := Option.ne_none_iff_exists'.mp (by simpa using hsome)
    obtain ⟨rest, c, hck, hsim, hexit⟩ := ih (w + 1) a (by omega) (by omega) rfl
    refine ⟨.err :: rest, c, (fun j hj => hck j (Nat.le_succ_of_le hj)), ?_⟩
    rw [Sched.Retry.loop_step _ hle (hck _ (Nat.le_refl _))]
    exact ⟨(Adds.retry σ X _ _ _ hs hce hx).trans hsim, hexit⟩
  -- case6: `<-ctx.Done()` won the `select`: `timer.Stop(); break retryLoop`
  case case6 fuel σ σ1 r2 σ2 σ3 hs hc =>
    have hle := (loop1_cond hjd w).mp hc
    refine ⟨[], some (w + 1), (fun j hj => decide_eq_false (by omega)), ?_⟩
    rw [Sched.Retry.loop_cancel [] hle (by simp [ctxDone])]
    exact ⟨Adds.cancelled_select σ X _ _ hs, rfl, rfl⟩
  -- case7: the loop condition `i <= MaxRetries` is false
  case case7 fuel σ hc =>
    have hle := mt (loop1_cond hjd w).mpr hc
    refine ⟨[], none, (fun _ _ => rfl), ?_⟩
    rw [Sched.Retry.loop_stop [] hle]
    exact ⟨Adds.refl σ, rfl, rfl⟩

/-! ## the scripted environment: the retry loop against the model for the given script and cancel point -/

section
variable {SJ : Type} {X : Ext MW SJ} {c : Option Nat} {pick : Nat → Nat}

theorem Scripted.select_eq (hX : Scripted X c pick) (σ : St MW SJ) (cs : List Chan) :
    (σ.select X cs).2 = (if ctxDone c (σ.world.waits + 1) then pick (σ.world.waits + 1) else 0) ∧
    (σ.select X cs).1.world = ⟨σ.world.script, σ.world.waits + 1⟩ := by
  simp only [St.select, hX.select, scriptSelect, and_self]

theorem Scripted.ctxErr_eq (hX : Scripted X c pick) (σ : St MW SJ) :
    (σ.ctxErr X).2.isSome = ctxDone c σ.world.waits ∧ (σ.ctxErr X).1.world = σ.world := by
  simp only [St.ctxErr, hX.ctxErr, scriptCtxErr, and_true]
  cases ctxDone c σ.world.waits <;> rfl

theorem Scripted.execute_eq (hX : Scripted X c pick) (σ : St MW SJ) (j : Ref) :
    outcomeOf (σ.execute X j).2 = σ.world.script.headD .ok ∧
    (σ.execute X j).1.world = ⟨σ.world.script.tail, σ.world.waits⟩ := by
  obtain ⟨⟨s, w⟩, out⟩ := σ
  simp only [St.execute, hX.execute, scriptExecute]
  cases s with
  | nil => exact ⟨rfl, rfl⟩
  | cons o t => exact ⟨outcomeOf_resOf o, rfl⟩

/-- a wait that completes in the scripted environment: the context has not ended, `Execute` answers with the head of
the script -/
theorem Scripted.retry (hX : Scripted X c pick) (σ : St MW SJ) (d : Int) (cs : List Chan) (j : Ref)
    {r : CallResult (Option Err)} (hce : ¬ ((σ.timed X d cs).1.ctxErr X).2.isSome = true)
    (hx : ((σ.waited X d cs).execute X j).2 = r) :
    ctxDone c (σ.world.waits + 1) = false ∧
    σ.world.script.headD .ok = outcomeOf r ∧
    ((σ.waited X d cs).execute X j).1.world = ⟨σ.world.script.tail, σ.world.waits + 1⟩ := by
  have hw : (σ.waited X d cs).world = ⟨σ.world.script, σ.world.waits + 1⟩ :=
    (hX.ctxErr_eq _).2.trans (hX.select_eq _ _).2
  have h2 := (hX.ctxErr_eq (σ.timed X d cs).1).1
  rw [(hX.select_eq _ _).2] at h2
  have he := hX.execute_eq (σ.waited X d cs) j
  rw [hw, hx] at he
  exact ⟨Bool.eq_false_iff.mpr fun h => hce (h2.trans h), he.1.symm, he.2⟩

/-- One run of the translated loop from the `(w+1)`-th wait with `err != nil`, against `retryLoop` of the model on
the script and the cancel point of the environment. -/
theorem loop1_spec (hX : Scripted X c pick) (env : Env) (jd : JobDetail) (o : JobDetailOptions)
    (hjd : jd.opts = some o) (n : Nat) (i : Int) (σ : St MW SJ) (err : Option Err) :
    ∀ (e : Err), i = (σ.world.waits : Int) + 1 → o.MaxRetries + 1 - i ≤ n → err = some e →
      LoopSim σ (executeWithRetries.loop1 X env (some jd) n i σ err)
        (retryLoop o.MaxRetries c (σ.world.waits + 1) σ.world.script) := by
  -- the cases and their names as in `loop1_any`
  fun_induction executeWithRetries.loop1 X env (some jd) n i σ err
  all_goals rintro e rfl hn rfl
  -- case1: no iteration left; the fuel covers `MaxRetries + 1 - i`, so the loop condition is false
  case case1 σ =>
    rw [Sched.Retry.loop_stop _ (by omega)]
    exact ⟨Adds.refl σ, rfl, rfl⟩
  -- case2: the timer won the `select`, `ctx.Err()` is non-nil: `break retryLoop`
  case case2 fuel σ σ1 r2 σ2 hs r3 σ3 hce hc =>
    have hle := (loop1_cond hjd σ.world.waits).mp hc
    have hd : ctxDone c (σ.world.waits + 1) = true := by
      have h2 := (hX.ctxErr_eq σ2).1
      rw [(hX.select_eq σ1 _).2] at h2
      exact h2.symm.trans hce
    rw [Sched.Retry.loop_cancel _ hle hd]
    exact ⟨Adds.cancelled_ctxErr σ X _ _ hs hce, rfl, rfl⟩
  -- case3: the wait completed, `Execute` panicked
  case case3 fuel σ σ1 r2 σ2 hs r3 σ3 hce σ4 r4 σ5 hx hc =>
    have hle := (loop1_cond hjd σ.world.waits).mp hc
    obtain ⟨hd, ho, -⟩ := hX.retry σ _ _ _ hce hx
    rw [Sched.Retry.loop_step _ hle hd, ho]
    exact ⟨Adds.retry σ X _ _ _ hs hce hx, rfl⟩
  -- case4: the wait completed, `Execute` returned nil: `break`
  case case4 fuel σ σ1 r2 σ2 hs r3 σ3 hce σ4 r4 σ5 err' hx hnone hc =>
    have hle := (loop1_cond hjd σ.world.waits).mp hc
    obtain ⟨hd, ho, -⟩ := hX.retry σ _ _ _ hce hx
    obtain rfl : err' = none := Option.isNone_iff_eq_none.mp hnone
    rw [Sched.Retry.loop_step _ hle hd, ho]
    exact ⟨Adds.retry σ X _ _ _ hs hce hx, rfl, rfl⟩
  -- case5: the wait completed, `Execute` returned an error: next iteration (`ih`)
  case case5 fuel σ σ1 r2 σ2 hs r3 σ3 hce σ4 r4 σ5 err' hx hsome hc ih =>
    have hle := (loop1_cond hjd σ.world.waits).mp hc
    obtain ⟨hd, ho, hw5⟩ := hX.retry σ _ _ _ hce hx
    obtain ⟨a, rfl⟩ : ∃ a, err' = some a := Option.ne_none_iff_exists'.mp (by simpa using hsome)
    have ih := ih a (by rw [show σ5.world = _ from hw5]; rfl) (by omega) rfl
    rw [show σ5.world = _ from hw5] at ih
    rw [Sched.Retry.loop_step _ hle hd, ho]
    exact ⟨(Adds.retry σ X _ _ _ hs hce hx).trans ih.1, ih.2⟩
  -- case6: `<-ctx.Done()` won the `select`: `timer.Stop(); break retryLoop`
  case case6 fuel σ σ1 r2 σ2 σ3 hs hc =>
    have hle := (loop1_cond hjd σ.world.waits).mp hc
    have hd : ctxDone c (σ.world.waits + 1) = true :=
      Decidable.byContradiction fun h => hs ((hX.select_eq σ1 _).1.trans (if_neg h))
    rw [Sched.Retry.loop_cancel _ hle hd]
    exact ⟨Adds.cancelled_select σ X _ _ hs, rfl, rfl⟩
  -- case7: the loop condition `i <= MaxRetries` is false
  case case7 fuel σ hc =>
    rw [Sched.Retry.loop_stop _ (mt (loop1_cond hjd σ.world.waits).mpr hc)]
    exact ⟨Adds.refl σ, rfl, rfl⟩
end

end

end TransRetry
