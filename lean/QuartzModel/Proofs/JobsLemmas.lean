import QuartzModel.Jobs.Status
/-!
# Helper lemmas for C16: the execution-thread system keeps "shared = replay of the store order"
-/
namespace Jobs

theorem upd_same {α : Type} (f : Nat → α) (i : Nat) (v : α) : upd f i v i = v := by simp [upd]

theorem upd_other {α : Type} (f : Nat → α) (i j : Nat) (v : α) (h : j ≠ i) : upd f i v j = f j := by
  simp [upd, h]

/-- the stored state obtained by applying the critical sections in store order (most recent first) -/
def replay {S : Type} (store : S → Nat → S) (s0 : S) : List Nat → S
  | [] => s0
  | i :: rest => store (replay store s0 rest) i

structure Inv {S : Type} (store : S → Nat → S) (cbk : Bool) (s0 : S) (s : Sys S) : Prop where
  shared : s.shared = replay store s0 s.order
  mem : ∀ i, i ∈ s.order ↔ (s.pc i = .stored ∨ s.pc i = .done)
  nodup : s.order.Nodup
  cb : ∀ i, s.cb i = if s.pc i = .done ∧ cbk = true then 1 else 0

theorem inv_init {S : Type} (store : S → Nat → S) (cbk : Bool) (s0 : S) : Inv store cbk s0 (Sys.init s0) where
  shared := rfl
  mem := by intro i; simp [Sys.init]
  nodup := by simp [Sys.init]
  cb := by intro i; simp [Sys.init]

/-- a step of execution `i`: the invariant has to be checked at `i` only, provided the step leaves membership in the store order and the
callback counts of the others alone -/
theorem Inv.upd {S : Type} {store : S → Nat → S} {cbk : Bool} {s0 : S} {s s' : Sys S} (h : Inv store cbk s0 s) (i : Nat) (v : Pc)
    (hpc : s'.pc = upd s.pc i v) (hsh : s'.shared = replay store s0 s'.order) (hnd : s'.order.Nodup)
    (hmem : ∀ j, j ≠ i → (j ∈ s'.order ↔ j ∈ s.order)) (hcb : ∀ j, j ≠ i → s'.cb j = s.cb j)
    (hmi : i ∈ s'.order ↔ (v = .stored ∨ v = .done)) (hci : s'.cb i = if v = .done ∧ cbk = true then 1 else 0) :
    Inv store cbk s0 s' := by
  refine ⟨hsh, fun j => ?_, hnd, fun j => ?_⟩ <;> rw [hpc] <;> by_cases hj : j = i
  · subst hj; rw [upd_same]; exact hmi
  · rw [upd_other _ _ _ _ hj, hmem j hj]; exact h.mem j
  · subst hj; rw [upd_same]; exact hci
  · rw [upd_other _ _ _ _ hj, hcb j hj]; exact h.cb j

theorem inv_step {S : Type} (store : S → Nat → S) (cbk : Bool) (s0 : S) (s : Sys S) (i : Nat)
    (h : Inv store cbk s0 s) : Inv store cbk s0 (Sys.step store cbk s i) := by
  unfold Sys.step
  have hm := h.mem i
  have hc := h.cb i
  cases hpc : s.pc i <;> rw [hpc] at hm hc <;> dsimp only
  case idle =>
    exact h.upd i .ran rfl h.shared h.nodup (fun _ _ => .rfl) (fun _ _ => rfl) (by simpa using hm) (by simpa using hc)
  case ran =>
    have hni : i ∉ s.order := by simpa using hm
    exact h.upd i .stored rfl (by simp [replay, h.shared]) (List.nodup_cons.mpr ⟨hni, h.nodup⟩)
      (fun j hj => by simp [hj]) (fun _ _ => rfl) (by simp) (by simpa using hc)
  case stored =>
    refine h.upd i .done rfl h.shared h.nodup (fun _ _ => .rfl) (fun j hj => ?_) (by simpa using hm) ?_
    · cases cbk <;> simp [upd_other _ _ _ _ hj]
    · cases cbk <;> simp_all [upd_same]
  case done => exact h

theorem inv_reachable {S : Type} (store : S → Nat → S) (cbk : Bool) (s0 : S) (sched : List Nat) :
    Inv store cbk s0 (Sys.run store cbk (Sys.init s0) sched) :=
  List.foldlRecOn sched _ (inv_init store cbk s0) fun s h i _ => inv_step store cbk s0 s i h

theorem sum_indicator (l : List Nat) (f : Nat → Nat) (p : Nat → Bool)
    (h : ∀ i, f i = if p i = true then 1 else 0) : (l.map f).sum = (l.filter p).length := by
  induction l with
  | nil => rfl
  | cons a t ih =>
    simp only [List.map_cons, List.sum_cons, List.filter_cons, ih, h a]
    cases p a <;> simp <;> omega

theorem replay_eq_foldl {S O : Type} (st : S → O → S) (outs : Nat → O) (s0 : S) (order : List Nat) :
    replay (fun s i => st s (outs i)) s0 order = (order.reverse.map outs).foldl st s0 := by
  induction order with
  | nil => rfl
  | cons i rest ih => simp [replay, ih, List.foldl_append]

theorem cuRun_cons (b : Bool) (s : CuState) (o : CuOut) (os : List CuOut) :
    cuRun b s (o :: os) = cuRun b (cuStore b s o) os := rfl

theorem cuRun_snoc (b : Bool) (s : CuState) (os : List CuOut) (o : CuOut) :
    cuRun b s (os ++ [o]) = cuStore b (cuRun b s os) o := by
  simp [cuRun, List.foldl_append]

/-- `cuStore true`, `cuRun true`: the repaired code, which closes the body of the stored response before `Do`; `false`: without that close -/
theorem cuStore_open_inv (s : CuState) (o : CuOut) (h : s.openBodies = (heldBody s.response).toList) :
    (cuStore true s o).openBodies = (heldBody (cuStore true s o).response).toList := by
  unfold cuStore
  cases hb : heldBody s.response <;> simp [hb] at h <;> simp [h]

theorem cuRun_open_inv (s : CuState) (os : List CuOut) (h : s.openBodies = (heldBody s.response).toList) :
    (cuRun true s os).openBodies = (heldBody (cuRun true s os).response).toList := by
  induction os generalizing s with
  | nil => exact h
  | cons o t ih => rw [cuRun_cons]; exact ih _ (cuStore_open_inv s o h)

theorem gotBody_cons (o : CuOut) (os : List CuOut) :
    gotBody (o :: os) = (if (heldBody o.resp).isSome then 1 else 0) + gotBody os := by
  unfold gotBody
  rw [List.filter_cons]
  split <;> simp <;> omega

theorem cuRun_conserved (s : CuState) (os : List CuOut) (h : s.openBodies = (heldBody s.response).toList) :
    (cuRun true s os).closes + (cuRun true s os).openBodies.length =
      s.closes + s.openBodies.length + gotBody os := by
  induction os generalizing s with
  | nil => simp [cuRun, gotBody]
  | cons o t ih =>
    rw [cuRun_cons, ih _ (cuStore_open_inv s o h), gotBody_cons]
    unfold cuStore
    cases hb : heldBody s.response with
    | none =>
      simp [hb] at h
      cases ho : heldBody o.resp <;> simp [h] <;> omega
    | some b =>
      simp [hb] at h
      cases ho : heldBody o.resp <;> simp [h] <;> omega

theorem cuRun_leak (s : CuState) (os : List CuOut) :
    (cuRun false s os).openBodies.length = s.openBodies.length + gotBody os ∧
      (cuRun false s os).closes = s.closes := by
  induction os generalizing s with
  | nil => simp [cuRun, gotBody]
  | cons o t ih =>
    rw [cuRun_cons, gotBody_cons]
    obtain ⟨h1, h2⟩ := ih (cuStore false s o)
    rw [h1, h2]
    unfold cuStore
    cases ho : heldBody o.resp <;> simp <;> omega

end Jobs
