import QuartzModel.Proofs.TransQueueLemmas
import QuartzModel.Theorems.C11
/-!
# Runs of the translated queue (`Generated.TransQueue.jobQueue.*`) simulate runs of the model (`Queue.step`)
-/
namespace TransQueue
open Generated.TransQueue
open Queue

theorem qpush_size_le (a a' : Arr) (e : Entry) (h : qpush a e = .ok a') : a'.size ≤ a.size + 1 := by
  unfold qpush at h
  split at h
  · split at h
    · cases h; rw [hpush_size]; exact Nat.succ_le_succ (hremove_size_le a _)
    · cases h
  · cases h; rw [hpush_size]; exact Nat.le_refl _

/-- only `Push` makes the queue longer, by one -/
theorem step_size_le (a : Arr) (op : Op) : (step a op).size ≤ a.size + 1 := by
  cases op with
  | push e =>
    simp only [step]
    split
    · exact qpush_size_le a _ e ‹_›
    · exact Nat.le_succ _
  | pop =>
    simp only [step]
    split
    · have := (qpop_ok a _ _ ‹_›).1
      omega
    · exact Nat.le_succ _
  | remove g n =>
    simp only [step]
    split
    · have := (qremove_ok a _ g n _ ‹_›).2.2.2.1.length_eq
      simp only [List.length_cons, Array.length_toList] at this
      omega
    · exact Nat.le_succ _
  | clear => exact Nat.zero_le _

/-- operations of the translated queue -/
inductive TOp where
  | push (sj : scheduledJob) | pop | remove (key : JobKey) | clear

def absOp : TOp → Op
  | .push sj => .push (toEntry sj)
  | .pop => .pop
  | .remove key => .remove key.group key.name
  | .clear => .clear

/-- one call of a translated `jobQueue` method (result dropped, queue kept) -/
def tstep (fuel : Nat) (jq : jobQueue) : TOp → Option jobQueue
  | .push sj => (jobQueue.Push jq sj fuel).map (·.1)
  | .pop => (jobQueue.Pop jq fuel).map (·.1)
  | .remove key => (jobQueue.Remove jq key fuel).map (·.1)
  | .clear => some (jobQueue.Clear jq).1

def trun (fuel : Nat) : jobQueue → List TOp → Option jobQueue
  | jq, [] => some jq
  | jq, op :: ops => (tstep fuel jq op).bind fun jq' => trun fuel jq' ops

theorem tstep_sim (fuel : Nat) (jq : jobQueue) (op : TOp) (hf : jq.delegate.length < fuel) :
    ∃ jq', tstep fuel jq op = some jq' ∧ toArr jq'.delegate = step (toArr jq.delegate) (absOp op) := by
  cases op with
  | push sj =>
    have h := trans_qpush jq sj fuel hf
    simp only [tstep, absOp, step]
    generalize qpush (toArr jq.delegate) (toEntry sj) = q at h ⊢
    cases q with
    | ok a' => obtain ⟨jq', e1, e2⟩ := h; exact ⟨jq', by simp [e1], e2⟩
    | error e => exact ⟨jq, by simp [h], rfl⟩
  | pop =>
    have h := trans_qpop jq fuel (Nat.le_of_lt hf)
    simp only [tstep, absOp, step]
    generalize qpop (toArr jq.delegate) = q at h ⊢
    cases q with
    | ok r => obtain ⟨jq', sj, e1, e2, _⟩ := h; exact ⟨jq', by simp [e1], e2⟩
    | error e => exact ⟨jq, by simp [h], rfl⟩
  | remove key =>
    have h := trans_qremove jq key fuel (Nat.le_of_lt hf)
    simp only [tstep, absOp, step]
    generalize qremove (toArr jq.delegate) key.group key.name = q at h ⊢
    cases q with
    | ok r => obtain ⟨jq', sj, e1, e2, _⟩ := h; exact ⟨jq', by simp [e1], e2⟩
    | error e => exact ⟨jq, by simp [h], rfl⟩
  | clear => exact ⟨_, rfl, (trans_qclear jq).1⟩

theorem trun_sim (fuel : Nat) : ∀ (ops : List TOp) (jq : jobQueue), jq.delegate.length + ops.length ≤ fuel →
    ∃ jq', trun fuel jq ops = some jq' ∧ toArr jq'.delegate = (ops.map absOp).foldl step (toArr jq.delegate) := by
  intro ops
  induction ops with
  | nil => intro jq _; exact ⟨jq, rfl, rfl⟩
  | cons op ops ih =>
    intro jq hf
    simp only [List.length_cons] at hf
    obtain ⟨jq1, e1, e2⟩ := tstep_sim fuel jq op (by omega)
    have hsz : jq1.delegate.length ≤ jq.delegate.length + 1 := by
      have := step_size_le (toArr jq.delegate) (absOp op)
      rw [← e2] at this
      simpa using this
    obtain ⟨jq2, r1, r2⟩ := ih jq1 (by omega)
    exact ⟨jq2, by simp [trun, e1, r1], by simp [r2, e2]⟩

end TransQueue
