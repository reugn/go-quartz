import QuartzModel.Generated.TransJobs
import QuartzModel.Jobs.Status
import QuartzModel.Proofs.JobsLemmas
/-!
# Helpers for `Theorems/TransJobs.lean`: abstractions from the translated jobs (`Generated.TransJobs`, regenerated from
`job/*.go` by `harness/cmd/gotolean-jobs`) to the hand-written model `Jobs` (`QuartzModel/Jobs/Status.lean`), checkers over
recorded events (lock discipline, callbacks, response bodies), and the exact effect of one `Execute` of each job.
-/
set_option autoImplicit false

namespace TransJobs
open Generated.TransJobs

/-- the translated `Status` constants are the model's -/
def absStatus : Status → Jobs.Status
  | .StatusNA => .na
  | .StatusOK => .ok
  | .StatusFailure => .failure

/-- a Go error is observed through its message -/
def absErr (e : Option Err) : Option String := e.map (·.msg)

theorem absStatus_eq_ok (a : Status) : absStatus a = .ok ↔ a = .StatusOK := by cases a <;> simp [absStatus]

theorem absErr_isSome (e : Option Err) : (absErr e).isSome = e.isSome := by cases e <;> rfl
theorem absErr_eq_none (e : Option Err) : absErr e = none ↔ e = none := by cases e <;> simp [absErr]

/-- the fields `jobStatus`, `result`, `err` of a translated FunctionJob as the model's `FnFields` -/
def absFn {R : Type} (f : FunctionJob R) : Jobs.FnFields R := { status := absStatus f.jobStatus, result := f.result, err := absErr f.err }

def absSh (sh : ShellJob) : Jobs.ShFields :=
  { status := absStatus sh.jobStatus, exitCode := sh.exitCode, stdout := sh.stdout, stderr := sh.stderr }

/-- a response: the status code as a natural number (a negative code, which net/http never produces, becomes 0 —
outside `[200, 400)` like every negative number), the body handle unchanged -/
def absResp (r : Response) : Jobs.Resp := { code := r.StatusCode.toNat, body := r.Body }

@[simp] theorem deref_some {α : Type} [Inhabited α] (a : α) : deref (some a) = a := rfl
@[simp] theorem deref_none {α : Type} [Inhabited α] : deref (none : Option α) = default := rfl

/-- Lock discipline of ONE method call seen from its own goroutine: `held` = the call holds the mutex `m`.
Every read/write of a mutable field happens while it is held; it is never acquired twice nor released when not held. -/
def accessGuarded (m : String) : Bool → List Event → Bool
  | _, [] => true
  | h, .lock m' :: es => if m' = m then !h && accessGuarded m true es else accessGuarded m h es
  | h, .rlock m' :: es => if m' = m then !h && accessGuarded m true es else accessGuarded m h es
  | h, .unlock m' :: es => if m' = m then h && accessGuarded m false es else accessGuarded m h es
  | h, .runlock m' :: es => if m' = m then h && accessGuarded m false es else accessGuarded m h es
  | h, .read _ :: es => h && accessGuarded m h es
  | h, .write _ :: es => h && accessGuarded m h es
  | h, _ :: es => accessGuarded m h es

/-- does the call still hold `m` after these events? -/
def heldAfter (m : String) : Bool → List Event → Bool
  | h, [] => h
  | h, .lock m' :: es => heldAfter m (if m' = m then true else h) es
  | h, .rlock m' :: es => heldAfter m (if m' = m then true else h) es
  | h, .unlock m' :: es => heldAfter m (if m' = m then false else h) es
  | h, .runlock m' :: es => heldAfter m (if m' = m then false else h) es
  | h, _ :: es => heldAfter m h es

/-- no user function and no callback runs while `m` is held (only `Lock`/`Unlock` are tracked: the `Execute` methods, the only callers
of user code, never take the read lock) -/
def userOutside (m : String) : Bool → List Event → Bool
  | _, [] => true
  | h, .lock m' :: es => userOutside m (if m' = m then true else h) es
  | h, .unlock m' :: es => userOutside m (if m' = m then false else h) es
  | h, .function _ _ :: es => !h && userOutside m h es
  | h, .callback _ _ :: es => !h && userOutside m h es
  | h, _ :: es => userOutside m h es

def isCallback : Event → Bool
  | .callback _ _ => true
  | _ => false

def isWrite : Event → Bool
  | .write _ => true
  | _ => false

def callbacks (es : List Event) : Nat := (es.filter isCallback).length

/-- ghost accounting of response bodies read off the recorded events, exactly as `Jobs.cuStore` does it:
`closeBody (some b)` erases `b` and counts a close; a `Do` that returned a response with a body opens that body -/
def bodyStep (g : List Nat × Nat) : Event → List Nat × Nat
  | .closeBody (some b) _ => (g.1.erase b, g.2 + 1)
  | .httpDo _ _ (.returned (resp, _)) => ((Jobs.heldBody (resp.map absResp)).toList ++ g.1, g.2)
  | _ => g

def bodies (es : List Event) : List Nat × Nat := es.foldl bodyStep ([], 0)

theorem bodies_append (es fs : List Event) : bodies (es ++ fs) = fs.foldl bodyStep (bodies es) := by
  simp [bodies, List.foldl_append]

/-- the events of one `FunctionJob.Execute` whose function returned -/
def fnEvents (ctx : Ctx) (err : Option Err) : List Event :=
  [.function ctx (.returned err), .lock "f.mtx", .write "f.jobStatus", .write "f.result", .write "f.err", .unlock "f.mtx"]

/-- what the critical section of the translated `FunctionJob.Execute` leaves in the job -/
def fnStored {R : Type} [Inhabited R] (f : FunctionJob R) (res : R) (err : Option Err) : FunctionJob R :=
  { f with jobStatus := if err.isSome then .StatusFailure else .StatusOK, result := if err.isSome then default else res, err := err }

theorem fn_execute_returned {W R : Type} [Inhabited R] (X : FnExt W R) (σ : St W) (f : FunctionJob R) (ctx : Ctx)
    (res : R) (err : Option Err) (h : (X.function σ.world ctx).2 = .returned (res, err)) :
    FunctionJob.Execute X σ f ctx =
      (⟨(X.function σ.world ctx).1, σ.out ++ fnEvents ctx err⟩, fnStored f res err, .returned err) := by
  cases err <;> simp [FunctionJob.Execute, St.fnFunction, St.emit, h, fnStored, fnEvents, CallResult.map]

theorem absFn_fnStored {R : Type} [Inhabited R] (f : FunctionJob R) (res : R) (err : Option Err) :
    absFn (fnStored f res err) = Jobs.fnStore ⟨res, absErr err⟩ := by
  cases err <;> simp [fnStored, absFn, Jobs.fnStore, absErr, absStatus, Jobs.functionStatus, Jobs.ErrTest.decide]

section shell
variable {W : Type} (X : ShExt W) (σ : St W) (sh : ShellJob) (ctx : Ctx)

/-- the world after `getShell()`, the shell it named, the world after `cmd.Run()`, the error `Run` returned -/
def shW1 : W := (X.getShell σ.world).1
def shShell : String := (X.getShell σ.world).2
def shW2 : W := (X.run (shW1 X σ) "cmd").1
def shErr : Option Err := (X.run (shW1 X σ) "cmd").2

/-- what this run of the command produced, in the model's terms: exit code from `cmd.ProcessState.ExitCode()`, whether
`Run` returned an error, the contents of the two buffers attached to the command — all read AFTER `Run` -/
def shOut : Jobs.ShOut :=
  { exitCode := X.exitCode (shW2 X σ) "cmd", runErr := (shErr X σ).isSome,
    stdout := X.bufferString (shW2 X σ) "stdout", stderr := X.bufferString (shW2 X σ) "stderr" }

/-- what the critical section of the translated `ShellJob.Execute` leaves in the job -/
def shStored : ShellJob :=
  { sh with stdout := X.bufferString (shW2 X σ) "stdout", stderr := X.bufferString (shW2 X σ) "stderr",
            exitCode := X.exitCode (shW2 X σ) "cmd",
            jobStatus := if (shErr X σ).isSome then .StatusFailure else .StatusOK }

/-- the events of one `ShellJob.Execute` up to and including the `Unlock` -/
def shEvents : List Event :=
  [.getShell (shShell X σ), .newBuffer "stdout", .newBuffer "stderr", .command "cmd" ctx (shShell X σ) ["-c", sh.cmd],
   .attach "cmd.Stdout" "stdout", .attach "cmd.Stderr" "stderr", .run "cmd" (shErr X σ),
   .lock "sh.mtx", .write "sh.stdout", .write "sh.stderr", .write "sh.exitCode", .write "sh.jobStatus", .unlock "sh.mtx"]

/-- the callback call made after the `Unlock` (with the stored job) -/
def shCb : W × CallResult Unit := X.callback (shW2 X σ) ctx (shStored X σ sh)

theorem sh_execute :
    ShellJob.Execute X σ sh ctx =
      if sh.callback.isSome then
        (⟨(shCb X σ sh ctx).1, σ.out ++ shEvents X σ sh ctx ++ [.callback ctx (shCb X σ sh ctx).2]⟩, shStored X σ sh,
         match (shCb X σ sh ctx).2 with
         | .returned _ => .returned (shErr X σ)
         | .panicked => .panicked)
      else (⟨shW2 X σ, σ.out ++ shEvents X σ sh ctx⟩, shStored X σ sh, .returned (shErr X σ)) := by
  -- Both sides are brought to the form `σ.out ++ [e₁] ++ [e₂] ++ …` in which the code records: `List.append_cons` at a tail of two
  -- or more elements splits a literal list of events in one pass (at `[a]` it would loop).
  simp only [shCb, shStored, shEvents, shErr, shW2, shW1, shShell, List.append_cons _ _ (_ :: _), ShellJob.Execute, St.shGetShell, St.shRun,
    St.shCallback, St.emit]
  by_cases he : (X.run (X.getShell σ.world).1 "cmd").2.isSome = true <;>
    simp only [he, Bool.false_eq_true, if_true, if_false]
  all_goals
    split
    · split <;> simp only [*]
    · rfl

theorem absSh_shStored : absSh (shStored X σ sh) = Jobs.shStore (shOut X σ) := by
  cases he : (X.run (X.getShell σ.world).1 "cmd").2 <;>
    simp [shStored, absSh, Jobs.shStore, shOut, shErr, shW1, he, absStatus, Jobs.shellStatus, Jobs.ErrTest.decide]

end shell

section curl
variable {W : Type} (X : CuExt W) (σ : St W) (cu : CurlJob) (ctx : Ctx)

/-- the request re-bound to the execution's context -/
def cuReq : Option Request := Request.WithContext cu.request ctx

/-- `cu.response != nil && cu.response.Body != nil`: the job holds a body through its stored response -/
def cuPrev : Bool := cu.response.isSome && ((deref cu.response).Body).isSome

/-- the call `cu.response.Body.Close()` (made only when `cuPrev`) -/
def cuClose : W × CallResult (Option Err) := X.closeBody σ.world ((deref cu.response).Body)

/-- the world in which `Do` is called -/
def cuW1 : W := if cuPrev cu then (cuClose X σ cu).1 else σ.world

/-- the call `cu.httpClient.Do(cu.request)` -/
def cuDoCall : W × CallResult (Option Response × Option Err) := X.Do (cuW1 X σ cu) cu.httpClient (cuReq cu ctx)

/-- the status decision of the translated code -/
def cuOk (resp : Option Response) : Bool :=
  (resp.isSome && decide ((deref resp).StatusCode ≥ 200)) && decide ((deref resp).StatusCode < 400)

/-- events up to the `Do` call: lock, re-bind the request, test the stored response, close its body -/
def cuHead : List Event :=
  [.lock "cu.mtx", .read "cu.request", .write "cu.request", .read "cu.response", .read "cu.response"] ++
  (if cuPrev cu then [.read "cu.response", .closeBody ((deref cu.response).Body) (cuClose X σ cu).2] else []) ++
  [.read "cu.request"]

/-- events from the `Do` call (which returned) to the `Unlock` -/
def cuTail (resp : Option Response) (err : Option Err) : List Event :=
  [.httpDo cu.httpClient (cuReq cu ctx) (.returned (resp, err)), .write "cu.response", .read "cu.response", .read "cu.response",
   .read "cu.response", .write "cu.jobStatus", .unlock "cu.mtx"]

/-- `cuHead` takes the mutex and keeps it: every access in it is made under the lock, no user code and no callback runs in it -/
theorem cuHead_checks (es : List Event) :
    accessGuarded "cu.mtx" false (cuHead X σ cu ++ es) = accessGuarded "cu.mtx" true es ∧
    userOutside "cu.mtx" false (cuHead X σ cu ++ es) = userOutside "cu.mtx" true es ∧
    heldAfter "cu.mtx" false (cuHead X σ cu ++ es) = heldAfter "cu.mtx" true es ∧
    callbacks (cuHead X σ cu ++ es) = callbacks es := by
  cases hp : cuPrev cu <;> simp [cuHead, hp, accessGuarded, userOutside, heldAfter, callbacks, isCallback]

/-- what the critical section leaves in the job -/
def cuStored (resp : Option Response) : CurlJob :=
  { cu with request := cuReq cu ctx, response := resp, jobStatus := if cuOk resp then .StatusOK else .StatusFailure }

/-- the callback call made after the `Unlock` (with the stored job) -/
def cuCb (resp : Option Response) : W × CallResult Unit := X.callback (cuDoCall X σ cu ctx).1 ctx (cuStored cu ctx resp)

/-- The helper `CurlJob.do` (Lock; defer Unlock; …) when `Close` (if any) returned: the whole critical section, ended by the
deferred unlock — after the result has been evaluated when `Do` returned, while the panic unwinds when `Do` panicked (then the
only field written is `request`).  The events are compared as in `sh_execute`.  The two branches of the status test record the same
event and differ in the stored status only (`← apply_ite (Prod.mk _)`). -/
theorem cu_do (hclose : cuPrev cu = true → ∃ e, (cuClose X σ cu).2 = .returned e) :
    CurlJob.do X σ cu ctx =
      match (cuDoCall X σ cu ctx).2 with
      | .returned (resp, err) =>
        (⟨(cuDoCall X σ cu ctx).1, σ.out ++ cuHead X σ cu ++ cuTail cu ctx resp err⟩, cuStored cu ctx resp, .returned err)
      | .panicked =>
        (⟨(cuDoCall X σ cu ctx).1, σ.out ++ cuHead X σ cu ++ [.httpDo cu.httpClient (cuReq cu ctx) .panicked, .unlock "cu.mtx"]⟩,
         { cu with request := cuReq cu ctx }, .panicked) := by
  by_cases hp : cuPrev cu = true
  · obtain ⟨e, he⟩ := hclose hp
    simp only [cuDoCall, cuW1, cuHead, cuTail, cuStored, cuOk, cuReq, cuClose, hp, if_true, ← List.append_assoc,
      List.append_cons _ _ (_ :: _)] at he ⊢
    unfold cuPrev at hp
    rcases hd : (X.Do (X.closeBody σ.world (deref cu.response).Body).1 cu.httpClient (Request.WithContext cu.request ctx)).2
      with ⟨resp, err⟩ | _
    · simp only [CurlJob.do, hp, he, hd, St.emit, St.cuCloseBody, St.cuDo, ← apply_ite (Prod.mk _), if_true]
      split <;> simp only [*, Bool.false_eq_true, if_true, if_false]
    · simp only [CurlJob.do, hp, he, hd, St.emit, St.cuCloseBody, St.cuDo, if_true]
  · simp only [cuDoCall, cuW1, cuHead, cuTail, cuStored, cuOk, cuReq, hp, Bool.false_eq_true, if_false, ← List.append_assoc,
      List.append_cons _ _ (_ :: _), List.append_nil]
    unfold cuPrev at hp
    rcases hd : (X.Do σ.world cu.httpClient (Request.WithContext cu.request ctx)).2 with ⟨resp, err⟩ | _
    · simp only [CurlJob.do, hp, hd, St.emit, St.cuDo, ← apply_ite (Prod.mk _), Bool.false_eq_true, if_false]
      split <;> simp only [*, Bool.false_eq_true, if_true, if_false]
    · simp only [CurlJob.do, hp, hd, St.emit, St.cuDo, Bool.false_eq_true, if_false]

theorem cu_execute_returned (resp : Option Response) (err : Option Err)
    (hclose : cuPrev cu = true → ∃ e, (cuClose X σ cu).2 = .returned e)
    (hdo : (cuDoCall X σ cu ctx).2 = .returned (resp, err)) :
    CurlJob.Execute X σ cu ctx =
      if cu.callback.isSome then
        (⟨(cuCb X σ cu ctx resp).1,
          σ.out ++ cuHead X σ cu ++ cuTail cu ctx resp err ++ [.callback ctx (cuCb X σ cu ctx resp).2]⟩, cuStored cu ctx resp,
         match (cuCb X σ cu ctx resp).2 with
         | .returned _ => .returned err
         | .panicked => .panicked)
      else (⟨(cuDoCall X σ cu ctx).1, σ.out ++ cuHead X σ cu ++ cuTail cu ctx resp err⟩, cuStored cu ctx resp, .returned err) := by
  have hd := cu_do X σ cu ctx hclose
  rw [hdo] at hd
  cases hc : cu.callback with
  | none => simp [CurlJob.Execute, hd, cuStored, hc]
  | some c =>
    simp [CurlJob.Execute, hd, St.cuCallback, cuCb, cuStored, hc]
    split <;> simp_all

/-- the `Close` of the previous body panicked: `Do` is not called, the deferred unlock runs, the panic goes on -/
theorem cu_execute_close_panicked (hp : cuPrev cu = true) (hclose : (cuClose X σ cu).2 = .panicked) :
    CurlJob.Execute X σ cu ctx =
      (⟨(cuClose X σ cu).1,
        σ.out ++ [.lock "cu.mtx", .read "cu.request", .write "cu.request", .read "cu.response", .read "cu.response",
          .read "cu.response", .closeBody ((deref cu.response).Body) .panicked, .unlock "cu.mtx"]⟩,
       { cu with request := cuReq cu ctx }, .panicked) := by
  unfold cuPrev at hp
  unfold cuClose at hclose
  simp [CurlJob.Execute, CurlJob.do, St.cuCloseBody, St.emit, cuReq, cuClose, hp, hclose]

theorem cuOk_iff (x : Option Response) :
    (if cuOk x then Status.StatusOK else Status.StatusFailure) = Status.StatusOK ↔
      ∃ r, x = some r ∧ 200 ≤ r.StatusCode ∧ r.StatusCode < 400 := by
  rcases x with _ | r
  · simp [cuOk]
  · simp [cuOk]
    exact fun _ => decide_eq_true_iff

/-- the stored fields of a translated CurlJob together with the body accounting read off the recorded events -/
def absCu (cu : CurlJob) (es : List Event) : Jobs.CuState :=
  { status := absStatus cu.jobStatus, response := cu.response.map absResp, openBodies := (bodies es).1, closes := (bodies es).2 }

end curl

/-- neither the HTTP client nor a response body panics -/
def CuNoPanic {W : Type} (X : CuExt W) : Prop :=
  (∀ w c r, ∃ v, (X.Do w c r).2 = .returned v) ∧ (∀ w b, ∃ e, (X.closeBody w b).2 = .returned e)

/-- `n` executions of one CurlJob one after the other, the `i`-th with context `ctxs i`, in ANY world (each starts in the
world the previous one left); a panicking callback does not end the sequence (the scheduler recovers it) -/
def cuIter {W : Type} (X : CuExt W) (ctxs : Nat → Ctx) : Nat → St W × CurlJob → St W × CurlJob
  | 0, s => s
  | n + 1, s => ((CurlJob.Execute X (cuIter X ctxs n s).1 (cuIter X ctxs n s).2 (ctxs n)).1,
                 (CurlJob.Execute X (cuIter X ctxs n s).1 (cuIter X ctxs n s).2 (ctxs n)).2.1)

end TransJobs
