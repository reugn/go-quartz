import QuartzModel.Sched.Lifecycle
/-!
# Helper lemmas for C10 (`Sched/Lifecycle.lean`)

`step` is analysed once (`step_cases`): `Start`, `Stop`, the watcher's `stopRun`, and the six actions that touch the
record of one generation only (`step_local`), whose effect on that record is described by `Act.guard`, `Act.eff`,
`Act.cnt`. The inductive invariant `Inv`, the simulation `Sim` (cancel ≃ Stop), `Fresh` (restart) and the layer of
`Wait` callers (`wstep_cases`, `WInv`) are all proved along that case split.
-/
namespace Lifecycle

theorem getElem?_set_cases {α : Type} {l : List α} {i j : Nat} {x g : α} (h : (l.set i x)[j]? = some g) :
    (j = i ∧ g = x) ∨ (j ≠ i ∧ l[j]? = some g) := by
  by_cases hij : i = j
  · subst hij
    rw [List.getElem?_set_self (by simpa using (List.getElem?_eq_some_iff.1 h).1)] at h
    exact Or.inl ⟨rfl, (Option.some.inj h).symm⟩
  · rw [List.getElem?_set_ne hij] at h
    exact Or.inr ⟨fun e => hij e.symm, h⟩

theorem getElem?_concat_cases {α : Type} {l : List α} {x y : α} {j : Nat} (h : (l ++ [x])[j]? = some y) :
    l[j]? = some y ∨ y = x := by
  rw [List.getElem?_append] at h
  split at h
  · exact Or.inl h
  · exact Or.inr (List.mem_singleton.1 (List.mem_of_getElem? h))

theorem lt_of_getElem? {α : Type} {l : List α} {i : Nat} {g : α} (h : l[i]? = some g) : i < l.length :=
  (List.getElem?_eq_some_iff.1 h).1

theorem exists_cur {l : List Gen} (h : l ≠ []) : ∃ g, l[l.length - 1]? = some g :=
  ⟨_, List.getElem?_eq_getElem (Nat.sub_one_lt (mt List.length_eq_zero_iff.1 h))⟩

theorem liveL_append (l₁ l₂ : List Gen) : liveL (l₁ ++ l₂) = liveL l₁ + liveL l₂ := by
  induction l₁ with
  | nil => exact (Nat.zero_add _).symm
  | cons g l ih => exact (congrArg (g.live + ·) ih).trans (Nat.add_assoc ..).symm

theorem liveL_set {l : List Gen} {i : Nat} {g : Gen} (g' : Gen) (h : l[i]? = some g) :
    liveL (l.set i g') + g.live = liveL l + g'.live := by
  induction l generalizing i with
  | nil => cases h
  | cons x l ih =>
    cases i with
    | zero =>
      cases h
      show g'.live + liveL l + g.live = g.live + liveL l + g'.live
      rw [Nat.add_right_comm, Nat.add_comm g'.live, Nat.add_right_comm]
    | succ i =>
      show x.live + liveL (l.set i g') + g.live = x.live + liveL l + g'.live
      rw [Nat.add_assoc, ih h, Nat.add_assoc]

theorem live_le_liveL {l : List Gen} {g : Gen} (h : g ∈ l) : g.live ≤ liveL l := by
  induction h with
  | head l => exact Nat.le_add_right _ _
  | tail x _ ih => exact Nat.le_trans ih (Nat.le_add_left _ _)

theorem cancelAt_eq {l : List Gen} {i : Nat} {g : Gen} (h : l[i]? = some g) :
    cancelAt l i = l.set i { g with cancelled := true } := by
  simp only [cancelAt, h]

theorem stopBody_length (s : St) : (stopBody s).gens.length = s.gens.length := by
  unfold stopBody cancelAt; split
  · split
    · exact List.length_set
    · rfl
  · rfl

theorem stopBody_started (s : St) : (stopBody s).started = false := by
  unfold stopBody; split
  · rfl
  · rename_i h; exact Bool.eq_false_iff.2 h

theorem stopBody_wg (s : St) : (stopBody s).wg = s.wg := by
  unfold stopBody; split <;> rfl

theorem stopBody_of_not_started (s : St) (h : s.started = false) : stopBody s = s := by
  simp only [stopBody, h, Bool.false_eq_true, if_false]

/-- `s` with the `started` flag cleared -/
def clr (s : St) : St := { s with started := false }

/-- `stop()` on a started scheduler: `cancel()` of the current run, then the flag is cleared -/
theorem stopBody_of_started {s : St} (h : s.started = true) :
    stopBody s = clr { s with gens := cancelAt s.gens (s.gens.length - 1) } := by
  simp only [stopBody, h, if_true, clr]

theorem curCancelled_of_last {s : St} {i : Nat} {g : Gen} (hg : s.gens[i]? = some g)
    (hi : i = s.gens.length - 1) : curCancelled s = g.cancelled := by
  simp only [curCancelled, ← hi, hg]

theorem curCancelled_set (s : St) {i : Nat} (hi : i < s.gens.length) (g' : Gen) (st : Bool) (w : Nat) :
    curCancelled { started := st, gens := s.gens.set i g', wg := w } =
      if i = s.gens.length - 1 then g'.cancelled else curCancelled s := by
  simp only [curCancelled, List.length_set]
  by_cases h : i = s.gens.length - 1
  · rw [if_pos h, ← h, List.getElem?_set_self hi]
  · rw [if_neg h, List.getElem?_set_ne h]

/-- after `cancel()` of the current run its context is cancelled -/
theorem curCancelled_cancel_cur {s : St} {g : Gen} (hg : s.gens[s.gens.length - 1]? = some g) (st : Bool) (w : Nat) :
    curCancelled { started := st, gens := s.gens.set (s.gens.length - 1) { g with cancelled := true }, wg := w } = true :=
  (curCancelled_set s (lt_of_getElem? hg) _ _ _).trans (if_pos rfl)

theorem curCancelled_stopBody (s : St) (h : s.started = true) (hne : s.gens ≠ []) :
    curCancelled (stopBody s) = true := by
  obtain ⟨g, hg⟩ := exists_cur hne
  rw [stopBody_of_started h, cancelAt_eq hg]
  exact curCancelled_cancel_cur hg _ _

theorem curCancelled_append (l : List Gen) (g : Gen) (st : Bool) (w : Nat) :
    curCancelled { started := st, gens := l ++ [g], wg := w } = g.cancelled := by
  simp [curCancelled]

theorem curCancelled_started_irrel (s : St) (st : Bool) :
    curCancelled { s with started := st } = curCancelled s := rfl

/-! ## steps of one generation

Six of the nine actions read and write the record of one generation and the counter, nothing else:
`step` looks the record up, tests `guard`, stores `eff` and moves the counter by `cnt`. -/

def Act.gen : Act → Nat
  | .cancel i | .watcherWake i | .watcherStop i | .loopExit i | .workerExit i | .jobSpawn i | .jobExit i => i
  | _ => 0

def Act.isLocal : Act → Bool
  | .start | .stop | .watcherStop _ => false
  | _ => true

def Act.guard : Act → Gen → Prop
  | .watcherWake _, g => g.cancelled = true ∧ g.watcher = .waiting
  | .loopExit _, g => g.loop = true ∧ g.cancelled = true
  | .workerExit _, g => 0 < g.workers ∧ g.cancelled = true
  | .jobSpawn _, g => g.loop = true
  | .jobExit _, g => 0 < g.jobs
  | _, _ => True

instance (a : Act) (g : Gen) : Decidable (a.guard g) := by
  cases a <;> unfold Act.guard <;> infer_instance

def Act.eff : Act → Gen → Gen
  | .cancel _, g => { g with cancelled := true }
  | .watcherWake _, g => { g with watcher := .woke }
  | .loopExit _, g => { g with loop := false }
  | .workerExit _, g => { g with workers := g.workers - 1 }
  | .jobSpawn _, g => { g with jobs := g.jobs + 1 }
  | .jobExit _, g => { g with jobs := g.jobs - 1 }
  | _, g => g

def Act.cnt : Act → Nat → Nat
  | .loopExit _, w | .workerExit _, w | .jobExit _, w => w - 1
  | .jobSpawn _, w => w + 1
  | _, w => w

/-- `s` after a step of generation `i` that stores `g'` and leaves the counter at `w` -/
def St.put (s : St) (i : Nat) (g' : Gen) (w : Nat) : St := { s with gens := s.gens.set i g', wg := w }

theorem step_local (cfg : Cfg) (s : St) {a : Act} (ha : a.isLocal = true) :
    step cfg s a = match s.gens[a.gen]? with
      | some g => if a.guard g then some (s.put a.gen (a.eff g) (a.cnt s.wg)) else none
      | none => none := by
  cases a <;> cases ha <;> rfl

theorem step_local_inv {cfg : Cfg} {s s' : St} {a : Act} (ha : a.isLocal = true) (h : step cfg s a = some s') :
    ∃ g, s.gens[a.gen]? = some g ∧ a.guard g ∧ s' = s.put a.gen (a.eff g) (a.cnt s.wg) := by
  rw [step_local cfg s ha] at h
  split at h
  · rename_i g hg
    split at h
    · exact ⟨g, hg, ‹_›, (Option.some.inj h).symm⟩
    · cases h
  · cases h

/-- a step of one generation does not read the `started` flag -/
theorem step_local_clr (cfg : Cfg) (s : St) {a : Act} (ha : a.isLocal = true) :
    step cfg (clr s) a = (step cfg s a).map clr := by
  rw [step_local cfg s ha, step_local cfg (clr s) ha]
  simp only [clr]
  cases s.gens[a.gen]? with
  | none => rfl
  | some g => simp only; split <;> rfl

/-- `stopRun(i+1)`: `if sched.run == run { stop() }`; the unguarded variant calls `Stop()` -/
def stopRun (cfg : Cfg) (s : St) (i : Nat) : St :=
  if cfg.guarded && !(s.gens.length == i + 1) then s else stopBody s

/-- a watcher of an earlier generation stops nothing; the one that does stop is that of the current generation,
    or unguarded -/
theorem stopRun_cases (cfg : Cfg) {s : St} {i : Nat} (hi : i < s.gens.length) :
    (stopRun cfg s i = s ∧ i ≠ s.gens.length - 1) ∨
    (stopRun cfg s i = stopBody s ∧ (cfg.guarded = true → i = s.gens.length - 1)) := by
  unfold stopRun
  cases cfg.guarded
  · exact Or.inr ⟨rfl, nofun⟩
  · by_cases h : s.gens.length = i + 1
    · exact Or.inr ⟨by simp [h], fun _ => h ▸ rfl⟩
    · exact Or.inl ⟨by simp [h], fun e => h (e ▸ (Nat.sub_add_cancel (Nat.zero_lt_of_lt hi)).symm)⟩

theorem step_cases {cfg : Cfg} {s s' : St} {a : Act} (h : step cfg s a = some s') :
    (a = .start ∧ s' = startBody cfg s) ∨ (a = .stop ∧ s' = stopBody s) ∨
    (∃ i g, a = .watcherStop i ∧ s.gens[i]? = some g ∧ g.watcher = .woke ∧
      s' = finishWatcher (stopRun cfg s i) i) ∨
    (a.isLocal = true ∧ ∃ g, s.gens[a.gen]? = some g ∧ a.guard g ∧ s' = s.put a.gen (a.eff g) (a.cnt s.wg)) := by
  cases a
  case start => exact Or.inl ⟨rfl, (Option.some.inj h).symm⟩
  case stop => exact Or.inr (Or.inl ⟨rfl, (Option.some.inj h).symm⟩)
  case watcherStop i =>
    simp only [step] at h
    split at h
    · rename_i g hg
      split at h
      · exact Or.inr (Or.inr (Or.inl ⟨i, g, rfl, hg, ‹_›, (Option.some.inj h).symm⟩))
      · cases h
    · cases h
  all_goals exact Or.inr (Or.inr (Or.inr ⟨rfl, step_local_inv rfl h⟩))

theorem eff_cancelled {a : Act} (g : Gen) (ha : a.isInternal = true) : (a.eff g).cancelled = g.cancelled := by
  cases a <;> first | rfl | cases ha

theorem eff_cancelled_mono (a : Act) {g : Gen} (h : g.cancelled = true) : (a.eff g).cancelled = true := by
  cases a <;> first | exact h | rfl

/-- only `watcherWake` moves the watcher, and it needs the cancellation -/
theorem eff_watcher {a : Act} {g : Gen} (hg : a.guard g) :
    (a.eff g).watcher = g.watcher ∨ (g.cancelled = true ∧ (a.eff g).watcher = .woke) := by
  cases a <;> first | exact Or.inl rfl | exact Or.inr ⟨hg.1, rfl⟩

theorem done_arith {w l l' : Nat} (h : l = l' + 1) (hw : l ≤ w) : w - 1 + l = w + l' := by
  subst h
  rw [← Nat.add_assoc, Nat.add_right_comm, Nat.sub_add_cancel (Nat.le_trans (Nat.le_add_left 1 l') hw)]

/-- `Add(1)` with every goroutine started, `Done()` with every goroutine that returns -/
theorem eff_live {a : Act} {g : Gen} (hg : a.guard g) {w : Nat} (hw : g.live ≤ w) :
    a.cnt w + g.live = w + (a.eff g).live := by
  rcases g with ⟨c, wt, lp, wk, jb⟩
  cases a
  case watcherWake => obtain ⟨-, rfl⟩ := hg; rfl
  case jobSpawn => exact Nat.add_right_comm ..
  case loopExit =>
    obtain ⟨rfl, -⟩ := hg
    exact done_arith ((congrArg (· + jb) (Nat.add_right_comm _ 1 wk)).trans (Nat.add_right_comm _ 1 jb)) hw
  case workerExit =>
    obtain ⟨k, rfl⟩ := Nat.exists_eq_succ_of_ne_zero (Nat.ne_of_gt hg.1)
    exact done_arith (Nat.add_right_comm _ 1 jb) hw
  case jobExit =>
    obtain ⟨k, rfl⟩ := Nat.exists_eq_succ_of_ne_zero (Nat.ne_of_gt hg)
    exact done_arith rfl hw
  -- `start`, `stop`, `watcherStop`, `cancel`: neither the counter nor `live` moves
  all_goals rfl

structure Inv (s : St) : Prop where
  /-- the WaitGroup counter is the number of live counted goroutines -/
  wg_live : s.wg = live s
  /-- the context of every generation except a started current one is cancelled -/
  old_cancelled : ∀ (i : Nat) (g : Gen), s.gens[i]? = some g → (i + 1 < s.gens.length ∨ s.started = false) → g.cancelled = true
  started_has : s.started = true → s.gens ≠ []
  /-- a watcher leaves `<-ctx.Done()` only after the cancellation -/
  woke_cancelled : ∀ (i : Nat) (g : Gen), s.gens[i]? = some g → g.watcher ≠ .waiting → g.cancelled = true
  /-- while `started` is set the watcher of the current generation has not returned -/
  cur_watching : ∀ (g : Gen), s.gens[s.gens.length - 1]? = some g → s.started = true → g.watcher ≠ .done

theorem inv_init : Inv init :=
  ⟨rfl, (fun _ _ h => by cases h), (fun h => by cases h), (fun _ _ h => by cases h), (fun _ h => by cases h)⟩

/-- replacing generation `i` by a record that keeps a cancellation, respects the watcher rule and is
    accounted for in the WaitGroup keeps the invariant -/
theorem inv_set {s : St} {i : Nat} {g g' : Gen} {w' : Nat} (hi : Inv s) (hg : s.gens[i]? = some g)
    (hc : g.cancelled = true → g'.cancelled = true)
    (hk : g'.watcher ≠ .waiting → g'.cancelled = true)
    (hw : w' + g.live = s.wg + g'.live)
    (hd : s.started = true → i = s.gens.length - 1 → g'.watcher ≠ .done) :
    Inv (s.put i g' w') := by
  refine ⟨?_, fun j gj hj hcond => ?_, fun hst hnil => ?_, fun j gj hj hw' => ?_, fun gj hj hst => ?_⟩
  · have h2 : s.wg = liveL s.gens := hi.wg_live
    rw [h2] at hw
    exact Nat.add_right_cancel (hw.trans (liveL_set g' hg).symm)
  · simp only [St.put, List.length_set] at hcond
    rcases getElem?_set_cases hj with ⟨rfl, rfl⟩ | ⟨_, hj'⟩
    · exact hc (hi.old_cancelled _ g hg hcond)
    · exact hi.old_cancelled j gj hj' hcond
  · exact hi.started_has hst ((List.set_eq_nil_iff ..).1 hnil)
  · rcases getElem?_set_cases hj with ⟨rfl, rfl⟩ | ⟨_, hj'⟩
    · exact hk hw'
    · exact hi.woke_cancelled j gj hj' hw'
  · simp only [St.put, List.length_set] at hj
    rcases getElem?_set_cases hj with ⟨hji, rfl⟩ | ⟨_, hj'⟩
    · exact hd hst hji.symm
    · exact hi.cur_watching gj hj' hst

theorem inv_local {s : St} {a : Act} {g : Gen} (hi : Inv s) (hg : s.gens[a.gen]? = some g) (ha : a.guard g) :
    Inv (s.put a.gen (a.eff g) (a.cnt s.wg)) := by
  have hwc := hi.woke_cancelled _ g hg
  refine inv_set hi hg (eff_cancelled_mono a) (fun hk => ?_)
    (eff_live ha (hi.wg_live ▸ live_le_liveL (List.mem_of_getElem? hg))) (fun hst hil hd => ?_)
  · rcases eff_watcher ha with h | ⟨h, _⟩
    · exact eff_cancelled_mono a (hwc (h ▸ hk))
    · exact eff_cancelled_mono a h
  · rcases eff_watcher ha with h | ⟨_, h⟩
    · exact hi.cur_watching g (hil ▸ hg) hst (h ▸ hd)
    · rw [h] at hd; cases hd

theorem inv_clr {s : St} (hi : Inv s) (hc : s.started = true → curCancelled s = true) : Inv (clr s) := by
  refine ⟨hi.wg_live, fun i g hg _ => ?_, (fun h => by cases h), hi.woke_cancelled, (fun _ _ h => by cases h)⟩
  by_cases hl : i = s.gens.length - 1
  · cases hst : s.started with
    | false => exact hi.old_cancelled i g hg (Or.inr hst)
    | true => rw [← curCancelled_of_last hg hl]; exact hc hst
  · have : i < s.gens.length := lt_of_getElem? hg
    exact hi.old_cancelled i g hg (Or.inl (Nat.lt_of_le_of_ne this fun e => hl (e ▸ rfl)))

theorem inv_stopBody {s : St} (hi : Inv s) : Inv (stopBody s) := by
  cases hst : s.started with
  | false => rw [stopBody_of_not_started s hst]; exact hi
  | true =>
    obtain ⟨g, hg⟩ := exists_cur (hi.started_has hst)
    rw [stopBody_of_started hst, cancelAt_eq hg]
    exact inv_clr (inv_local (a := .cancel _) hi hg trivial) (fun _ => curCancelled_cancel_cur hg _ _)

/-- `stop()` touches at most the `cancelled` flag of a generation -/
theorem stopBody_get {s : St} {j : Nat} {g : Gen} (hg : s.gens[j]? = some g) :
    ∃ c, (stopBody s).gens[j]? = some { g with cancelled := c } := by
  unfold stopBody cancelAt
  split
  · split
    · rename_i gc hgc
      by_cases hj : s.gens.length - 1 = j
      · subst hj; rw [hgc] at hg; cases hg
        exact ⟨true, List.getElem?_set_self (lt_of_getElem? hgc)⟩
      · exact ⟨g.cancelled, (List.getElem?_set_ne hj).trans hg⟩
    · exact ⟨g.cancelled, hg⟩
  · exact ⟨g.cancelled, hg⟩

/-- `Start` returns early on a scheduler that is running; otherwise it completes a pending stop (`stopBody s` is `s`
    when the flag is clear) and appends a fresh generation -/
theorem startBody_eq (cfg : Cfg) (s : St) :
    startBody cfg s = if (s.started && !(cfg.prestop && curCancelled s)) = true then s else
      { started := true, gens := (stopBody s).gens ++ [newGen cfg], wg := s.wg + 2 + cfg.workers } := by
  unfold startBody
  cases hst : s.started
  · simp [stopBody_of_not_started s hst, hst]
  · cases hc : (cfg.prestop && curCancelled s)
    · simp [hst, hc]
    · simp [hc, stopBody_started, stopBody_wg]

theorem inv_push (cfg : Cfg) {s : St} (hi : Inv s) (hst : s.started = false) :
    Inv { started := true, gens := s.gens ++ [newGen cfg], wg := s.wg + 2 + cfg.workers } := by
  refine ⟨?_, fun j gj hj hcond => ?_, fun _ h => ?_, fun j gj hj hw => ?_, fun gj hj _ => ?_⟩
  · have h2 : s.wg = liveL s.gens := hi.wg_live
    show s.wg + 2 + cfg.workers = liveL (s.gens ++ [newGen cfg])
    rw [liveL_append, h2]
    exact Nat.add_assoc ..
  · rcases hcond with hcond | hcond
    · have hjl : j < s.gens.length := by simpa using hcond
      exact hi.old_cancelled j gj (List.getElem?_append_left hjl ▸ hj) (Or.inr hst)
    · cases hcond
  · exact List.cons_ne_nil _ _ (List.append_eq_nil_iff.1 h).2
  · rcases getElem?_concat_cases hj with h | rfl
    · exact hi.woke_cancelled j gj h hw
    · exact absurd rfl hw
  · have : (s.gens ++ [newGen cfg]).length - 1 = s.gens.length := by simp
    rw [this, List.getElem?_concat_length] at hj
    cases hj; exact nofun

theorem finishWatcher_eq {s : St} {i : Nat} {g : Gen} (hg : s.gens[i]? = some g) :
    finishWatcher s i = s.put i { g with watcher := .done } (s.wg - 1) := by
  simp only [finishWatcher, hg]; rfl

theorem inv_finishWatcher {s : St} {i : Nat} {g : Gen} (hi : Inv s) (hg : s.gens[i]? = some g)
    (hw : g.watcher = .woke) (hd : s.started = false ∨ i ≠ s.gens.length - 1) :
    Inv (finishWatcher s i) := by
  rw [finishWatcher_eq hg]
  have hlive : g.live = ({ g with watcher := .done } : Gen).live + 1 := by
    simp only [Gen.live, hw, if_true, reduceCtorEq, if_false, Nat.zero_add, Nat.add_comm 1, Nat.add_right_comm _ 1]
  have hle : g.live ≤ s.wg := hi.wg_live ▸ live_le_liveL (List.mem_of_getElem? hg)
  refine inv_set hi hg id (fun _ => hi.woke_cancelled i g hg (hw ▸ nofun))
    (done_arith hlive hle) (fun hst hil => ?_)
  rcases hd with hd | hd
  · rw [hd] at hst; cases hst
  · exact absurd hil hd

theorem inv_step (cfg : Cfg) {s s' : St} {a : Act} (hi : Inv s) (hs : step cfg s a = some s') : Inv s' := by
  rcases step_cases hs with ⟨-, rfl⟩ | ⟨-, rfl⟩ | ⟨i, g, -, hg, hw, rfl⟩ | ⟨-, g, hg, ha, rfl⟩
  · rw [startBody_eq]; split
    · exact hi
    · exact stopBody_wg s ▸ inv_push cfg (inv_stopBody hi) (stopBody_started s)
  · exact inv_stopBody hi
  · rcases stopRun_cases cfg (lt_of_getElem? hg) with ⟨e, hne⟩ | ⟨e, -⟩ <;> rw [e]
    · exact inv_finishWatcher hi hg hw (Or.inr hne)
    · obtain ⟨c, hg2⟩ := stopBody_get hg
      exact inv_finishWatcher (inv_stopBody hi) hg2 hw (Or.inl (stopBody_started s))
  · exact inv_local hi hg ha

theorem run_invariant {cfg : Cfg} {P : St → Prop} : ∀ {as : List Act} {s s' : St},
    (∀ a ∈ as, ∀ t t', P t → step cfg t a = some t' → P t') → P s → run cfg s as = some s' → P s'
  | [], _, _, _, hp, h => Option.some.inj h ▸ hp
  | _ :: _, _, _, hstep, hp, h =>
    let ⟨_, h1, h2⟩ := Option.bind_eq_some_iff.1 h
    run_invariant (fun b hb => hstep b (List.mem_cons_of_mem _ hb)) (hstep _ List.mem_cons_self _ _ hp h1) h2

theorem inv_reach (cfg : Cfg) (s : St) (hr : Reach cfg s) : Inv s :=
  let ⟨_, h⟩ := hr
  run_invariant (fun _ _ _ _ hi hs => inv_step cfg hi hs) inv_init h

theorem finishWatcher_length (s : St) (i : Nat) : (finishWatcher s i).gens.length = s.gens.length := by
  unfold finishWatcher; split
  · exact List.length_set
  · rfl

theorem finishWatcher_started (s : St) (i : Nat) : (finishWatcher s i).started = s.started := by
  unfold finishWatcher; split <;> rfl

theorem curCancelled_put {s : St} {i : Nat} {g g' : Gen} {b : Bool} (hg : s.gens[i]? = some g)
    (hc : g.cancelled = b → g'.cancelled = b) (w : Nat) (h : curCancelled s = b) :
    curCancelled (s.put i g' w) = b := by
  refine (curCancelled_set s (lt_of_getElem? hg) g' _ w).trans ?_
  split
  · exact hc (curCancelled_of_last hg ‹_› ▸ h)
  · exact h

theorem curCancelled_finishWatcher (s : St) (i : Nat) : curCancelled (finishWatcher s i) = curCancelled s := by
  cases hg : s.gens[i]? with
  | none => simp only [finishWatcher, hg]
  | some g => rw [finishWatcher_eq hg]; exact curCancelled_put (g' := { g with watcher := .done }) hg id _ rfl

/-- when the current context is already cancelled, `stop()` only clears the flag -/
theorem stopBody_eq_clr (s : St) (h : curCancelled s = true) : stopBody s = clr s := by
  cases hst : s.started with
  | false => rw [stopBody_of_not_started s hst]; cases s; cases hst; rfl
  | true =>
    rw [stopBody_of_started hst]
    cases hg : s.gens[s.gens.length - 1]? with
    | none => simp only [cancelAt, hg]
    | some g =>
      have : ({ g with cancelled := true } : Gen) = g := by
        rw [curCancelled_of_last hg rfl] at h; cases g; cases h; rfl
      obtain ⟨hlt, rfl⟩ := List.getElem?_eq_some_iff.1 hg
      rw [cancelAt_eq hg, this, List.set_getElem_self hlt]

theorem startBody_noop (cfg : Cfg) (s : St) (hst : s.started = true) (hc : curCancelled s = false) :
    startBody cfg s = s := by
  rw [startBody_eq, if_pos (by rw [hst, hc, Bool.and_false]; rfl)]

theorem startBody_new (cfg : Cfg) (s : St) (hp : cfg.prestop = true)
    (h : s.started = false ∨ curCancelled s = true) :
    startBody cfg s = { started := true, gens := (stopBody s).gens ++ [newGen cfg],
                        wg := s.wg + 2 + cfg.workers } := by
  rw [startBody_eq, if_neg]
  rcases h with h | h <;> simp [h, hp]

theorem startBody_len_wg (cfg : Cfg) (s : St) :
    ((startBody cfg s).gens.length = s.gens.length ∧ (startBody cfg s).wg = s.wg) ∨
    (startBody cfg s).gens.length = s.gens.length + 1 := by
  rw [startBody_eq]; split
  · exact Or.inl ⟨rfl, rfl⟩
  · exact Or.inr (List.length_append.trans (congrArg (· + 1) (stopBody_length s)))

theorem isStarted_std (n : Nat) (s : St) : isStarted (Cfg.std n) s = (s.started && !curCancelled s) := rfl

theorem isStarted_finishWatcher (cfg : Cfg) (s : St) (i : Nat) :
    isStarted cfg (finishWatcher s i) = isStarted cfg s := by
  simp only [isStarted, curCancelled_finishWatcher, finishWatcher_started]

/-- The goroutines' own steps are invisible to `IsStarted` and create no generation: a watcher that does
    call `stop()` finds the context of its run cancelled already. -/
theorem isStarted_internal (n : Nat) {s s' : St} {a : Act} (hi : Inv s) (ha : a.isInternal = true)
    (h : step (Cfg.std n) s a = some s') :
    s'.gens.length = s.gens.length ∧ isStarted (Cfg.std n) s' = isStarted (Cfg.std n) s := by
  rcases step_cases h with ⟨rfl, -⟩ | ⟨rfl, -⟩ | ⟨i, g, -, hg, hw, rfl⟩ | ⟨-, g, hg, -, rfl⟩
  · cases ha
  · cases ha
  · rw [finishWatcher_length, isStarted_finishWatcher]
    rcases stopRun_cases (Cfg.std n) (lt_of_getElem? hg) with ⟨e, -⟩ | ⟨e, hcur⟩ <;> rw [e]
    · exact ⟨rfl, rfl⟩
    · have hcc : curCancelled s = true :=
        (curCancelled_of_last hg (hcur rfl)).trans (hi.woke_cancelled i g hg (hw ▸ nofun))
      rw [stopBody_eq_clr s hcc]
      exact ⟨rfl, show false = (s.started && !curCancelled s) by rw [hcc]; exact (Bool.and_false _).symm⟩
  · exact ⟨List.length_set, congrArg (s.started && !·) (curCancelled_put hg ((eff_cancelled g ha).trans ·) _ rfl)⟩

theorem latest_step (n : Nat) {s s' : St} {a : Act} (p : Nat × Bool) (hi : Inv s)
    (hl : s.gens.length = p.1) (hs : isStarted (Cfg.std n) s = p.2) (h : step (Cfg.std n) s a = some s') :
    s'.gens.length = (expectStep p a).1 ∧ isStarted (Cfg.std n) s' = (expectStep p a).2 := by
  obtain ⟨m, w⟩ := p
  simp only at hl hs
  cases a
  case start =>
    cases h
    rw [startBody_eq, show (s.started && !((Cfg.std n).prestop && curCancelled s)) = w from hs]
    cases w with
    | true => exact ⟨hl, hs⟩
    | false =>
      exact ⟨by rw [if_neg nofun, List.length_append, stopBody_length, hl]; rfl,
        by rw [if_neg nofun, isStarted_std, curCancelled_append]; rfl⟩
  case stop =>
    cases h
    exact ⟨(stopBody_length s).trans hl, by rw [isStarted_std, stopBody_started]; rfl⟩
  case cancel i =>
    obtain ⟨g, hg, -, rfl⟩ := step_local_inv rfl h
    have hlt : i < s.gens.length := lt_of_getElem? hg
    have hiff : i = s.gens.length - 1 ↔ i + 1 = m :=
      hl ▸ ⟨fun e => e ▸ Nat.sub_add_cancel (Nat.zero_lt_of_lt hlt), fun e => e ▸ rfl⟩
    show (s.gens.set i _).length = (if i + 1 = m then (m, false) else (m, w)).1 ∧
      (s.started && !curCancelled { started := _, gens := s.gens.set i { g with cancelled := true }, wg := _ }) =
        (if i + 1 = m then (m, false) else (m, w)).2
    rw [List.length_set, curCancelled_set s hlt]
    by_cases hcur : i + 1 = m
    · rw [if_pos hcur, if_pos (hiff.2 hcur)]; exact ⟨hl, Bool.and_false _⟩
    · rw [if_neg hcur, if_neg (mt hiff.1 hcur)]; exact ⟨hl, hs⟩
  all_goals exact (isStarted_internal n hi rfl h).imp (·.trans hl) (·.trans hs)

theorem latest_run (n : Nat) : ∀ (as : List Act) (s s' : St) (p : Nat × Bool), Inv s →
    s.gens.length = p.1 → isStarted (Cfg.std n) s = p.2 → run (Cfg.std n) s as = some s' →
    s'.gens.length = (as.foldl expectStep p).1 ∧ isStarted (Cfg.std n) s' = (as.foldl expectStep p).2
  | [], _, _, _, _, hl, hs, h => Option.some.inj h ▸ ⟨hl, hs⟩
  | a :: as, _, s', p, hi, hl, hs, h =>
    let ⟨s1, h1, h2⟩ := Option.bind_eq_some_iff.1 h
    let ⟨hl1, hs1⟩ := latest_step n p hi hl hs h1
    latest_run n as s1 s' (expectStep p a) (inv_step _ hi h1) hl1 hs1 h2

theorem quiet_started {s : St} (hi : Inv s) (hq : Quiet s) (hst : s.started = true) :
    curCancelled s = false := by
  obtain ⟨g, hg⟩ := exists_cur (hi.started_has hst)
  obtain ⟨q1, q2⟩ := hq g (List.mem_of_getElem? hg)
  rw [curCancelled_of_last hg rfl]
  cases hc : g.cancelled with
  | false => rfl
  | true =>
    cases hw : g.watcher with
    | waiting => exact absurd ⟨hw, hc⟩ q2
    | woke => exact absurd hw q1
    | done => exact absurd hw (hi.cur_watching g hg hst)

theorem quiet_iff (cfg : Cfg) (s : St) :
    Quiet s ↔ ∀ i, step cfg s (.watcherWake i) = none ∧ step cfg s (.watcherStop i) = none := by
  constructor
  · intro hq i
    simp only [step]
    cases hg : s.gens[i]? with
    | none => exact ⟨rfl, rfl⟩
    | some g =>
      obtain ⟨q1, q2⟩ := hq g (List.mem_of_getElem? hg)
      exact ⟨if_neg (fun h => q2 ⟨h.2, h.1⟩), if_neg q1⟩
  · intro h g hg
    obtain ⟨i, hi⟩ := List.mem_iff_getElem?.mp hg
    obtain ⟨h1, h2⟩ := h i
    simp only [step, hi] at h1 h2
    constructor
    · intro hw; rw [if_pos hw] at h2; cases h2
    · intro hw; rw [if_pos ⟨hw.2, hw.1⟩] at h1; cases h1

/-! ## cancel ≃ Stop: lock-step simulation -/

/-- equal, or equal up to the `started` flag while the current context is cancelled (the watcher has not
    reacted yet) -/
def Sim (a b : St) : Prop := a = b ∨ (b = clr a ∧ curCancelled a = true)

theorem finishWatcher_clr (s : St) (i : Nat) : finishWatcher (clr s) i = clr (finishWatcher s i) := by
  simp only [finishWatcher, clr]
  split <;> rfl

theorem stopBody_clr (s : St) : stopBody (clr s) = clr s := stopBody_of_not_started _ rfl

theorem sim_isStarted (n : Nat) {a b : St} (h : Sim a b) : isStarted (Cfg.std n) a = isStarted (Cfg.std n) b := by
  rcases h with rfl | ⟨rfl, hc⟩
  · rfl
  · simp [isStarted_std, hc, clr]

/-- a step of one generation: the same on both sides, and it cannot revive the current context -/
theorem sim_local (cfg : Cfg) {a : St} {x : Act} (hx : x.isLocal = true) (hc : curCancelled a = true) :
    (step cfg a x = none ∧ step cfg (clr a) x = none) ∨
    ∃ a' b', step cfg a x = some a' ∧ step cfg (clr a) x = some b' ∧ Sim a' b' := by
  rw [step_local_clr _ a hx]
  cases hs : step cfg a x with
  | none => exact Or.inl ⟨rfl, rfl⟩
  | some a' =>
    obtain ⟨g, hg, -, rfl⟩ := step_local_inv hx hs
    exact Or.inr ⟨_, _, rfl, rfl, Or.inr ⟨rfl, curCancelled_put hg (eff_cancelled_mono _) _ hc⟩⟩

theorem sim_step (n : Nat) {a b : St} (x : Act) (h : Sim a b) :
    (step (Cfg.std n) a x = none ∧ step (Cfg.std n) b x = none) ∨
    ∃ a' b', step (Cfg.std n) a x = some a' ∧ step (Cfg.std n) b x = some b' ∧ Sim a' b' := by
  rcases h with rfl | ⟨rfl, hc⟩
  · cases hs : step (Cfg.std n) a x with
    | none => exact Or.inl ⟨rfl, rfl⟩
    | some a' => exact Or.inr ⟨a', a', rfl, rfl, Or.inl rfl⟩
  · -- `stop()` on either side only clears the flag, so `Start`, `Stop` and a watcher that stops make the states equal
    have hstop : stopBody a = stopBody (clr a) := by rw [stopBody_eq_clr a hc, stopBody_clr]
    cases x
    case start =>
      refine Or.inr ⟨_, _, rfl, rfl, Or.inl ?_⟩
      rw [startBody_new _ a rfl (Or.inr hc), startBody_new _ (clr a) rfl (Or.inl rfl), hstop]
      rfl
    case stop => exact Or.inr ⟨_, _, rfl, rfl, Or.inl hstop⟩
    case watcherStop i =>
      simp only [step, show (clr a).gens = a.gens from rfl]
      cases hg : a.gens[i]? with
      | none => exact Or.inl ⟨rfl, rfl⟩
      | some g =>
        by_cases hw : g.watcher = .woke
        · simp only [if_pos hw]
          refine Or.inr ⟨_, _, rfl, rfl, ?_⟩
          show Sim (finishWatcher (stopRun (Cfg.std n) a i) i) (finishWatcher (stopRun (Cfg.std n) (clr a) i) i)
          rw [show stopRun (Cfg.std n) (clr a) i = clr a by rw [stopRun, stopBody_clr, ite_self]]
          rcases stopRun_cases (Cfg.std n) (lt_of_getElem? hg) with ⟨e, -⟩ | ⟨e, -⟩ <;> rw [e]
          · exact Or.inr ⟨finishWatcher_clr a i, (curCancelled_finishWatcher a i).trans hc⟩
          · exact Or.inl (by rw [stopBody_eq_clr a hc])
        · simp only [if_neg hw]; exact Or.inl ⟨trivial, trivial⟩
    all_goals exact sim_local _ rfl hc

theorem sim_run (n : Nat) : ∀ (as : List Act) (a b : St), Sim a b →
    (run (Cfg.std n) a as = none ∧ run (Cfg.std n) b as = none) ∨
    ∃ a' b', run (Cfg.std n) a as = some a' ∧ run (Cfg.std n) b as = some b' ∧ Sim a' b' := by
  intro as
  induction as with
  | nil => intro a b h; exact Or.inr ⟨a, b, rfl, rfl, h⟩
  | cons x as ih =>
    intro a b h
    simp only [run]
    rcases sim_step n x h with ⟨h1, h2⟩ | ⟨a1, b1, h1, h2, hs⟩
    · rw [h1, h2]; exact Or.inl ⟨rfl, rfl⟩
    · rw [h1, h2]; exact ih a1 b1 hs

/-! ## restart: a fresh current generation survives every internal step -/

/-- started, and the current generation is as `Start` created it (context live, watcher blocked, loop alive) -/
def Fresh (s : St) : Prop :=
  s.started = true ∧ ∃ g, s.gens[s.gens.length - 1]? = some g ∧ g.cancelled = false ∧
    g.watcher = .waiting ∧ g.loop = true

theorem fresh_isStarted (cfg : Cfg) {s : St} (h : Fresh s) : isStarted cfg s = true := by
  obtain ⟨hst, g, hg, hc, _, _⟩ := h
  simp [isStarted, hst, curCancelled, hg, hc]

theorem fresh_startBody (cfg : Cfg) {s : St} (hp : cfg.prestop = true)
    (h : s.started = false ∨ curCancelled s = true) : Fresh (startBody cfg s) := by
  rw [startBody_new cfg s hp h]
  exact ⟨rfl, newGen cfg, by simp, rfl, rfl, rfl⟩

/-- only a step of the current generation itself can spoil it -/
theorem fresh_put {s : St} (hf : Fresh s) (i : Nat) (g' : Gen) (w : Nat)
    (h : ∀ g, s.gens[i]? = some g → g.cancelled = false → g.watcher = .waiting → g.loop = true →
      i = s.gens.length - 1 → g'.cancelled = false ∧ g'.watcher = .waiting ∧ g'.loop = true) :
    Fresh (s.put i g' w) := by
  obtain ⟨hst, g, hg, hc, hw, hl⟩ := hf
  refine ⟨hst, ?_⟩
  rw [show (s.put i g' w).gens.length = s.gens.length from List.length_set]
  by_cases hi : i = s.gens.length - 1
  · subst hi; exact ⟨g', List.getElem?_set_self (lt_of_getElem? hg), h g hg hc hw hl rfl⟩
  · exact ⟨g, (List.getElem?_set_ne hi).trans hg, hc, hw, hl⟩

/-- the goroutines of a generation whose context is live: only its loop moves, spawning jobs, and jobs return -/
theorem eff_fresh {a : Act} {g : Gen} (ha : a.isInternal = true) (hg : a.guard g) (hc : g.cancelled = false) :
    (a.eff g).cancelled = false ∧ (a.eff g).watcher = g.watcher ∧ (a.eff g).loop = g.loop := by
  cases a
  case cancel => cases ha
  case watcherWake => exact absurd (hc ▸ hg.1) nofun
  case loopExit => exact absurd (hc ▸ hg.2) nofun
  -- the other actions leave the three fields alone
  all_goals exact ⟨hc, rfl, rfl⟩

theorem fresh_step (cfg : Cfg) (hgd : cfg.guarded = true) {s s' : St} {a : Act} (hf : Fresh s)
    (ha : a.isInternal = true) (h : step cfg s a = some s') : Fresh s' := by
  rcases step_cases h with ⟨rfl, -⟩ | ⟨rfl, -⟩ | ⟨i, g, -, hg, hw, rfl⟩ | ⟨-, g, hg, hga, rfl⟩
  · cases ha
  · cases ha
  · -- a woken watcher is not the current one, so the generation guard keeps it from stopping anything
    have hi : i ≠ s.gens.length - 1 := by
      obtain ⟨-, gc, hgc, -, hwc, -⟩ := hf
      rintro rfl
      rw [hg] at hgc; cases hgc; rw [hw] at hwc; cases hwc
    rcases stopRun_cases cfg (lt_of_getElem? hg) with ⟨e, -⟩ | ⟨-, e⟩
    · rw [e, finishWatcher_eq hg]
      exact fresh_put hf i _ _ (fun _ _ _ _ _ h => absurd h hi)
    · exact absurd (e hgd) hi
  · refine fresh_put hf _ _ _ (fun g' hg' hc hw hl _ => ?_)
    cases hg.symm.trans hg'
    obtain ⟨h1, h2, h3⟩ := eff_fresh ha hga hc
    exact ⟨h1, h2.trans hw, h3.trans hl⟩

theorem fresh_run (cfg : Cfg) (hgd : cfg.guarded = true) (as : List Act) (s s' : St) (hf : Fresh s)
    (hint : ∀ a ∈ as, a.isInternal = true) (h : run cfg s as = some s') : Fresh s' :=
  run_invariant (fun a ha _ _ hf hs => fresh_step cfg hgd hf (hint a ha) hs) hf h

/-! ## Wait: the counter at zero, and the callers layered on the scheduler

`Wait` returns when the counter is zero. First what zero means for the scheduler: every counted goroutine has
returned, no internal step is enabled, and only a `Start` that takes effect leaves zero. Then the callers: their
steps change the list of callers only (`wstep_cases`), and `WInv` ties the `done` channel a blocked caller holds to
the epoch, as long as no `Start` has taken effect since its call. -/

theorem dead_of_wg_zero {s : St} (hi : Inv s) (h0 : s.wg = 0) :
    ∀ g ∈ s.gens, g.watcher = .done ∧ g.loop = false ∧ g.workers = 0 ∧ g.jobs = 0 := by
  intro g hg
  have h : g.live ≤ 0 := h0 ▸ hi.wg_live ▸ live_le_liveL hg
  rcases g with ⟨c, wt, lp, wk, jb⟩
  show wt = .done ∧ lp = false ∧ wk = 0 ∧ jb = 0
  simp only [Gen.live, Nat.le_zero, Nat.add_eq_zero_iff] at h
  obtain ⟨⟨⟨hx, hy⟩, hwk⟩, hjb⟩ := h
  refine ⟨?_, ?_, hwk, hjb⟩
  · cases wt <;> first | rfl | cases hx
  · cases lp <;> first | rfl | cases hy

/-- every step of a goroutine needs a live goroutine -/
theorem no_internal_of_wg_zero (cfg : Cfg) {s : St} (hi : Inv s) (h0 : s.wg = 0) (a : Act)
    (ha : a.isInternal = true) : step cfg s a = none := by
  cases hs : step cfg s a with
  | none => rfl
  | some s' =>
    exfalso
    rcases step_cases hs with ⟨rfl, -⟩ | ⟨rfl, -⟩ | ⟨i, g, -, hg, hw, -⟩ | ⟨hl, g, hg, hga, -⟩
    · cases ha
    · cases ha
    · rw [(dead_of_wg_zero hi h0 g (List.mem_of_getElem? hg)).1] at hw; cases hw
    · obtain ⟨h1, h2, h3, h4⟩ := dead_of_wg_zero hi h0 g (List.mem_of_getElem? hg)
      cases a
      case watcherWake => rw [hga.2] at h1; cases h1
      case loopExit => rw [hga.1] at h2; cases h2
      case workerExit => exact absurd hga.1 (h3 ▸ Nat.lt_irrefl 0)
      case jobSpawn => rw [show g.loop = true from hga] at h2; cases h2
      case jobExit => exact absurd (show 0 < g.jobs from hga) (h4 ▸ Nat.lt_irrefl 0)
      case cancel => cases ha
      all_goals cases hl

theorem step_length_mono (cfg : Cfg) {s s' : St} {a : Act} (h : step cfg s a = some s') :
    s.gens.length ≤ s'.gens.length := by
  rcases step_cases h with ⟨-, rfl⟩ | ⟨-, rfl⟩ | ⟨i, g, -, hg, -, rfl⟩ | ⟨-, g, -, -, rfl⟩
  · rcases startBody_len_wg cfg s with h | h
    · exact Nat.le_of_eq h.1.symm
    · exact h ▸ Nat.le_succ _
  · exact Nat.le_of_eq (stopBody_length s).symm
  · rw [finishWatcher_length]
    rcases stopRun_cases cfg (lt_of_getElem? hg) with ⟨e, -⟩ | ⟨e, -⟩ <;> rw [e]
    · exact Nat.le_refl _
    · exact Nat.le_of_eq (stopBody_length s).symm
  · exact Nat.le_of_eq List.length_set.symm

/-- the counter leaves zero only through a `Start` that takes effect -/
theorem wg_leaves_zero_only_by_start (cfg : Cfg) {s s' : St} {a : Act} (hi : Inv s) (h : step cfg s a = some s')
    (h0 : s.wg = 0) (h1 : s'.wg ≠ 0) : s.gens.length < s'.gens.length := by
  cases a
  case start =>
    cases h
    rcases startBody_len_wg cfg s with ⟨_, hw⟩ | hl
    · exact absurd (hw.trans h0) h1
    · exact hl ▸ Nat.lt_succ_self _
  case stop => cases h; exact absurd ((stopBody_wg s).trans h0) h1
  case cancel i => obtain ⟨g, -, -, rfl⟩ := step_local_inv rfl h; exact absurd h0 h1
  all_goals rw [no_internal_of_wg_zero cfg hi h0 _ rfl] at h; cases h

/-- A layered step is a scheduler step, with the bookkeeping of the `done` channels; or a step of a caller of
    `Wait`, which changes the list of callers only, and after which a blocked caller was blocked on the same
    channel before or has just entered. -/
theorem wstep_cases {cfg : Cfg} {old : Bool} {w w' : WSt} {a : WAct} (h : wstep cfg old w a = some w') :
    (∃ x s1, a = .sched x ∧ step cfg w.sched x = some s1 ∧
      w' = { w with sched := s1, epoch := if (w.sched.wg == 0 && s1.wg != 0) = true then w.epoch + 1 else w.epoch,
                    broken := w.broken || (old && (w.sched.wg == 0 && s1.wg != 0) && w.waiters.contains .released) }) ∨
    ((∀ as, schedActs (a :: as) = schedActs as) ∧ ∃ ws, w' = { w with waiters := ws } ∧
      ∀ (k e g0 : Nat), ws[k]? = some (.blocked e g0) →
        w.waiters[k]? = some (.blocked e g0) ∨ (e = w.epoch ∧ g0 = w.sched.gens.length)) := by
  -- replacing a caller by one that is not blocked blocks nobody
  have hset : ∀ (k : Nat) (x : WaitPc), (∀ e g0, x ≠ .blocked e g0) → ∀ (j e g0 : Nat),
      (w.waiters.set k x)[j]? = some (.blocked e g0) →
        w.waiters[j]? = some (.blocked e g0) ∨ (e = w.epoch ∧ g0 = w.sched.gens.length) :=
    fun k x hx j e g0 hj => (getElem?_set_cases hj).elim (fun h => absurd h.2.symm (hx e g0)) (fun h => Or.inl h.2)
  cases a <;> simp only [wstep] at h
  case sched x =>
    cases hx : step cfg w.sched x with
    | none => rw [hx] at h; cases h
    | some s1 => rw [hx] at h; exact Or.inl ⟨x, s1, rfl, hx, (Option.some.inj h).symm⟩
  -- a step of a caller
  all_goals refine Or.inr ⟨fun _ => rfl, ?_⟩
  case waitCall =>
    cases h
    refine ⟨_, rfl, fun k e g0 hk => ?_⟩
    rcases getElem?_concat_cases hk with hk | hk
    · exact Or.inl hk
    · split at hk
      · cases hk
      · cases hk; exact Or.inr ⟨rfl, rfl⟩
  case waitWake k =>
    split at h
    · split at h
      · cases h; exact ⟨_, rfl, hset k .released nofun⟩
      · cases h
    · cases h
  case waitReturn k =>
    split at h
    · cases h; exact ⟨_, rfl, hset k .returned nofun⟩
    · cases h
  case waitExpire k =>
    split at h
    · split at h
      · cases h; exact ⟨_, rfl, fun _ _ _ hj => Or.inl hj⟩
      · cases h; exact ⟨_, rfl, hset k .expired nofun⟩
    · cases h

theorem wrun_invariant {cfg : Cfg} {old : Bool} {P : WSt → Prop}
    (hstep : ∀ w a w', P w → wstep cfg old w a = some w' → P w') :
    ∀ {as : List WAct} {w w' : WSt}, P w → wrun cfg old w as = some w' → P w'
  | [], _, _, hp, h => Option.some.inj h ▸ hp
  | _ :: _, _, _, hp, h =>
    let ⟨_, h1, h2⟩ := Option.bind_eq_some_iff.1 h
    wrun_invariant hstep (hstep _ _ _ hp h1) h2

theorem wrun_sched (cfg : Cfg) (old : Bool) : ∀ (as : List WAct) (w w' : WSt),
    wrun cfg old w as = some w' → run cfg w.sched (schedActs as) = some w'.sched
  | [], _, _, h => congrArg (Option.map WSt.sched) h
  | a :: as, w, w', h => by
    obtain ⟨w1, h1, h2⟩ := Option.bind_eq_some_iff.1 h
    have ih := wrun_sched cfg old as w1 w' h2
    rcases wstep_cases h1 with ⟨x, s1, rfl, hx, rfl⟩ | ⟨ha, _, rfl, -⟩
    · rw [schedActs, run, hx]; exact ih
    · rw [ha]; exact ih

theorem wreach_sched (cfg : Cfg) (old : Bool) (w : WSt) (h : WReach cfg old w) : Reach cfg w.sched := by
  obtain ⟨as, h⟩ := h
  exact ⟨schedActs as, wrun_sched cfg old as winit w h⟩

/-- what is known about every blocked caller -/
structure WInv (w : WSt) : Prop where
  sched : Inv w.sched
  blocked : ∀ (k e g0 : Nat), w.waiters[k]? = some (.blocked e g0) →
    e ≤ w.epoch ∧ g0 ≤ w.sched.gens.length ∧ (w.sched.gens.length = g0 → w.epoch = e)

theorem winv_step (cfg : Cfg) (old : Bool) {w w' : WSt} {a : WAct} (hi : WInv w)
    (h : wstep cfg old w a = some w') : WInv w' := by
  rcases wstep_cases h with ⟨x, s1, -, hx, rfl⟩ | ⟨-, ws, rfl, hb⟩
  · refine ⟨inv_step cfg hi.sched hx, fun k e g0 hk => ?_⟩
    obtain ⟨h1, h2, h3⟩ := hi.blocked k e g0 hk
    have hmono := step_length_mono cfg hx
    refine ⟨Nat.le_trans h1 (by simp only; split; exact Nat.le_succ _; exact Nat.le_refl _),
      Nat.le_trans h2 hmono, fun (hlen : s1.gens.length = g0) => ?_⟩
    -- no `Start` has taken effect since the call, so the counter has not left zero
    have hl : w.sched.gens.length = g0 := Nat.le_antisymm (hlen ▸ hmono) h2
    have hnf : ¬ (w.sched.wg == 0 && s1.wg != 0) = true := by
      intro hf
      simp only [Bool.and_eq_true, beq_iff_eq, bne_iff_ne] at hf
      exact absurd (hl.trans hlen.symm) (Nat.ne_of_lt (wg_leaves_zero_only_by_start cfg hi.sched hx hf.1 hf.2))
    simp only [if_neg hnf]
    exact h3 hl
  · refine ⟨hi.sched, fun k e g0 hk => ?_⟩
    rcases hb k e g0 hk with h | ⟨rfl, rfl⟩
    · exact hi.blocked k e g0 h
    · exact ⟨Nat.le_refl _, Nat.le_refl _, fun _ => rfl⟩

theorem winv_reach (cfg : Cfg) (old : Bool) (w : WSt) (h : WReach cfg old w) : WInv w :=
  let ⟨_, h⟩ := h
  wrun_invariant (fun _ _ _ hi hs => winv_step cfg old hi hs) ⟨inv_init, by simp [winit]⟩ h

/-- a closed `done` channel stays closed, whatever happens next (including further Starts) -/
theorem chanClosed_step (cfg : Cfg) (old : Bool) {w w' : WSt} {a : WAct} (e : Nat)
    (hc : chanClosed w e = true) (h : wstep cfg old w a = some w') : chanClosed w' e = true := by
  rcases wstep_cases h with ⟨x, s1, -, -, rfl⟩ | ⟨-, _, rfl, -⟩
  · simp only [chanClosed, Bool.or_eq_true, decide_eq_true_eq, Bool.and_eq_true, beq_iff_eq, bne_iff_ne] at hc ⊢
    by_cases hf : w.sched.wg = 0 ∧ s1.wg ≠ 0
    · rw [if_pos hf]; exact Or.inl (hc.elim Nat.lt_succ_of_lt fun h => h.1 ▸ Nat.lt_succ_self _)
    · rw [if_neg hf]
      rcases hc with hc | ⟨hc1, hc2⟩
      · exact Or.inl hc
      · exact Or.inr ⟨hc1, Decidable.byContradiction fun h0 => hf ⟨hc2, h0⟩⟩
  · exact hc

theorem not_broken_step (cfg : Cfg) {w w' : WSt} {a : WAct} (hb : w.broken = false)
    (h : wstep cfg false w a = some w') : w'.broken = false := by
  rcases wstep_cases h with ⟨x, s1, -, -, rfl⟩ | ⟨-, _, rfl, -⟩
  · simp only [hb, Bool.false_and, Bool.or_false]
  · exact hb

end Lifecycle
