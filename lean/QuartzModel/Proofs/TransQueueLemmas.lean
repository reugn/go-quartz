import QuartzModel.Generated.TransQueue
import QuartzModel.Queue.JobQueue
import QuartzModel.Proofs.HeapLemmas
/-!
# The translated queue code (`Generated.TransQueue`, regenerated from `quartz/queue.go`,
`container/heap/heap.go`, `matcher/*.go`) computes what the hand-written model `Queue.*` computes.

Representation map: a translated `scheduledJob` is abstracted to the model's `Queue.Entry` by `toEntry`
(what the queue looks at: key, priority, the two option flags, and the trigger handle as identity tag);
a translated `priorityQueue` (a `List`) to the model's `Arr` by `toArr`.
-/
namespace TransQueue
open Generated.TransQueue
open Queue

def toEntry (sj : scheduledJob) : Entry :=
  { group := sj.job.jobKey.group, name := sj.job.jobKey.name, prio := sj.priority,
    suspended := sj.job.opts.Suspended, replace := sj.job.opts.Replace, tag := sj.trigger }

def toArr (pq : priorityQueue) : Arr := (pq.map toEntry).toArray

@[simp] theorem toArr_size (pq : priorityQueue) : (toArr pq).size = pq.length := by simp [toArr]

theorem toEntry_default : toEntry default = default := rfl

theorem toArr_getElem? (pq : priorityQueue) (k : Nat) : (toArr pq)[k]? = pq[k]?.map toEntry := by
  simp [toArr]

theorem prioAt_toArr (pq : priorityQueue) (k : Nat) :
    prioAt (toArr pq) k = (pq.getD k default).priority := by
  unfold prioAt
  rw [Array.getD_eq_getD_getElem?, toArr_getElem?, List.getD_eq_getElem?_getD]
  cases pq[k]? <;> rfl

theorem trans_less (pq : priorityQueue) (i j : Nat) :
    priorityQueue.Less pq i j = decide (prioAt (toArr pq) i < prioAt (toArr pq) j) := by
  simp [priorityQueue.Less, idxD, prioAt_toArr]

theorem trans_swap (pq : priorityQueue) (i j : Nat) (hi : i < pq.length) (hj : j < pq.length) :
    toArr (priorityQueue.Swap pq i j) = swp (toArr pq) i j := by
  rw [swp, dif_pos ⟨by rw [toArr_size]; exact hi, by rw [toArr_size]; exact hj⟩]
  simp [toArr, priorityQueue.Swap, setI, idxD, Array.swap, List.map_set, hi, hj]

theorem swap_length (pq : priorityQueue) (i j : Int) : (priorityQueue.Swap pq i j).length = pq.length := by
  simp [priorityQueue.Swap, setI]

theorem trans_pq_push (pq : priorityQueue) (x : scheduledJob) :
    toArr (priorityQueue.Push pq x) = (toArr pq).push (toEntry x) := by
  simp [priorityQueue.Push, toArr]

theorem trans_pq_pop (pq : priorityQueue) (hne : pq ≠ []) :
    toArr (priorityQueue.Pop pq).1 = (toArr pq).pop ∧
      some (toEntry (priorityQueue.Pop pq).2) = (toArr pq).back? := by
  obtain ⟨ys, x, rfl⟩ := (List.eq_nil_or_concat pq).resolve_left hne
  simp [priorityQueue.Pop, slice, idxD, toArr]

theorem tdiv_parent (j : Nat) (hj : 0 < j) : Int.tdiv ((j : Int) - 1) 2 = (((j - 1) / 2 : Nat) : Int) := by
  rw [Int.ofNat_tdiv, Int.natCast_sub hj]; rfl

/-- one iteration of the translated loop, stated at `Nat` casts so that the `Int` arithmetic of the Go code
(`(j - 1) / 2` truncating, comparisons) is dealt with here and not in the induction; likewise `down_loop_step` -/
theorem up_loop_step (cnt j : Nat) (h : priorityQueue) :
    heap.up.loop1 (cnt + 1) h (j : Int) =
      if j = 0 ∨ ¬ prioAt (toArr h) j < prioAt (toArr h) ((j - 1) / 2) then some (h, (j : Int))
      else heap.up.loop1 cnt (priorityQueue.Swap h ((j - 1) / 2 : Nat) j) ((j - 1) / 2 : Nat) := by
  rw [heap.up.loop1]
  by_cases h0 : j = 0
  · subst h0; simp
  · have hne : ¬ (((j - 1) / 2 : Nat) : Int) = (j : Int) := by omega
    simp only [tdiv_parent j (Nat.pos_of_ne_zero h0), hne, decide_false, Bool.false_or, trans_less, h0, false_or,
      Bool.not_eq_true', decide_eq_false_iff_not]

/-- the translated `up` loop follows the model's recursion; `j + 1` iterations of fuel suffice -/
theorem up_loop_eq (a : Arr) (j : Nat) : ∀ (cnt : Nat) (h : priorityQueue), toArr h = a → j < h.length → j ≤ cnt →
    ∃ h' j', heap.up.loop1 (cnt + 1) h (j : Int) = some (h', j') ∧ toArr h' = Queue.up a j := by
  fun_induction Queue.up a j with
  | case1 a => exact fun cnt h ha _ _ => ⟨h, _, by rw [up_loop_step, if_pos (Or.inl rfl)], ha⟩
  | case2 a j h0 i hlt ih =>
    intro cnt h ha hj hc
    subst ha
    have hij : i < j := par_lt (Nat.pos_of_ne_zero h0)
    obtain ⟨cnt, rfl⟩ : ∃ c, cnt = c + 1 := ⟨cnt - 1, by omega⟩
    rw [up_loop_step, if_neg (not_or.mpr ⟨h0, fun hh => hh hlt⟩)]
    exact ih cnt _ (trans_swap h _ j (Nat.lt_trans hij hj) hj) (by rw [swap_length]; exact Nat.lt_trans hij hj)
      (by omega)
  | case3 a j h0 i hge =>
    intro cnt h ha _ _
    subst ha
    exact ⟨h, _, by rw [up_loop_step, if_pos (Or.inr hge)], rfl⟩

theorem trans_up (h : priorityQueue) (j : Nat) (fuel : Nat) (hj : j < h.length) (hf : j < fuel) :
    ∃ h', heap.up h (j : Int) fuel = some h' ∧ toArr h' = Queue.up (toArr h) j := by
  obtain ⟨cnt, rfl⟩ : ∃ c, fuel = c + 1 := ⟨fuel - 1, by omega⟩
  obtain ⟨h', j', e1, e2⟩ := up_loop_eq _ j cnt h rfl hj (Nat.le_of_lt_succ hf)
  exact ⟨h', by simp [heap.up, e1], e2⟩

theorem down_loop_step (n cnt i : Nat) (h : priorityQueue) :
    heap.down.loop1 (n : Int) (cnt + 1) h (i : Int) =
      if 2 * i + 1 < n ∧ prioAt (toArr h) (child (toArr h) i n) < prioAt (toArr h) i then
        heap.down.loop1 n cnt (priorityQueue.Swap h i (child (toArr h) i n : Nat)) (child (toArr h) i n : Nat)
      else some (h, (i : Int)) := by
  rw [heap.down.loop1]
  by_cases hlt : 2 * i + 1 < n
  · have c1 : ¬ (2 * (i : Int) + 1 ≥ (n : Int)) := by omega
    have c2 : ¬ (2 * (i : Int) + 1 < 0) := by omega
    have e1 : (2 * (i : Int) + 1) = ((2 * i + 1 : Nat) : Int) := by omega
    have e2 : (2 * (i : Int) + 1 + 1) = ((2 * i + 2 : Nat) : Int) := by omega
    -- the child the translated code chooses is the model's `child`
    have hchild : (if (decide (2 * (i : Int) + 1 + 1 < (n : Int)) && priorityQueue.Less h (2 * (i : Int) + 1 + 1) (2 * (i : Int) + 1)) = true
          then (2 * (i : Int) + 1 + 1) else (2 * (i : Int) + 1)) = ((child (toArr h) i n : Nat) : Int) := by
      rw [e2, e1, trans_less, child]
      simp only [Int.ofNat_lt, Bool.and_eq_true, decide_eq_true_eq]
      split <;> rfl
    simp only [c1, c2, decide_false, Bool.or_false, Bool.false_eq_true, if_false, hchild, trans_less, hlt, true_and,
      Bool.not_eq_true', decide_eq_false_iff_not, ite_not]
  · have c1 : (2 * (i : Int) + 1 ≥ (n : Int)) := by omega
    simp only [c1, decide_true, Bool.true_or, if_true, hlt, false_and, if_false]

/-- the translated `down` loop follows the model's recursion; the final index tells whether the
element moved -/
theorem down_loop_eq (a : Arr) (i n : Nat) : ∀ (cnt : Nat) (h : priorityQueue), toArr h = a → n ≤ h.length →
    n - i ≤ cnt → ∃ h' i', heap.down.loop1 (n : Int) (cnt + 1) h (i : Int) = some (h', ((i' : Nat) : Int)) ∧
      toArr h' = (Queue.down a i n).1 ∧ i ≤ i' ∧ (Queue.down a i n).2 = decide (i < i') := by
  fun_induction Queue.down a i n with
  | case1 a i hlt j hless ih =>
    intro cnt h ha hn hc
    subst ha
    have hjn := child_lt (toArr h) i n hlt
    have hij : i < child (toArr h) i n := lt_of_par_eq (child_par _ i n).1 (child_par _ i n).2
    obtain ⟨cnt, rfl⟩ : ∃ c, cnt = c + 1 := ⟨cnt - 1, by omega⟩
    rw [down_loop_step, if_pos ⟨hlt, hless⟩]
    have hjl := Nat.lt_of_lt_of_le hjn hn
    obtain ⟨h', i', q1, q2, q3, _⟩ := ih cnt _ (trans_swap h i _ (Nat.lt_trans hij hjl) hjl)
      (by rw [swap_length]; exact hn) (by omega)
    have hii : i < i' := Nat.lt_of_lt_of_le hij q3
    exact ⟨h', i', q1, q2, Nat.le_of_lt hii, by simp [hii]⟩
  | case2 a i hlt j hge =>
    intro cnt h ha _ _
    subst ha
    exact ⟨h, i, by rw [down_loop_step, if_neg fun hh => hge hh.2], rfl, Nat.le_refl _, by simp⟩
  | case3 a i hge =>
    exact fun cnt h ha _ _ =>
      ⟨h, i, by rw [down_loop_step, if_neg fun hh => hge hh.1], ha, Nat.le_refl _, by simp⟩

theorem trans_down (h : priorityQueue) (i n fuel : Nat) (hn : n ≤ h.length) (hf : n - i < fuel) :
    ∃ h' b, heap.down h (i : Int) (n : Int) fuel = some (h', b) ∧
      toArr h' = (Queue.down (toArr h) i n).1 ∧ b = (Queue.down (toArr h) i n).2 := by
  obtain ⟨cnt, rfl⟩ : ∃ c, fuel = c + 1 := ⟨fuel - 1, by omega⟩
  obtain ⟨h', i', e1, e2, _, e4⟩ := down_loop_eq _ i n cnt h rfl hn (Nat.le_of_lt_succ hf)
  exact ⟨h', decide ((i' : Int) > (i : Int)), by simp [heap.down, e1], e2,
    by rw [e4]; exact decide_eq_decide.mpr Int.ofNat_lt⟩

theorem len_pred (h : priorityQueue) (n : Nat) (hl : h.length = n + 1) : priorityQueue.Len h - 1 = (n : Int) := by
  rw [priorityQueue.Len, hl]; exact Int.add_sub_cancel (n : Int) 1

theorem trans_heap_push (h : priorityQueue) (x : scheduledJob) (fuel : Nat) (hf : h.length < fuel) :
    ∃ h', heap.Push h x fuel = some h' ∧ toArr h' = hpush (toArr h) (toEntry x) := by
  have hl : (priorityQueue.Push h x).length = h.length + 1 := by simp [priorityQueue.Push]
  obtain ⟨h', e1, e2⟩ := trans_up (priorityQueue.Push h x) h.length fuel (by omega) hf
  exact ⟨h', by simp only [heap.Push, len_pred _ _ hl, e1, Option.bind_some],
    by rw [e2, trans_pq_push, hpush, toArr_size]⟩

/-- the end of `heap.Pop` and `heap.Remove`: the last slot is cut off -/
theorem pop_finish (h2 : priorityQueue) (a2 : Arr) (k : toArr h2 = a2) (hs : a2.size ≠ 0) :
    ∃ h' e, (some h2).bind (fun h => some ((priorityQueue.Pop h).1, (priorityQueue.Pop h).2)) = some (h', e) ∧
      (a2.pop, a2.back?) = (toArr h', some (toEntry e)) := by
  have hne : h2 ≠ [] := fun hh => hs (by rw [← k, hh]; rfl)
  obtain ⟨p1, p2⟩ := trans_pq_pop h2 hne
  exact ⟨_, _, rfl, by rw [p1, p2, k]⟩

theorem trans_heap_pop (h : priorityQueue) (fuel : Nat) (hne : h ≠ []) (hf : h.length ≤ fuel) :
    ∃ h' e, heap.Pop h fuel = some (h', e) ∧ hpop (toArr h) = (toArr h', some (toEntry e)) := by
  obtain ⟨n, hl⟩ : ∃ n, h.length = n + 1 := ⟨h.length - 1, by have := List.length_pos_iff.mpr hne; omega⟩
  have hnl : n < h.length := hl ▸ Nat.lt_succ_self n
  obtain ⟨h1, b, d1, d2, _⟩ := trans_down (priorityQueue.Swap h (0 : Nat) (n : Int)) 0 n fuel
    (by rw [swap_length]; exact Nat.le_of_lt hnl) (Nat.lt_of_lt_of_le hnl hf)
  rw [trans_swap h 0 n (Nat.lt_of_le_of_lt (Nat.zero_le n) hnl) hnl] at d2
  rw [hpop, if_neg (by rw [toArr_size, hl]; exact Nat.succ_ne_zero n)]
  simp only [heap.Pop, len_pred h n hl, Int.natCast_zero] at d1 ⊢
  simp only [d1, Option.bind_some, toArr_size, hl, Nat.add_sub_cancel]
  exact pop_finish h1 _ d2 (by rw [down_size, size_swp, toArr_size, hl]; exact Nat.succ_ne_zero n)

/-- the repair step of `heap.Remove` (and of `heap.Fix`) -/
theorem trans_fix (h : priorityQueue) (i n fuel : Nat) (hi : i < n) (hn : n ≤ h.length) (hf : n < fuel) :
    ∃ h', ((heap.down h (i : Int) (n : Int) fuel).bind fun r2 =>
        (if (!r2.snd) = true then (heap.up r2.fst (i : Int) fuel).bind fun r3 => some r3 else some r2.fst).bind
          fun r3 => some r3) = some h' ∧ toArr h' = fix (toArr h) i n := by
  obtain ⟨h1, b, d1, d2, d3⟩ := trans_down h i n fuel hn (by omega)
  have hl1 : h1.length = h.length := by rw [← toArr_size, d2, down_size, toArr_size]
  rw [d1, fix, ← d3, ← d2]
  cases b with
  | true => exact ⟨h1, rfl, rfl⟩
  | false =>
    obtain ⟨h2, u1, u2⟩ := trans_up h1 i fuel (by omega) (by omega)
    exact ⟨h2, by simp [u1], u2⟩

theorem trans_heap_remove (h : priorityQueue) (i fuel : Nat) (hi : i < h.length) (hf : h.length ≤ fuel) :
    ∃ h' e, heap.Remove h (i : Int) fuel = some (h', e) ∧ hremove (toArr h) i = (toArr h', some (toEntry e)) := by
  obtain ⟨n, hl⟩ : ∃ n, h.length = n + 1 := ⟨h.length - 1, by omega⟩
  have hnl : n < h.length := hl ▸ Nat.lt_succ_self n
  rw [hremove, if_neg (by rw [toArr_size]; omega)]
  simp only [heap.Remove, len_pred h n hl, toArr_size, hl, Nat.add_sub_cancel]
  by_cases hni : n = i
  · simp only [decide_false, Bool.false_eq_true, if_false, hni, ne_eq, not_true_eq_false]
    exact pop_finish h _ rfl (by rw [toArr_size, hl]; exact Nat.succ_ne_zero n)
  · have c : ((n : Nat) : Int) ≠ (i : Int) := fun e => hni (Int.ofNat_inj.mp e)
    have hin : i < n := Nat.lt_of_le_of_ne (Nat.le_of_lt_succ (hl ▸ hi : i < n + 1)) (Ne.symm hni)
    obtain ⟨h2, f1, f2⟩ := trans_fix (priorityQueue.Swap h (i : Nat) (n : Int)) i n fuel hin
      (by rw [swap_length]; exact Nat.le_of_lt hnl) (Nat.lt_of_lt_of_le hnl hf)
    rw [trans_swap h i n hi hnl] at f2
    simp only [c, decide_true, if_true, f1, hni, ne_eq, not_false_eq_true]
    refine pop_finish h2 _ f2 ?_
    show (fix _ i _).size ≠ 0
    rw [(fix_swaps _ i _ hin).size, size_swp, toArr_size, hl]; exact Nat.succ_ne_zero n

/-- the model's error for a translated `error` value (`newIllegalStateError(ErrX)`) -/
def qerr : QErr → Error
  | .queueEmpty => newIllegalStateError Error.ErrQueueEmpty
  | .jobNotFound => newIllegalStateError Error.ErrJobNotFound
  | .jobAlreadyExists => newIllegalStateError Error.ErrJobAlreadyExists

theorem qerr_ne_nil (e : QErr) : qerr e ≠ Error.nil := by cases e <;> decide

theorem qerr_injective (e e' : QErr) (h : qerr e = qerr e') : e = e' := by
  -- equal constructors: `rfl`; different ones: `h` equates two distinct closed `Error` terms
  cases e <;> cases e' <;> first | rfl | exact absurd h (by decide)

/-- the key test of the translated code on a `scheduledJob` -/
def keyIs (key : JobKey) (sj : scheduledJob) : Bool := JobKey.Equals (scheduledJob.JobDetail sj).jobKey key

theorem keyIs_eq (key : JobKey) (sj : scheduledJob) :
    keyIs key sj = ((toEntry sj).name == key.name && (toEntry sj).group == key.group) :=
  rfl

theorem findIdx_toArr (pq : priorityQueue) (key : JobKey) :
    findIdx (toArr pq) key.group key.name = pq.findIdx? (keyIs key) := by
  unfold findIdx toArr
  rw [List.findIdx?_toArray, List.findIdx?_map]
  congr 1

theorem scheduledJobs_loop (l : priorityQueue) (pre : List scheduledJob) :
    jobQueue.scheduledJobs.loop1 (pre.length : Int) l (pre ++ List.replicate l.length default) = pre ++ l := by
  induction l generalizing pre with
  | nil => simp [jobQueue.scheduledJobs.loop1]
  | cons x xs ih =>
    have := ih (pre ++ [x])
    simp only [List.length_append, List.length_singleton, Int.natCast_add, Int.natCast_one, List.append_assoc,
      List.singleton_append] at this
    simp [jobQueue.scheduledJobs.loop1, setI, List.replicate_succ, this]

theorem trans_scheduledJobs (jq : jobQueue) : jobQueue.scheduledJobs jq = jq.delegate := by
  have := scheduledJobs_loop jq.delegate []
  simpa [jobQueue.scheduledJobs] using this

/-- Go `for i, x := range xs { if p(x) { return hit(i) } }; miss`, started at index `k`, in closed form -/
theorem range_loop {α β : Type} (p : α → Bool) (hit : Int → β) (miss : β) (loop : Int → List α → β)
    (hnil : ∀ i, loop i [] = miss)
    (hcons : ∀ i x xs, loop i (x :: xs) = if p x then hit i else loop (i + 1) xs) (l : List α) (k : Nat) :
    loop k l = match l.findIdx? p with
      | none => miss
      | some d => hit ((k + d : Nat) : Int) := by
  induction l generalizing k with
  | nil => exact hnil _
  | cons x xs ih =>
    rw [hcons, List.findIdx?_cons]
    cases p x with
    | true => rfl
    | false =>
      have hk : ((k : Int) + 1) = ((k + 1 : Nat) : Int) := rfl
      rw [if_neg Bool.false_ne_true, hk, ih]
      cases xs.findIdx? p with
      | none => rfl
      | some d => simp only [Option.map_some, Bool.false_eq_true, if_false, Nat.add_assoc, Nat.add_comm 1 d]

theorem push_loop (job : scheduledJob) (fuel : Nat) (l : List scheduledJob) (k : Nat) (jq : jobQueue) :
    jobQueue.Push.loop1 job fuel (k : Int) l jq =
      match l.findIdx? (keyIs (scheduledJob.JobDetail job).jobKey) with
      | none => some (.done jq)
      | some d =>
        if (scheduledJob.JobDetail job).opts.Replace then
          (heap.Remove jq.delegate ((k + d : Nat) : Int) fuel).bind fun r1 => some (.done { jq with delegate := r1.1 })
        else some (.ret (jq, newIllegalStateError Error.ErrJobAlreadyExists)) :=
  range_loop _ _ _ (fun i l => jobQueue.Push.loop1 job fuel i l jq) (fun _ => rfl) (fun _ _ _ => rfl) l k

theorem jobKey_eta (sj : scheduledJob) :
    ((toEntry sj).group, (toEntry sj).name) = ((scheduledJob.JobDetail sj).jobKey.group, (scheduledJob.JobDetail sj).jobKey.name) := rfl

theorem trans_qpush (jq : jobQueue) (job : scheduledJob) (fuel : Nat) (hf : jq.delegate.length < fuel) :
    match qpush (toArr jq.delegate) (toEntry job) with
    | .ok a' => ∃ jq', jobQueue.Push jq job fuel = some (jq', Error.nil) ∧ toArr jq'.delegate = a'
    | .error e => jobQueue.Push jq job fuel = some (jq, qerr e) := by
  unfold qpush
  have hfi : findIdx (toArr jq.delegate) (toEntry job).group (toEntry job).name
      = jq.delegate.findIdx? (keyIs (scheduledJob.JobDetail job).jobKey) :=
    findIdx_toArr jq.delegate (scheduledJob.JobDetail job).jobKey
  rw [hfi]
  simp only [jobQueue.Push, trans_scheduledJobs]
  rw [show (0 : Int) = ((0 : Nat) : Int) from rfl, push_loop]
  cases hidx : jq.delegate.findIdx? (keyIs (scheduledJob.JobDetail job).jobKey) with
  | none =>
    obtain ⟨h', e1, e2⟩ := trans_heap_push jq.delegate job fuel hf
    simp only [Option.bind_some, e1]
    exact ⟨_, rfl, e2⟩
  | some d =>
    have hd : d < jq.delegate.length := (List.findIdx?_eq_some_iff_getElem.mp hidx).1
    rw [show (toEntry job).replace = (scheduledJob.JobDetail job).opts.Replace from rfl]
    cases hr : (scheduledJob.JobDetail job).opts.Replace with
    | false => simp [qerr]
    | true =>
      obtain ⟨h1, e, r1, r2⟩ := trans_heap_remove jq.delegate d fuel hd (by omega)
      have hl1 : h1.length ≤ jq.delegate.length := by
        have := hremove_size_le (toArr jq.delegate) d
        rwa [r2, toArr_size, toArr_size] at this
      obtain ⟨h2, p1, p2⟩ := trans_heap_push h1 job fuel (by omega)
      simp only [if_true, Nat.zero_add, r1, Option.bind_some, p1, r2]
      exact ⟨_, rfl, p2⟩

theorem trans_qpop (jq : jobQueue) (fuel : Nat) (hf : jq.delegate.length ≤ fuel) :
    match qpop (toArr jq.delegate) with
    | .ok (a', e) => ∃ jq' sj, jobQueue.Pop jq fuel = some (jq', sj, Error.nil) ∧ toArr jq'.delegate = a' ∧ toEntry sj = e
    | .error e => jobQueue.Pop jq fuel = some (jq, default, qerr e) := by
  unfold qpop
  by_cases hne : jq.delegate = []
  · rw [hpop_empty (toArr jq.delegate) (by simp [hne])]
    simp [jobQueue.Pop, hne, qerr]
  · obtain ⟨h', e, p1, p2⟩ := trans_heap_pop jq.delegate fuel hne hf
    rw [p2]
    have hl : ¬ ((jq.delegate.length : Int) = 0) := by
      have := List.length_pos_iff.mpr hne
      omega
    simp only [jobQueue.Pop, hl, decide_false, Bool.false_eq_true, if_false, p1, Option.bind_some]
    exact ⟨_, _, rfl, rfl, rfl⟩

theorem trans_qhead (jq : jobQueue) :
    match qhead (toArr jq.delegate) with
    | .ok e => ∃ sj, jobQueue.Head jq = (sj, Error.nil) ∧ toEntry sj = e
    | .error e => jobQueue.Head jq = (default, qerr e) := by
  unfold qhead
  rw [toArr_getElem?]
  cases hd : jq.delegate with
  | nil => simp [jobQueue.Head, hd, qerr]
  | cons x xs =>
    have : ¬ ((xs.length : Int) + 1 = 0) := by omega
    simp [jobQueue.Head, hd, idxD, this]

theorem get_loop (key : JobKey) (l : List scheduledJob) :
    jobQueue.Get.loop1 key l = match l.find? (keyIs key) with
      | some sj => .ret (sj, Error.nil)
      | none => .done () := by
  induction l with
  | nil => rfl
  | cons x xs ih =>
    show (if keyIs key x then Ctl.ret (x, Error.nil) else jobQueue.Get.loop1 key xs) = _
    rw [List.find?_cons, ih]
    cases keyIs key x <;> rfl

theorem trans_qget (jq : jobQueue) (key : JobKey) :
    match qget (toArr jq.delegate) key.group key.name with
    | .ok e => ∃ sj, jobQueue.Get jq key = (sj, Error.nil) ∧ toEntry sj = e
    | .error e => jobQueue.Get jq key = (default, qerr e) := by
  unfold qget
  rw [findIdx_toArr]
  simp only [jobQueue.Get, get_loop, List.find?_eq_bind_findIdx?_getElem?]
  cases hidx : jq.delegate.findIdx? (keyIs key) with
  | none => simp [qerr]
  | some d =>
    have hd : d < jq.delegate.length := (List.findIdx?_eq_some_iff_getElem.mp hidx).1
    simp [hd, toArr]

theorem remove_loop (key : JobKey) (fuel : Nat) (l : List scheduledJob) (k : Nat) (jq : jobQueue) :
    jobQueue.Remove.loop1 key fuel (k : Int) l jq =
      match l.findIdx? (keyIs key) with
      | none => some (.done jq)
      | some d =>
        (heap.Remove jq.delegate ((k + d : Nat) : Int) fuel).bind fun r1 =>
          some (.ret ({ jq with delegate := r1.1 }, r1.2, Error.nil)) :=
  range_loop _ _ _ (fun i l => jobQueue.Remove.loop1 key fuel i l jq) (fun _ => rfl) (fun _ _ _ => rfl) l k

theorem trans_qremove (jq : jobQueue) (key : JobKey) (fuel : Nat) (hf : jq.delegate.length ≤ fuel) :
    match qremove (toArr jq.delegate) key.group key.name with
    | .ok (a', e) => ∃ jq' sj, jobQueue.Remove jq key fuel = some (jq', sj, Error.nil) ∧ toArr jq'.delegate = a' ∧ toEntry sj = e
    | .error e => jobQueue.Remove jq key fuel = some (jq, default, qerr e) := by
  unfold qremove
  rw [findIdx_toArr]
  simp only [jobQueue.Remove, trans_scheduledJobs]
  rw [show (0 : Int) = ((0 : Nat) : Int) from rfl, remove_loop]
  cases hidx : jq.delegate.findIdx? (keyIs key) with
  | none => simp [qerr]
  | some d =>
    have hd : d < jq.delegate.length := (List.findIdx?_eq_some_iff_getElem.mp hidx).1
    obtain ⟨h1, e, r1, r2⟩ := trans_heap_remove jq.delegate d fuel hd hf
    simp only [Nat.zero_add, r1, Option.bind_some, r2]
    exact ⟨_, _, rfl, rfl, rfl⟩

theorem trans_qsize (jq : jobQueue) : jobQueue.Size jq = ((((toArr jq.delegate).size : Nat) : Int), Error.nil) := by
  simp [jobQueue.Size]

theorem trans_qclear (jq : jobQueue) : toArr (jobQueue.Clear jq).1.delegate = #[] ∧ (jobQueue.Clear jq).2 = Error.nil := by
  simp [jobQueue.Clear, toArr]

theorem trans_newJobQueue : toArr NewJobQueue.delegate = #[] := by simp [NewJobQueue, toArr]

theorem list_inner (job : scheduledJob) (ms : List Generated.TransQueue.Matcher) :
    jobQueue.ScheduledJobs.loop2 job ms = if ms.all (fun m => m job) then .done () else .next () := by
  induction ms with
  | nil => simp [jobQueue.ScheduledJobs.loop2]
  | cons m ms ih =>
    unfold jobQueue.ScheduledJobs.loop2
    cases hm : m job <;> simp [ih, hm]

theorem list_outer (ms : List Generated.TransQueue.Matcher) (l acc : List scheduledJob) :
    jobQueue.ScheduledJobs.loop1 ms l acc = acc ++ l.filter (fun sj => ms.all (fun m => m sj)) := by
  induction l generalizing acc with
  | nil => simp [jobQueue.ScheduledJobs.loop1]
  | cons x xs ih =>
    unfold jobQueue.ScheduledJobs.loop1
    rw [list_inner]
    cases hx : ms.all (fun m => m x) <;> simp [ih, hx]

/-- translated matchers `ms` implement the model matchers `Ms` -/
def MatchersAgree : List Generated.TransQueue.Matcher → List Queue.Matcher → Prop
  | [], [] => True
  | m :: ms, M :: Ms => (∀ sj, m sj = M.isMatch (toEntry sj)) ∧ MatchersAgree ms Ms
  | _, _ => False

theorem matchers_all {ms : List Generated.TransQueue.Matcher} {Ms : List Queue.Matcher} (h : MatchersAgree ms Ms) (sj : scheduledJob) :
    ms.all (fun m => m sj) = Ms.all (fun M => M.isMatch (toEntry sj)) := by
  fun_induction MatchersAgree ms Ms with
  | case1 => rfl
  | case2 m ms M Ms ih => simp only [List.all_cons, h.1 sj, ih h.2]
  | case3 => exact h.elim

theorem trans_qlist (jq : jobQueue) (ms : List Generated.TransQueue.Matcher) (Ms : List Queue.Matcher) (h : MatchersAgree ms Ms) :
    (jobQueue.ScheduledJobs jq ms).1.map toEntry = qlist (toArr jq.delegate) Ms ∧
      (jobQueue.ScheduledJobs jq ms).2 = Error.nil := by
  have hfl : (jq.delegate.filter (fun sj => ms.all (fun m => m sj))).map toEntry = qlist (toArr jq.delegate) Ms := by
    simp only [qlist, toArr, List.filter_map]
    congr 1
    exact List.filter_congr fun sj _ => matchers_all h sj
  simp only [jobQueue.ScheduledJobs, trans_scheduledJobs, list_outer, List.nil_append]
  split
  · -- no matchers: the early return hands back the whole array, and the filter keeps everything
    rename_i h0
    have : ms = [] := List.length_eq_zero_iff.mp (by simpa using h0)
    subst this
    exact ⟨(congrArg _ (List.filter_eq_self.mpr fun _ _ => rfl).symm).trans hfl, rfl⟩
  · exact ⟨hfl, rfl⟩

/-- modelled, not translated: Go's `strings.HasPrefix/HasSuffix/Contains` are taken to be the model's string operators -/
def goStrings : StringsExt where
  HasPrefix := StrOp.startsWith.apply
  HasSuffix := StrOp.endsWith.apply
  Contains := StrOp.contains.apply

def opOf : StrOp → matcher.StringOperator
  | .equals => matcher.StringEquals
  | .startsWith => matcher.StringStartsWith goStrings
  | .endsWith => matcher.StringEndsWith goStrings
  | .contains => matcher.StringContains goStrings

theorem trans_strop (op : StrOp) (s p : String) : opOf op s p = op.apply s p := by
  cases op <;> rfl

theorem trans_matcher_name (op : StrOp) (p : String) (sj : scheduledJob) :
    matcher.NewJobName (opOf op) p sj = (Queue.Matcher.name op p).isMatch (toEntry sj) :=
  trans_strop op _ p

theorem trans_matcher_group (op : StrOp) (p : String) (sj : scheduledJob) :
    matcher.NewJobGroup (opOf op) p sj = (Queue.Matcher.group op p).isMatch (toEntry sj) :=
  trans_strop op _ p

theorem trans_matcher_status (sj : scheduledJob) :
    matcher.JobActive sj = (Queue.Matcher.status false).isMatch (toEntry sj) ∧
    matcher.JobPaused sj = (Queue.Matcher.status true).isMatch (toEntry sj) :=
  ⟨rfl, rfl⟩

/-- the eight name / group constructors of package matcher are the model's matchers (the other two public
constructors, `JobActive` and `JobPaused`, are `trans_matcher_status`) -/
theorem trans_matcher_ctors (p : String) (sj : scheduledJob) :
    matcher.JobNameEquals p sj = (Queue.Matcher.name .equals p).isMatch (toEntry sj) ∧
    matcher.JobNameStartsWith goStrings p sj = (Queue.Matcher.name .startsWith p).isMatch (toEntry sj) ∧
    matcher.JobNameEndsWith goStrings p sj = (Queue.Matcher.name .endsWith p).isMatch (toEntry sj) ∧
    matcher.JobNameContains goStrings p sj = (Queue.Matcher.name .contains p).isMatch (toEntry sj) ∧
    matcher.JobGroupEquals p sj = (Queue.Matcher.group .equals p).isMatch (toEntry sj) ∧
    matcher.JobGroupStartsWith goStrings p sj = (Queue.Matcher.group .startsWith p).isMatch (toEntry sj) ∧
    matcher.JobGroupEndsWith goStrings p sj = (Queue.Matcher.group .endsWith p).isMatch (toEntry sj) ∧
    matcher.JobGroupContains goStrings p sj = (Queue.Matcher.group .contains p).isMatch (toEntry sj) :=
  ⟨trans_matcher_name .equals p sj, trans_matcher_name .startsWith p sj, trans_matcher_name .endsWith p sj,
   trans_matcher_name .contains p sj, trans_matcher_group .equals p sj, trans_matcher_group .startsWith p sj,
   trans_matcher_group .endsWith p sj, trans_matcher_group .contains p sj⟩

end TransQueue
