import QuartzModel.Sched.Retry
/-!
# Lemmas about `retryLoop` and `executeWithRetries` of `Sched/Retry.lean`

The equations of one iteration; the trace as (wait, attempt) pairs; `waitsLeft`, through which the number of attempts
and the way the loop is left are stated for every cancel point at once; the same facts for the whole function (`exec_eq`).
-/
namespace Sched.Retry

theorem loop_stop {m : Int} {c : Option Nat} {i : Nat} (rest : List Outcome) (h : ¬ (i : Int) ≤ m) :
    retryLoop m c i rest = ([], .returned .gaveUp) := by
  unfold retryLoop; simp [h]

theorem loop_cancel {m : Int} {c : Option Nat} {i : Nat} (rest : List Outcome) (h : (i : Int) ≤ m)
    (hc : ctxDone c i = true) : retryLoop m c i rest = ([.waitCancelled], .returned .cancelled) := by
  unfold retryLoop; simp [h, hc]

theorem loop_step {m : Int} {c : Option Nat} {i : Nat} (s : List Outcome) (h : (i : Int) ≤ m)
    (hc : ctxDone c i = false) :
    retryLoop m c i s =
      match s.headD .ok with
      | .ok => ([.wait, .attempt .ok], .returned .succeeded)
      | .panic => ([.wait, .attempt .panic], .panicking)
      | .err => (.wait :: .attempt .err :: (retryLoop m c (i + 1) s.tail).1, (retryLoop m c (i + 1) s.tail).2) := by
  rcases s with _ | ⟨_ | _ | _, t⟩ <;> rw [retryLoop] <;> simp [h, hc]

/-! ## shape of the trace

The lemmas about `retryLoop` go by its functional induction: the six ways through one iteration (cancelled wait; the
attempt after an exhausted script, `ok`, `panic`, `err`; loop condition false), the fifth with the induction
hypothesis for the next iteration. -/

/-- `wait, attempt o₁, wait, attempt o₂, …` -/
def pairs : List Outcome → List Event
  | [] => []
  | o :: t => .wait :: .attempt o :: pairs t

@[simp] theorem attemptsOf_nil : attemptsOf [] = [] := rfl
@[simp] theorem attemptsOf_attempt (o : Outcome) (t : List Event) :
    attemptsOf (.attempt o :: t) = o :: attemptsOf t := rfl
@[simp] theorem attemptsOf_wait (t : List Event) : attemptsOf (.wait :: t) = attemptsOf t := rfl
@[simp] theorem attemptsOf_waitCancelled (t : List Event) :
    attemptsOf (.waitCancelled :: t) = attemptsOf t := rfl

@[simp] theorem count_wait_pairs (l : List Outcome) : (pairs l).count .wait = l.length := by
  induction l with
  | nil => rfl
  | cons o t ih => simp [pairs, ih]

theorem loop_shape (m : Int) (c : Option Nat) (i : Nat) (rest : List Outcome) :
    (retryLoop m c i rest).1 =
      pairs (attemptsOf (retryLoop m c i rest).1) ++
        if (retryLoop m c i rest).2 = .returned .cancelled then [.waitCancelled] else [] := by
  fun_induction retryLoop m c i rest
  case case5 r ih => simp only [r, attemptsOf_wait, attemptsOf_attempt, pairs, List.cons_append, ← ih]
  all_goals rfl

theorem loop_wc (m : Int) (c : Option Nat) (i : Nat) (rest : List Outcome) :
    Event.waitCancelled ∈ (retryLoop m c i rest).1 ↔ (retryLoop m c i rest).2 = .returned .cancelled := by
  fun_induction retryLoop m c i rest
  case case5 r ih => simpa [r] using ih
  all_goals simp

theorem loop_prefix (m : Int) (c : Option Nat) (i : Nat) (rest : List Outcome) :
    attemptsOf (retryLoop m c i rest).1 <+: rest ++ [.ok] := by
  fun_induction retryLoop m c i rest
  case case5 ih => simpa [List.prefix_cons_iff] using ih
  all_goals simp [List.prefix_cons_iff]

theorem loop_exit (m : Int) (c : Option Nat) (i : Nat) (rest : List Outcome) :
    ((retryLoop m c i rest).2 = .panicking ↔
        (attemptsOf (retryLoop m c i rest).1).getLast? = some .panic) ∧
    ((retryLoop m c i rest).2 = .returned .succeeded ↔
        (attemptsOf (retryLoop m c i rest).1).getLast? = some .ok) := by
  fun_induction retryLoop m c i rest
  case case5 r ih =>
    simp only [r, attemptsOf_wait, attemptsOf_attempt, List.getLast?_cons]
    cases hl : (attemptsOf (retryLoop m c (_ + 1) _).1).getLast? <;> simpa [hl] using ih
  all_goals simp

theorem ctxDone_none (i : Nat) : ctxDone none i = false := rfl
theorem ctxDone_some (k i : Nat) : ctxDone (some k) i = decide (k ≤ i) := rfl

theorem failuresBefore_err (t : List Outcome) : failuresBefore (.err :: t) = failuresBefore t + 1 := rfl

/-- `d` leading failures are counted by `failuresBefore`, and they are what `take d` returns -/
theorem err_prefix : ∀ (s : List Outcome) (d : Nat), (∀ j, j < d → s[j]? = some .err) →
    d ≤ failuresBefore s ∧ ∀ l, (s ++ l).take d = List.replicate d .err
  | _, 0, _ => ⟨Nat.zero_le _, fun _ => rfl⟩
  | [], d + 1, h => nomatch h 0 (Nat.succ_pos d)
  | o :: t, d + 1, h => by
    obtain rfl : o = .err := Option.some.inj (h 0 (Nat.succ_pos d))
    have ih := err_prefix t d fun j hj => h (j + 1) (Nat.succ_lt_succ hj)
    exact ⟨Nat.succ_le_succ ih.1, fun l => congrArg (Outcome.err :: ·) (ih.2 l)⟩

theorem getElem?_lt_failuresBefore : ∀ (s : List Outcome) (j : Nat), j < failuresBefore s →
    ∀ l, (s ++ l)[j]? = some .err
  | .err :: _, 0, _, _ => rfl
  | .err :: t, j + 1, h, l => getElem?_lt_failuresBefore t j (Nat.lt_of_succ_lt_succ h) l
  | [], _, h, _ | .ok :: _, _, h, _ | .panic :: _, _, h, _ => absurd h (Nat.not_lt_zero _)

/-- the number of retry waits, from the `i`-th on, that complete: the `j`-th wait completes if `j ≤ MaxRetries`
and the context has not ended by then -/
def waitsLeft (m : Int) (c : Option Nat) (i : Nat) : Nat :=
  (match c with
   | none => (m + 1).toNat
   | some k => min (m + 1).toNat k) - i

theorem waitsLeft_none (m : Int) (i : Nat) : waitsLeft m none i = (m + 1).toNat - i := rfl
theorem waitsLeft_some (m : Int) (k i : Nat) : waitsLeft m (some k) i = min (m + 1).toNat k - i := rfl

theorem waitsLeft_pos {m : Int} {c : Option Nat} {i : Nat} :
    0 < waitsLeft m c i ↔ (i : Int) ≤ m ∧ ¬ ctxDone c i = true := by
  cases c with
  | none => simp [waitsLeft_none, ctxDone_none, Nat.sub_pos_iff_lt, Int.lt_toNat, Int.lt_add_one_iff]
  | some k => simp [waitsLeft_some, ctxDone_some, Nat.sub_pos_iff_lt, Nat.lt_min, Int.lt_toNat, Int.lt_add_one_iff]

theorem waitsLeft_eq_zero {m : Int} {c : Option Nat} {i : Nat} (h : ¬ (i : Int) ≤ m ∨ ctxDone c i = true) :
    waitsLeft m c i = 0 :=
  Nat.eq_zero_of_not_pos fun hp => h.elim (· (waitsLeft_pos.mp hp).1) ((waitsLeft_pos.mp hp).2 ·)

theorem waitsLeft_succ {m : Int} {c : Option Nat} {i : Nat} (h : (i : Int) ≤ m) (hc : ¬ ctxDone c i = true) :
    waitsLeft m c i = waitsLeft m c (i + 1) + 1 := by
  have hp := waitsLeft_pos.mpr ⟨h, hc⟩
  have hs : waitsLeft m c (i + 1) = waitsLeft m c i - 1 := Nat.sub_succ ..
  omega

theorem waitsLeft_none_one (m : Int) : (waitsLeft m none 1 : Int) = max 0 m := by
  rw [waitsLeft_none]
  omega

theorem waitsLeft_some_le (m : Int) (k i : Nat) : waitsLeft m (some k) i ≤ k - i :=
  Nat.sub_le_sub_right (Nat.min_le_right ..) _

/-- a cancel point within the budget: the waits before it complete -/
theorem waitsLeft_some_of_le {m : Int} {k : Nat} (h : (k : Int) ≤ m) (i : Nat) : waitsLeft m (some k) i = k - i := by
  rw [waitsLeft_some, Nat.min_eq_right (by omega)]

theorem waitsLeft_le_none (m : Int) (c : Option Nat) (i : Nat) : waitsLeft m c i ≤ waitsLeft m none i := by
  cases c with
  | none => exact Nat.le_refl _
  | some k => exact Nat.sub_le_sub_right (Nat.min_le_left ..) _

/-- the loop makes one attempt per completed wait until an attempt does not fail -/
theorem loop_count (m : Int) (c : Option Nat) (i : Nat) (rest : List Outcome) :
    (attemptsOf (retryLoop m c i rest).1).length = min (waitsLeft m c i) (failuresBefore rest + 1) := by
  fun_induction retryLoop m c i rest
  case case1 h hc => simp [waitsLeft_eq_zero (.inr hc)]
  case case5 i h hc t r ih =>
    simp only [r, attemptsOf_wait, attemptsOf_attempt, List.length_cons, ih, waitsLeft_succ h hc,
      failuresBefore_err]
    omega
  case case6 h => simp [waitsLeft_eq_zero (.inl h)]
  all_goals exact (Nat.min_eq_right (waitsLeft_pos.mpr ⟨‹_›, ‹_›⟩)).symm

/-- how the loop is left: through the first attempt that does not fail if the waits before it complete, else at the
first wait that does not complete -/
theorem loop_exit_eq (m : Int) (c : Option Nat) (i : Nat) (rest : List Outcome) :
    (retryLoop m c i rest).2 =
      if failuresBefore rest + 1 ≤ waitsLeft m c i then
        (if rest[failuresBefore rest]? = some .panic then .panicking else .returned .succeeded)
      else if ((i + waitsLeft m c i : Nat) : Int) ≤ m then .returned .cancelled else .returned .gaveUp := by
  fun_induction retryLoop m c i rest
  case case1 h hc => simp [waitsLeft_eq_zero (.inr hc), h]
  case case5 i h hc t r ih =>
    simp only [r, ih, waitsLeft_succ h hc, failuresBefore_err, List.getElem?_cons_succ,
      Nat.add_le_add_iff_right, Nat.add_right_comm i _ 1, ← Nat.add_assoc]
    rfl
  case case6 h => simp [waitsLeft_eq_zero (.inl h), h]
  all_goals exact ((if_pos (waitsLeft_pos.mpr ⟨‹_›, ‹_›⟩)).trans rfl).symm

/-- the first attempt, and after a failure the retry loop from `i := 1` under the deferred recover -/
theorem exec_eq (m : Int) (s : List Outcome) (c : Option Nat) :
    executeWithRetries m s c =
      match s with
      | [] => ⟨[.attempt .ok], .succeeded⟩
      | .ok :: _ => ⟨[.attempt .ok], .succeeded⟩
      | .panic :: _ => ⟨[.attempt .panic], .recovered⟩
      | .err :: t => ⟨.attempt .err :: (retryLoop m c 1 t).1, recoverDeferred (retryLoop m c 1 t).2⟩ := by
  match s with
  | [] | .ok :: _ | .panic :: _ | .err :: _ => rfl

theorem recoverDeferred_recovered (x : Exit) : recoverDeferred x = .recovered ↔ x = .panicking := by
  rcases x with (_ | _ | _) | _ <;> simp [recoverDeferred]

theorem recoverDeferred_succeeded (x : Exit) :
    recoverDeferred x = .succeeded ↔ x = .returned .succeeded := by
  rcases x with (_ | _ | _) | _ <;> simp [recoverDeferred]

theorem recoverDeferred_cancelled (x : Exit) :
    recoverDeferred x = .cancelled ↔ x = .returned .cancelled := by
  rcases x with (_ | _ | _) | _ <;> simp [recoverDeferred]

/-! Each of the following splits `exec_eq` on the first outcome: the fourth case is the loop lemma, the other three
are a single attempt. -/

/-- the trace is: first attempt, then (wait, attempt) pairs, then possibly the cancelled wait -/
theorem exec_shape (m : Int) (s : List Outcome) (c : Option Nat) :
    ∃ o os, (executeWithRetries m s c).attempts = o :: os ∧
      (executeWithRetries m s c).trace = .attempt o :: pairs os ++
        (if (executeWithRetries m s c).ending = .cancelled then [.waitCancelled] else []) := by
  rw [exec_eq]
  split
  case h_4 t =>
    refine ⟨.err, attemptsOf (retryLoop m c 1 t).1, rfl, ?_⟩
    simp only [recoverDeferred_cancelled]
    exact congrArg (Event.attempt .err :: ·) (loop_shape m c 1 t)
  case h_3 => exact ⟨.panic, [], rfl, rfl⟩
  all_goals exact ⟨.ok, [], rfl, rfl⟩

theorem exec_prefix (m : Int) (s : List Outcome) (c : Option Nat) :
    (executeWithRetries m s c).attempts <+: s ++ [.ok] := by
  rw [exec_eq]
  split
  case h_4 t => simpa [Result.attempts, List.prefix_cons_iff] using loop_prefix m c 1 t
  all_goals simp [Result.attempts, List.prefix_cons_iff]

theorem exec_ending (m : Int) (s : List Outcome) (c : Option Nat) :
    ((executeWithRetries m s c).ending = .recovered ↔
        (executeWithRetries m s c).attempts.getLast? = some .panic) ∧
    ((executeWithRetries m s c).ending = .succeeded ↔
        (executeWithRetries m s c).attempts.getLast? = some .ok) := by
  rw [exec_eq]
  split
  case h_4 t =>
    simp only [Result.attempts, attemptsOf_attempt, recoverDeferred_recovered, recoverDeferred_succeeded,
      List.getLast?_cons]
    cases hl : (attemptsOf (retryLoop m c 1 t).1).getLast? <;> simpa [hl] using loop_exit m c 1 t
  all_goals simp [Result.attempts]

theorem exec_cancelled_last (m : Int) (s : List Outcome) (c : Option Nat)
    (h : (executeWithRetries m s c).ending = .cancelled) :
    (executeWithRetries m s c).trace.getLast? = some .waitCancelled := by
  obtain ⟨o, os, _, ht⟩ := exec_shape m s c
  rw [ht, if_pos h, List.getLast?_concat]

theorem exec_waits (m : Int) (s : List Outcome) (c : Option Nat) :
    (executeWithRetries m s c).waits + 1 = (executeWithRetries m s c).attempts.length := by
  obtain ⟨o, os, ha, ht⟩ := exec_shape m s c
  rw [Result.waits, ht, ha]
  split <;> simp [List.count_append]

theorem exec_count (m : Int) (s : List Outcome) (c : Option Nat) :
    (executeWithRetries m s c).attempts.length = 1 + min (waitsLeft m c 1) (failuresBefore s) := by
  rw [exec_eq]
  split
  case h_4 t =>
    simp only [Result.attempts, attemptsOf_attempt, List.length_cons, loop_count, failuresBefore_err]
    omega
  all_goals simp [Result.attempts, failuresBefore]

theorem exec_ending_eq (m : Int) (s : List Outcome) (c : Option Nat) :
    (executeWithRetries m s c).ending =
      if failuresBefore s ≤ waitsLeft m c 1 then
        (if s[failuresBefore s]? = some .panic then .recovered else .succeeded)
      else if ((1 + waitsLeft m c 1 : Nat) : Int) ≤ m then .cancelled else .gaveUp := by
  rw [exec_eq]
  split
  case h_4 t =>
    simp only [loop_exit_eq, failuresBefore_err, List.getElem?_cons_succ, apply_ite recoverDeferred]
    rfl
  all_goals simp [failuresBefore]

theorem exec_init_err (m : Int) (s : List Outcome) (c : Option Nat) (j : Nat)
    (h : j + 1 < (executeWithRetries m s c).attempts.length) : (executeWithRetries m s c).attempts[j]? = some .err := by
  have hj : j < failuresBefore s := by rw [exec_count] at h; omega
  rw [List.prefix_iff_eq_take.mp (exec_prefix m s c), List.getElem?_take_of_lt (Nat.lt_of_succ_lt h)]
  exact getElem?_lt_failuresBefore s j hj _

theorem exec_last (m : Int) (s : List Outcome) (c : Option Nat) (j : Nat) (o : Outcome)
    (hj : (executeWithRetries m s c).attempts[j]? = some o) (ho : o ≠ .err) :
    (executeWithRetries m s c).attempts.length = j + 1 ∧
      (executeWithRetries m s c).attempts.getLast? = some o := by
  have hlt := (List.getElem?_eq_some_iff.mp hj).1
  have hge : ¬ j + 1 < (executeWithRetries m s c).attempts.length := fun h =>
    ho (Option.some.inj (hj.symm.trans (exec_init_err m s c j h)))
  have hlen : (executeWithRetries m s c).attempts.length = j + 1 := by omega
  exact ⟨hlen, by rw [List.getLast?_eq_getElem?, hlen]; exact hj⟩

end Sched.Retry
