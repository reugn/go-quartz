import QuartzModel.Proofs.TransLemmas
import QuartzModel.Proofs.CronAssembly
/-!
# Stage C — the translated state machine (`Generated.Trans.CronStateMachine.*`) is the odometer

`resetFrom`, `overflowFrom`, `advanceInvalid`, `findForward` of the translated Go code, run on the state
machine `mkCsm {} f c ex` that `newCSMFromFields` builds, compute `Odo.resetFrom / overflowFrom / advFrom /
findForward` instantiated with `Cron.levels {} f`, under the abstraction "digit k of the configuration =
value of node k".

The common nodes are handled by Stage A (`TransA.*_mk`).  The day node enters through the abstract
per-node equivalence `DayEquiv T f fuel` (what Stage B, `Proofs/TransDayLemmas.lean`, proves for `T := goTime`), so that
the stages compose.
The digits stay inside `Box` (month in 1..12, day in 1..31, …) along every step: that is where the day node's
equivalence is needed, and it is preserved by the model's operations (`Odo.Digits_*` of `Proofs/Odometer.lean`, for the
upper bounds `InBox` and the lower bounds `LowBox`).
-/
namespace TransC
open Generated.Trans Cron Odo TransRepr TransA

/-- lower bounds of the digits: `Odo.Digits` at `A k ≤ v` (by `Iff.rfl`, which is how the `Odo.Digits_*` lemmas apply) -/
def LowBox (A : Nat → Nat) (n : Nat) (c : Cfg) : Prop := ∀ k, k < n → A k ≤ c k

/-- month and day digits are at least 1 -/
def A6 : Nat → Nat
  | 3 => 1 | 4 => 1 | _ => 0

theorem levels_low (f : Fields) (hwf : WellFormed f = true) :
    ∀ k, LvlKeeps (fun k v => A6 k ≤ v) k (levels {} f k) := by
  have w := wfParts f hwf
  intro k
  match k with
  | 0 | 1 | 2 | 5 | _+6 => exact ⟨fun _ _ _ => Nat.zero_le _, fun _ => Nat.zero_le _⟩
  | 3 => exact ⟨fun c v _ => (dayLvl_pos f hwf c).1 v, fun c => (dayLvl_pos f hwf c).2⟩
  | 4 =>
    have hv : ∀ x ∈ f.month.values, 1 ≤ x := fun x hx => ((allIn_iff 1 12 f.month.values).mp w.monthA x hx).1
    exact ⟨fun _ v _ => commonNext_fst_ge 1 12 f.month.values (Nat.le_refl _) hv v,
           fun _ => commonNext_fst_ge 1 12 f.month.values (Nat.le_refl _) hv 12⟩

/-- the digits are inside their ranges -/
structure Box (c : Cfg) : Prop where
  hi : InBox B6 6 c
  lo : LowBox A6 6 c

variable {c : Cfg}

theorem Box.month (h : Box c) : 1 ≤ c 4 ∧ c 4 ≤ 12 := ⟨h.lo 4 (by decide), h.hi 4 (by decide)⟩
theorem Box.day (h : Box c) : 1 ≤ c 3 ∧ c 3 ≤ 31 := ⟨h.lo 3 (by decide), h.hi 3 (by decide)⟩

section box
variable (f : Fields) (hwf : WellFormed f = true)
include hwf

theorem Box.set_next (h : Box c) (k : Nat) (hk : k < 6) :
    Box (set c k ((levels {} f k).next c (c k)).1) :=
  ⟨InBox_set B6 6 c k _ h.hi ((levels_bound f hwf k).next_le c (c k) (h.hi k hk)),
   Digits_set _ 6 c k _ h.lo ((levels_low f hwf k).next_keeps c (c k) (h.lo k hk))⟩

theorem Box.set_rst (h : Box c) (k : Nat) : Box (set c k ((levels {} f k).rst c)) :=
  ⟨InBox_set B6 6 c k _ h.hi ((levels_bound f hwf k).rst_le c),
   Digits_set _ 6 c k _ h.lo ((levels_low f hwf k).rst_keeps c)⟩

theorem Box.resetFrom (h : Box c) (k : Nat) : Box (resetFrom (levels {} f) k c) :=
  ⟨InBox_resetFrom _ B6 6 (levels_bound f hwf) k c h.hi, Digits_resetFrom _ _ 6 (levels_low f hwf) k c h.lo⟩

theorem Box.overflowFrom (h : Box c) (k : Nat) : Box (overflowFrom (levels {} f) 6 k c).1 :=
  ⟨InBox_overflowFrom _ B6 6 (levels_bound f hwf) k c h.hi, Digits_overflowFrom _ _ 6 (levels_low f hwf) k c h.lo⟩

theorem Box.advFrom (h : Box c) (m : Nat) (hm : m ≤ 6) (r : Cfg × Bool)
    (hr : advFrom (levels {} f) (levelsDec {} f) 6 m c = some r) : Box r.1 :=
  ⟨InBox_advFrom _ _ B6 6 (levels_bound f hwf) m hm c h.hi r hr,
   Digits_advFrom _ _ _ 6 (levels_low f hwf) m hm c h.lo r hr⟩

end box

/-- what Stage C needs from the day node (Stage B proves it for `T := goTime`) -/
structure DayEquiv (T : TimeExt) (f : Fields) (fuel : Nat) : Prop where
  findForward : ∀ y m v : Nat, 1 ≤ m → m ≤ 12 → 1 ≤ v → v ≤ 31 →
    DayNode.findForward T (mkDay (dayCfg {} f) v) (m : Int) (y : Int) fuel =
      some (if dayValid (dayCfg {} f) y m v then (mkDay (dayCfg {} f) v, unchanged)
            else (mkDay (dayCfg {} f) (dayNext (dayCfg {} f) y m v).1, ffCode (dayNext (dayCfg {} f) y m v).2))
  next : ∀ y m v : Nat, 1 ≤ m → m ≤ 12 → 1 ≤ v → v ≤ 31 →
    DayNode.Next T (mkDay (dayCfg {} f) v) (m : Int) (y : Int) fuel =
      some (mkDay (dayCfg {} f) (dayNext (dayCfg {} f) y m v).1, (dayNext (dayCfg {} f) y m v).2)
  reset : ∀ y m v : Nat, 1 ≤ m → m ≤ 12 → 1 ≤ v → v ≤ 31 →
    DayNode.Reset T (mkDay (dayCfg {} f) v) (m : Int) (y : Int) fuel =
      some (mkDay (dayCfg {} f) (dayReset (dayCfg {} f) y m))

section nodes
variable (T : TimeExt) (f : Fields) (fuel : Nat) (hD : DayEquiv T f fuel) (c : Cfg) (hb : Box c) (ex : Bool)

theorem nodeIsNil_lt : ∀ k : Nat, k < 6 → nodeIsNil (k : Int) = false :=
  forall_lt_six.mpr ⟨rfl, rfl, rfl, rfl, rfl, rfl⟩

/-- a common node's `findForward` result under the setter `g` of its field -/
theorem some_findForward {α : Type} (g : CommonNode → α) {n x y : CommonNode} {b : Bool} {i j : Int}
    (h : CommonNode.findForward n = if b then (x, i) else (y, j)) :
    some (g (CommonNode.findForward n).1, (CommonNode.findForward n).2) = some (if b then (g x, i) else (g y, j)) := by
  rw [h]
  cases b <;> rfl

include hD hb

/- In each case the Go dispatch `selectNode(k)` evaluates, and the node's own equation (Stage A, or `hD` for the day node) is
applied under the setter of that field; setting field `k` of `mkCsm {} f c ex` to the node with value `v` gives
`mkCsm {} f (Odo.set c k v) ex` by unfolding. -/
theorem nodeNext_mk : ∀ (k : Nat), k < 6 →
    nodeNext T (mkCsm {} f c ex) (k : Int) fuel =
      some (mkCsm {} f (Odo.set c k ((levels {} f k).next c (c k)).1) ex, ((levels {} f k).next c (c k)).2) := by
  refine forall_lt_six.mpr ⟨?_, ?_, ?_, ?_, ?_, ?_⟩
  · exact congrArg (fun r => some ({ mkCsm {} f c ex with second := r.1 }, r.2)) (Next_mk 0 59 f.sec.values (c 0))
  · exact congrArg (fun r => some ({ mkCsm {} f c ex with minute := r.1 }, r.2)) (Next_mk 0 59 f.min.values (c 1))
  · exact congrArg (fun r => some ({ mkCsm {} f c ex with hour := r.1 }, r.2)) (Next_mk 0 23 f.hour.values (c 2))
  · exact congrArg (fun o => o.bind fun r => some ({ mkCsm {} f c ex with day := r.1 }, r.2))
      (hD.next (c 5) (c 4) (c 3) hb.month.1 hb.month.2 hb.day.1 hb.day.2)
  · exact congrArg (fun r => some ({ mkCsm {} f c ex with month := r.1 }, r.2)) (Next_mk 1 12 f.month.values (c 4))
  · exact congrArg (fun r => some ({ mkCsm {} f c ex with year := r.1 }, r.2)) (Next_mk 0 2261 f.year.values (c 5))

theorem nodeReset_mk : ∀ (k : Nat), k < 6 →
    nodeReset T (mkCsm {} f c ex) (k : Int) fuel =
      some (mkCsm {} f (Odo.set c k ((levels {} f k).rst c)) ex) := by
  refine forall_lt_six.mpr ⟨?_, ?_, ?_, ?_, ?_, ?_⟩
  · exact congrArg (fun r => some { mkCsm {} f c ex with second := r }) (Reset_mk 0 59 f.sec.values (c 0))
  · exact congrArg (fun r => some { mkCsm {} f c ex with minute := r }) (Reset_mk 0 59 f.min.values (c 1))
  · exact congrArg (fun r => some { mkCsm {} f c ex with hour := r }) (Reset_mk 0 23 f.hour.values (c 2))
  · exact congrArg (fun o => o.bind fun r => some { mkCsm {} f c ex with day := r })
      (hD.reset (c 5) (c 4) (c 3) hb.month.1 hb.month.2 hb.day.1 hb.day.2)
  · exact congrArg (fun r => some { mkCsm {} f c ex with month := r }) (Reset_mk 1 12 f.month.values (c 4))
  · exact congrArg (fun r => some { mkCsm {} f c ex with year := r }) (Reset_mk 0 2261 f.year.values (c 5))

theorem nodeFindForward_mk : ∀ (k : Nat), k < 6 →
    nodeFindForward T (mkCsm {} f c ex) (k : Int) fuel =
      some (if (levelsDec {} f k).isValid c (c k) then (mkCsm {} f c ex, unchanged)
            else (mkCsm {} f (Odo.set c k ((levels {} f k).next c (c k)).1) ex, ffCode ((levels {} f k).next c (c k)).2)) := by
  refine forall_lt_six.mpr ⟨?_, ?_, ?_, ?_, ?_, ?_⟩
  · exact some_findForward (fun r => { mkCsm {} f c ex with second := r }) (findForward_mk 0 59 f.sec.values (c 0))
  · exact some_findForward (fun r => { mkCsm {} f c ex with minute := r }) (findForward_mk 0 59 f.min.values (c 1))
  · exact some_findForward (fun r => { mkCsm {} f c ex with hour := r }) (findForward_mk 0 23 f.hour.values (c 2))
  · refine (congrArg (fun o => o.bind fun r => some ({ mkCsm {} f c ex with day := r.1 }, r.2))
      (hD.findForward (c 5) (c 4) (c 3) hb.month.1 hb.month.2 hb.day.1 hb.day.2)).trans ?_
    show _ = some (if dayValid (dayCfg {} f) (c 5) (c 4) (c 3) = true then _ else _)
    cases dayValid (dayCfg {} f) (c 5) (c 4) (c 3) <;> rfl
  · exact some_findForward (fun r => { mkCsm {} f c ex with month := r }) (findForward_mk 1 12 f.month.values (c 4))
  · exact some_findForward (fun r => { mkCsm {} f c ex with year := r }) (findForward_mk 0 2261 f.year.values (c 5))

end nodes

section machine
variable (T : TimeExt) (f : Fields) (hwf : WellFormed f = true) (fuel : Nat) (hD : DayEquiv T f fuel)
include hwf hD

/-- Go `resetFrom(k-1)` = `Odo.resetFrom L k` -/
theorem resetFrom_go (k : Nat) (hk : k ≤ 6) : ∀ (c : Cfg) (ex : Bool) (cnt : Nat), Box c → k < cnt →
    CronStateMachine.resetFrom.go T fuel cnt (mkCsm {} f c ex) ((k : Int) - 1) =
      some (mkCsm {} f (Odo.resetFrom (levels {} f) k c) ex) := by
  induction k with
  | zero =>
    intro c ex cnt _ hc
    obtain ⟨cnt, rfl⟩ := Nat.exists_eq_add_one_of_ne_zero (Nat.ne_zero_of_lt hc)
    rfl
  | succ k ih =>
    intro c ex cnt hb hc
    obtain ⟨cnt, rfl⟩ := Nat.exists_eq_add_one_of_ne_zero (Nat.ne_zero_of_lt hc)
    have e : ((k + 1 : Nat) : Int) - 1 = (k : Int) := Int.add_sub_cancel (k : Int) 1
    rw [e]
    simp only [CronStateMachine.resetFrom.go, nodeIsNil_lt k hk, Bool.false_eq_true, if_false,
      nodeReset_mk T f fuel hD c hb ex k hk, Option.bind_some, Odo.resetFrom]
    exact ih (Nat.le_of_succ_le hk) _ ex cnt (hb.set_rst f hwf k) (Nat.lt_of_succ_lt_succ hc)

theorem resetFrom_mk (k : Nat) (hk : k ≤ 6) (c : Cfg) (ex : Bool) (hb : Box c) (hf : 7 ≤ fuel) :
    CronStateMachine.resetFrom T (mkCsm {} f c ex) ((k : Int) - 1) fuel =
      some (mkCsm {} f (Odo.resetFrom (levels {} f) k c) ex) :=
  resetFrom_go T f hwf fuel hD k hk c ex fuel hb (Nat.lt_of_le_of_lt hk hf)

/-- Go `overflowFrom(k)` = `Odo.overflowFrom L 6 k`; `exhausted` is only ever set -/
theorem overflowFrom_go (hf : 7 ≤ fuel) (j : Nat) : ∀ (k : Nat) (c : Cfg) (ex : Bool) (cnt : Nat), k + j = 6 → Box c →
    j < cnt →
    CronStateMachine.overflowFrom.go T fuel cnt (mkCsm {} f c ex) (k : Int) =
      some (mkCsm {} f (Odo.overflowFrom (levels {} f) 6 k c).1 (ex || (Odo.overflowFrom (levels {} f) 6 k c).2)) := by
  induction j with
  | zero =>
    intro k c ex cnt hk _ hc
    obtain ⟨cnt, rfl⟩ := Nat.exists_eq_add_one_of_ne_zero (Nat.ne_zero_of_lt hc)
    obtain rfl : k = 6 := hk
    rw [Odo.overflowFrom, if_pos (Nat.le_refl 6), Bool.or_true]
    rfl
  | succ j ih =>
    intro k c ex cnt hk hb hc
    obtain ⟨cnt, rfl⟩ := Nat.exists_eq_add_one_of_ne_zero (Nat.ne_zero_of_lt hc)
    have hk6 : k < 6 := Nat.lt_of_lt_of_le (Nat.lt_add_of_pos_right (Nat.succ_pos j)) (Nat.le_of_eq hk)
    rw [Odo.overflowFrom, if_neg (Nat.not_le_of_lt hk6)]
    simp only [CronStateMachine.overflowFrom.go, nodeIsNil_lt k hk6, Bool.false_eq_true, if_false,
      nodeNext_mk T f fuel hD c hb ex k hk6, Option.bind_some]
    have hb' := hb.set_next f hwf k hk6
    cases ((levels {} f k).next c (c k)).2 with
    | true => exact ih (k + 1) _ ex cnt (by rw [← hk]; exact Nat.add_right_comm k 1 j) hb' (Nat.lt_of_succ_lt_succ hc)
    | false =>
      simp only [Bool.false_eq_true, if_false, Bool.or_false]
      exact resetFrom_mk T f hwf fuel hD k (Nat.le_of_lt hk6) _ ex hb' hf

theorem overflowFrom_mk (hf : 7 ≤ fuel) (k : Nat) (hk : k ≤ 6) (c : Cfg) (ex : Bool) (hb : Box c) (node : Int)
    (hn : node = (k : Int)) :
    CronStateMachine.overflowFrom T (mkCsm {} f c ex) node fuel =
      some (mkCsm {} f (Odo.overflowFrom (levels {} f) 6 k c).1 (ex || (Odo.overflowFrom (levels {} f) 6 k c).2)) := by
  subst hn
  exact overflowFrom_go T f hwf fuel hD hf (6 - k) k c ex fuel (Nat.add_sub_cancel' hk) hb
    (Nat.lt_of_le_of_lt (Nat.sub_le 6 k) hf)

/-- node ids `m-1, …, 0` (most significant first) -/
def descList : Nat → List Int
  | 0 => []
  | m + 1 => (m : Int) :: descList m

omit hwf hD in
theorem descList_six : descList 6 = [years, months, days, hours, minutes, seconds] := rfl

/-- result of the validation pass in terms of the model's -/
def advRepr (c : Cfg) (ex : Bool) : Option (Cfg × Bool) → Ctl CronStateMachine (CronStateMachine × Bool)
  | none => .done (mkCsm {} f c ex)
  | some r => .ret (mkCsm {} f r.1 (ex || r.2), true)

theorem advanceInvalid_loop (hf : 7 ≤ fuel) (m : Nat) (hm : m ≤ 6) (c : Cfg) (ex : Bool) (hb : Box c) :
    CronStateMachine.advanceInvalid.loop1 T fuel (mkCsm {} f c ex) (descList m) =
      some (advRepr f c ex (Odo.advFrom (levels {} f) (levelsDec {} f) 6 m c)) := by
  induction m with
  | zero => rfl
  | succ m ih =>
    have hm6 : m < 6 := hm
    rw [descList, advFrom_succ]
    simp only [CronStateMachine.advanceInvalid.loop1, nodeFindForward_mk T f fuel hD c hb ex m hm6, Option.bind_some]
    cases hv : (levelsDec {} f m).isValid c (c m) with
    | true =>
      simp only [↓reduceIte, ne_eq, not_true_eq_false, decide_false, Bool.false_eq_true]
      exact ih (Nat.le_of_lt hm6)
    | false =>
      have hb1 := hb.set_next f hwf m hm6
      have hb2 := hb1.resetFrom f hwf m
      have hrs := resetFrom_mk T f hwf fuel hD m (Nat.le_of_lt hm6) _ ex hb1 hf
      cases hov : ((levels {} f m).next c (c m)).2 with
      | true =>
        have hof := overflowFrom_mk T f hwf fuel hD hf (m + 1) hm6 _ ex hb2 ((m : Int) + 1) rfl
        simp [ffCode, hrs, hof, advRepr, unchanged, overflowed]
      | false =>
        simp [ffCode, hrs, advRepr, unchanged, overflowed, advanced]

/-- Go `advanceInvalid` = `Odo.advFrom L D 6 6` -/
theorem advanceInvalid_mk (hf : 7 ≤ fuel) (c : Cfg) (ex : Bool) (hb : Box c) :
    CronStateMachine.advanceInvalid T (mkCsm {} f c ex) fuel =
      some (match Odo.advFrom (levels {} f) (levelsDec {} f) 6 6 c with
            | none => (mkCsm {} f c ex, false)
            | some r => (mkCsm {} f r.1 (ex || r.2), true)) := by
  unfold CronStateMachine.advanceInvalid
  rw [← descList_six]
  simp only [advanceInvalid_loop T f hwf fuel hD hf 6 (Nat.le_refl _) c ex hb]
  cases Odo.advFrom (levels {} f) (levelsDec {} f) 6 6 c <;> rfl

/-- Go `for !csm.exhausted && csm.advanceInvalid() {}`, entered with the odometer's result `p` so far, against `Odo.loop`
(the Go loop needs one more turn to notice `exhausted`, hence `n + 1 ≤ cnt`) -/
theorem loop_mk (hf : 7 ≤ fuel) : ∀ (n : Nat) (p : Cfg × Bool) (cnt : Nat) (r : Cfg × Bool), Box p.1 → n + 1 ≤ cnt →
    (if p.2 then some p else Odo.loop (levels {} f) (levelsDec {} f) 6 n p.1) = some r →
    CronStateMachine.findForward.loop1 T fuel cnt (mkCsm {} f p.1 p.2) = some (mkCsm {} f r.1 r.2)
  | _, _, 0, _, _, hc, _ => absurd hc (Nat.not_succ_le_zero _)
  | _, (c, true), cnt+1, r, _, _, h => by
    obtain rfl := Option.some.inj h
    rfl -- the loop test `!csm.exhausted` fails at once
  | 0, (c, false), _+1, r, _, _, h => by simp [Odo.loop] at h
  | n+1, (c, false), cnt+1, r, hb, hc, h => by
    have hadv := advanceInvalid_mk T f hwf fuel hD hf c false hb
    have hex : (mkCsm {} f c false).exhausted = false := rfl
    simp only [CronStateMachine.findForward.loop1, hex, Bool.not_false, if_true, hadv, Option.bind_some]
    rw [if_neg Bool.false_ne_true, Odo.loop] at h
    cases ha : Odo.advFrom (levels {} f) (levelsDec {} f) 6 6 c with
    | none =>
      rw [ha] at h
      obtain rfl := Option.some.inj h
      rfl
    | some p' =>
      rw [ha] at h
      simp only [Bool.false_or, if_true]
      refine loop_mk hf n p' cnt r (hb.advFrom f hwf 6 (Nat.le_refl _) _ ha) (Nat.le_of_succ_le_succ hc) ?_
      obtain ⟨c', fl⟩ := p'
      cases fl <;> exact h

end machine
end TransC
