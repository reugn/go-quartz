import QuartzModel.Generated.TransParse
import QuartzModel.Theorems.TransCron
import QuartzModel.Proofs.ParseLemmas
/-!
# Lemmas for `Theorems/TransParse.lean`: the translated text level of the cron parser = `Cron/Parse.lean`

`modelExt` instantiates the library interface `Generated.TransParse.StrExt` with the re-implementations of the
hand-written model (`Cron.splitOn`, `Cron.atoi`, `Cron.upperChar`, `Cron.trimSpace`, `Cron.collapseSpace`, the four anchored
regexp matchers, insertion sort).  The regexp entries are keyed by the PATTERN TEXT: a pattern the model does not know
matches nothing, so an edited pattern in the Go source (it is data in the generated file) breaks the equivalences.

The maps from model values to translated ones (`ints`, `mkField`, `mkFields`) are in `Proofs/TransRepr.lean`, their lemmas
(`TransA.ints_eq_nil`) in `Proofs/TransLemmas.lean`, `TransCron.mkTrigger` in `Proofs/TransCronLemmas.lean`.
-/
namespace TransParse
open Generated Generated.TransParse TransRepr

def insertSortedInt (x : Int) : List Int → List Int
  | [] => [x]
  | h :: t => if x ≤ h then x :: h :: t else h :: insertSortedInt x t

/-- `sort.Ints` as insertion sort (the sorted permutation is unique) -/
def sortInt (l : List Int) : List Int := l.foldr insertSortedInt []

/-- `strings.TrimSuffix` -/
def trimSuffix (s suf : Str) : Str :=
  if suf.isSuffixOf s then s.take (s.length - suf.length) else s

/-- the model's regexp matchers, by pattern text -/
def reMatch (p s : Str) : Bool :=
  if p = "^L(-[0-9]+)?$".toList then Cron.matchLastMonthDay s
  else if p = "^[0-9]+W$".toList then Cron.matchWeekday s
  else if p = "^[a-zA-Z0-9]*L$".toList then Cron.matchLastWeekday s
  else if p = "^[a-zA-Z0-9]+#[0-9]+$".toList then Cron.matchHash s
  else false

/-- `ReplaceAllString`: only `\s+` → one blank is known -/
def reReplaceAll (p s r : Str) : Str :=
  if p = "\\s+".toList ∧ r = [' '] then Cron.collapseSpace s else s

/-- the library functions as re-implemented by the hand-written model -/
def modelExt : StrExt where
  -- the translated code only ever splits at a one-character separator; any other is left unsplit
  split s sep := match sep with
    | [c] => Cron.splitOn c s
    | _ => [s]
  containsRune s c := s.contains c
  toUpper s := s.map Cron.upperChar
  trimSpace := Cron.trimSpace
  trimSuffix := trimSuffix
  atoi := Cron.atoi
  reMatch := reMatch
  reReplaceAll := reReplaceAll
  sortInts := sortInt

@[simp] theorem ext_split (s : Str) (c : Char) : modelExt.split s [c] = Cron.splitOn c s := rfl
@[simp] theorem ext_containsRune (s : Str) (c : Char) : modelExt.containsRune s c = s.contains c := rfl
@[simp] theorem ext_toUpper (s : Str) : modelExt.toUpper s = s.map Cron.upperChar := rfl
@[simp] theorem ext_trimSpace (s : Str) : modelExt.trimSpace s = Cron.trimSpace s := rfl
@[simp] theorem ext_trimSuffix (s t : Str) : modelExt.trimSuffix s t = trimSuffix s t := rfl
@[simp] theorem ext_atoi (s : Str) : modelExt.atoi s = Cron.atoi s := rfl
@[simp] theorem ext_reMatch (p s : Str) : modelExt.reMatch p s = reMatch p s := rfl
@[simp] theorem ext_reReplaceAll (p s r : Str) : modelExt.reReplaceAll p s r = reReplaceAll p s r := rfl
@[simp] theorem ext_sortInts (l : List Int) : modelExt.sortInts l = sortInt l := rfl

/-- the error value wraps `ErrCronParse` (`errors.Is(err, ErrCronParse)`) -/
abbrev WrapsParse (e : String) : Prop := wraps e "ErrCronParse" = true

/-- the translated result `t` (`none` = out of fuel) agrees with the model's `m`: the model's value (through `f`) with a nil
error, or SOME non-nil error that wraps `ErrCronParse` (the value next to it is irrelevant) when the model rejects -/
def Agrees {α β : Type} (t : Option (α × Option String)) (m : Option β) (f : β → α) : Prop :=
  match m with
  | some b => t = some (f b, none)
  | none => ∃ a e, t = some (a, some e) ∧ WrapsParse e

theorem Agrees.ok {α β : Type} {t : Option (α × Option String)} {m : Option β} {f : β → α} {b : β}
    (h : Agrees t m f) (hm : m = Option.some b) : t = Option.some (f b, Option.none) := by
  subst hm
  exact h

theorem Agrees.err {α β : Type} {t : Option (α × Option String)} {f : β → α}
    (h : Agrees t (Option.none : Option β) f) : ∃ a e, t = Option.some (a, Option.some e) ∧ WrapsParse e := h

theorem Agrees.cases {α β : Type} {t : Option (α × Option String)} {m : Option β} {f : β → α} (h : Agrees t m f) :
    (∃ b, m = Option.some b ∧ t = Option.some (f b, Option.none)) ∨
    (∃ a e, m = Option.none ∧ t = Option.some (a, Option.some e) ∧ WrapsParse e) := by
  cases m with
  | some b => exact .inl ⟨b, rfl, h⟩
  | none =>
    obtain ⟨a, e, he, hw⟩ := h
    exact .inr ⟨a, e, rfl, he, hw⟩

theorem Agrees.wraps_of_err {α β : Type} {t : Option (α × Option String)} {m : Option β} {f : β → α}
    (h : Agrees t m f) {a : α} {e : String} (he : t = Option.some (a, Option.some e)) : WrapsParse e := by
  rcases h.cases with ⟨b, _, ht⟩ | ⟨a', e', _, ht, hw⟩
  · rw [ht] at he; cases he
  · rw [ht] at he
    cases he
    exact hw

/-- the text before the first colon of an error value names the constructor that made it (the name `c` as a character
list: the kernel compares characters and never builds a `String`) -/
theorem wrapsParse_of_ctor {e : String} {c : List Char} (hc : errorCtors.lookup (String.ofList c) = some "ErrCronParse")
    (h : e.toList.takeWhile (· ≠ ':') = c) : WrapsParse e := by
  unfold WrapsParse wraps errCtor
  rw [h, hc]
  rfl

theorem errorCtors_cronParse : errorCtors.lookup "newCronParseError" = some "ErrCronParse" := by decide +kernel
theorem errorCtors_cronField : errorCtors.lookup "newInvalidCronFieldError" = some "ErrCronParse" := by decide +kernel

theorem wraps_range : WrapsParse "newInvalidCronFieldError: range, _" := wrapsParse_of_ctor errorCtors_cronField (by decide_text)
theorem wraps_step : WrapsParse "newInvalidCronFieldError: step, _" := wrapsParse_of_ctor errorCtors_cronField (by decide_text)
theorem wraps_list : WrapsParse "newInvalidCronFieldError: list, _" := wrapsParse_of_ctor errorCtors_cronField (by decide_text)
theorem wraps_numeric : WrapsParse "newInvalidCronFieldError: numeric, _" := wrapsParse_of_ctor errorCtors_cronField (by decide_text)
theorem wraps_last : WrapsParse "newInvalidCronFieldError: last, _" := wrapsParse_of_ctor errorCtors_cronField (by decide_text)
theorem wraps_weekday : WrapsParse "newInvalidCronFieldError: weekday, _" := wrapsParse_of_ctor errorCtors_cronField (by decide_text)
theorem wraps_hash : WrapsParse "newInvalidCronFieldError: hash, _" := wrapsParse_of_ctor errorCtors_cronField (by decide_text)
theorem wraps_unknown : WrapsParse "newCronParseError: unknown literal %s" := wrapsParse_of_ctor errorCtors_cronParse (by decide_text)
theorem wraps_length : WrapsParse "newCronParseError: invalid expression length" := wrapsParse_of_ctor errorCtors_cronParse (by decide_text)
theorem wraps_twice : WrapsParse "newCronParseError: day field set twice" := wrapsParse_of_ctor errorCtors_cronParse (by decide_text)
theorem wraps_fillRange : WrapsParse "newCronParseError: fill range values" := wrapsParse_of_ctor errorCtors_cronParse (by decide_text)
theorem wraps_fillStep : WrapsParse "newCronParseError: fill step values" := wrapsParse_of_ctor errorCtors_cronParse (by decide_text)

theorem translateLiteral_loop (u : Str) : ∀ (l : List Str) (i : Int),
    translateLiteral.loop1 modelExt u i l =
      match Cron.indexOf? l u with
      | some k => .error (i + (k : Int), none)
      | none => .ok () := by
  intro l
  induction l with
  | nil => intro i; rfl
  | cons h t ih =>
    intro i
    unfold translateLiteral.loop1 Cron.indexOf?
    by_cases hh : h = u
    · simp [hh]
    · simp only [hh, decide_false, if_false, Bool.false_eq_true, ih]
      cases Cron.indexOf? t u with
      | none => rfl
      | some k =>
        simp only [Option.map_some]
        congr 2
        push_cast
        omega

theorem trans_translateLiteral (g : List Str) (s : Str) :
    Agrees (some (translateLiteral modelExt g s)) (Cron.translateLiteral g s) id := by
  unfold translateLiteral Cron.translateLiteral
  simp only [translateLiteral_loop, ext_toUpper]
  cases Cron.indexOf? g (s.map Cron.upperChar) with
  | none => exact ⟨_, _, rfl, wraps_unknown⟩
  | some k => simp [Agrees]

theorem trans_normalize (s : Str) (g : List Str) :
    Agrees (some (normalize modelExt s g)) (Cron.normalize g s) id := by
  unfold normalize Cron.normalize
  rw [ext_atoi]
  cases Cron.atoi s with
  | none => exact trans_translateLiteral g s
  | some v => rfl

theorem normalize_cases (s : Str) (g : List Str) :
    (∃ v, Cron.normalize g s = some v ∧ normalize modelExt s g = (v, none)) ∨
    (∃ a e, Cron.normalize g s = none ∧ normalize modelExt s g = (a, some e) ∧ WrapsParse e) := by
  simpa using (trans_normalize s g).cases

theorem translateLiterals_loop (g : List Str) : ∀ (l : List Str) (acc : List Int),
    match Cron.mapM' (Cron.normalize g) l with
    | some vs => translateLiterals.loop1 modelExt g acc l = .ok (acc ++ vs)
    | none => ∃ e, translateLiterals.loop1 modelExt g acc l = .error ([], some e) ∧ WrapsParse e := by
  intro l
  induction l with
  | nil => intro acc; simp [Cron.mapM', translateLiterals.loop1]
  | cons h t ih =>
    intro acc
    unfold translateLiterals.loop1 Cron.mapM'
    rcases normalize_cases h g with ⟨v, hm, ht⟩ | ⟨a, e, hm, ht, hw⟩
    · rw [hm, ht]
      simp only [Option.isSome_none, Bool.false_eq_true, if_false]
      have := ih (acc ++ [v])
      cases hr : Cron.mapM' (Cron.normalize g) t with
      | none => rw [hr] at this; exact this
      | some vs => rw [hr] at this; simp [this]
    · rw [hm, ht]
      exact ⟨e, rfl, hw⟩

theorem trans_translateLiterals (g : List Str) (l : List Str) :
    Agrees (some (translateLiterals modelExt g l)) (Cron.mapM' (Cron.normalize g) l) id := by
  unfold translateLiterals
  have := translateLiterals_loop g l []
  cases hr : Cron.mapM' (Cron.normalize g) l with
  | none =>
    rw [hr] at this
    obtain ⟨e, he, hw⟩ := this
    simp only [he]
    exact ⟨_, _, rfl, hw⟩
  | some vs => rw [hr] at this; simp [this, Agrees]

/-- the two partition loops (`extractStepValues`, `extractRangeValues`): the elements that contain `c` go to the second
list, the others to the first -/
theorem partition_loop (c : Char) {loop : List Str → List Str → List Str → List Str × List Str}
    (hnil : ∀ vs ss, loop vs ss [] = (vs, ss))
    (hcons : ∀ vs ss h t, loop vs ss (h :: t) = if h.contains c then loop vs (ss ++ [h]) t else loop (vs ++ [h]) ss t) :
    ∀ l vs ss, loop vs ss l = (vs ++ l.filter (fun v => !v.contains c), ss ++ l.filter (fun v => v.contains c)) := by
  intro l
  induction l with
  | nil => intro vs ss; simp [hnil]
  | cons h t ih =>
    intro vs ss
    rw [hcons]
    by_cases hc : h.contains c = true
    · have hc' : c ∈ h := by simpa using hc
      simp [hc', ih]
    · have hc' : ¬ c ∈ h := by simpa using hc
      simp [hc', ih]

theorem trans_extractStepValues (l : List Str) :
    extractStepValues modelExt l = (l.filter (fun v => !v.contains '/'), l.filter (fun v => v.contains '/')) := by
  have := partition_loop '/' (loop := extractStepValues.loop1 modelExt) (fun _ _ => rfl)
    (fun vs ss h t => by rw [extractStepValues.loop1, ext_containsRune]; cases h.contains '/' <;> rfl) l [] []
  simp [extractStepValues, this]

theorem trans_extractRangeValues (l : List Str) :
    extractRangeValues modelExt l = (l.filter (fun v => !v.contains '-'), l.filter (fun v => v.contains '-')) := by
  have := partition_loop '-' (loop := extractRangeValues.loop1 modelExt) (fun _ _ => rfl)
    (fun vs ss h t => by rw [extractRangeValues.loop1, ext_containsRune]; cases h.contains '-' <;> rfl) l [] []
  simp [extractRangeValues, this]

/-- the model's `Bound` as the Go `boundary` -/
def bnd (b : Cron.Bound) : boundary := { lower := (b.lower : Int), upper := (b.upper : Int) }

/-- a plain value list as a `*cronField` (`newCronField`) -/
def fld (v : List Nat) : Trans.cronField := { values := ints v, n := 0 }

@[simp] theorem bnd_lower (b : Cron.Bound) : (bnd b).lower = (b.lower : Int) := rfl
@[simp] theorem bnd_upper (b : Cron.Bound) : (bnd b).upper = (b.upper : Int) := rfl
@[simp] theorem strIdx_zero (a : Str) (l : List Str) : strIdx (a :: l) 0 = a := rfl
@[simp] theorem strIdx_one (a b : Str) (l : List Str) : strIdx (a :: b :: l) 1 = b := rfl

/-- the common end of `parseRangeField` and `parseStepField`: fill, then wrap the values in a field -/
theorem fill_tail {t : Option (List Int × Option String)} {m : Option (List Nat)} {msg : String} (hw : WrapsParse msg)
    (h : t = some (match m with | none => ([], some msg) | some l => (ints l, none))) :
    Agrees (t.bind fun r => if r.2.isSome then some ((default : Trans.cronField), r.2) else some (newCronField r.1, none))
      m fld := by
  subst h
  cases m with
  | none => exact ⟨_, _, rfl, hw⟩
  | some l => rfl

theorem inScope_nat {v : Int} {lo : Nat} {b : Cron.Bound} (h : Cron.inScope v lo b.upper = true) :
    ∃ n : Nat, v = n ∧ n ≤ b.upper := by
  rw [Cron.inScope_iff] at h
  exact ⟨v.toNat, by omega, by omega⟩

theorem trans_parseRangeField (field : Str) (b : Cron.Bound) (names : List Str) (fuel : Nat) (hf : b.upper + 3 ≤ fuel) :
    Agrees (parseRangeField modelExt field (bnd b) names fuel) (Cron.parseRange field b names) fld := by
  unfold parseRangeField Cron.parseRange
  have hs : Cron.splitOn '-' field = modelExt.split field ['-'] := rfl
  rw [hs]
  generalize modelExt.split field ['-'] = t
  rcases t with _ | ⟨a, _ | ⟨z, _ | ⟨y, r⟩⟩⟩
  · exact ⟨_, _, rfl, wraps_range⟩
  · exact ⟨_, _, rfl, wraps_range⟩
  · simp only [List.length_cons, List.length_nil, strIdx_zero, strIdx_one]
    rcases normalize_cases a names with ⟨v, hm, ht⟩ | ⟨_, e, hm, ht, hw⟩
    · rcases normalize_cases z names with ⟨w, hm2, ht2⟩ | ⟨_, e, hm2, ht2, hw⟩
      · simp only [hm, hm2, ht, ht2, _root_.TransCron.trans_inScope, bnd_lower, bnd_upper]
        cases h1 : Cron.inScope v b.lower b.upper
        · exact ⟨_, _, rfl, wraps_range⟩
        · cases h2 : Cron.inScope w b.lower b.upper
          · exact ⟨_, _, rfl, wraps_range⟩
          · obtain ⟨n, rfl, _⟩ := inScope_nat h1
            obtain ⟨m, rfl, _⟩ := inScope_nat h2
            exact fill_tail wraps_fillRange (_root_.TransCron.trans_fillRangeValues n m fuel (by omega))
      · simp only [hm, hm2, ht, ht2]
        exact ⟨_, _, rfl, hw⟩
    · simp only [hm, ht]
      exact ⟨_, _, rfl, hw⟩
  · exact ⟨_, _, rfl, wraps_range⟩

theorem model_parseStep (field : Str) (b : Cron.Bound) (names : List Str) :
    Cron.parseStep field b names =
      match Cron.splitOn '/' field with
      | [t0, t1] => Cron.stepOf b (Cron.stepFromTo b names t0) (Cron.atoi t1)
      | _ => none := by
  unfold Cron.parseStep Cron.stepOf Cron.stepFromTo
  rcases Cron.splitOn '/' field with _ | ⟨t0, _ | ⟨t1, _ | ⟨y, r⟩⟩⟩ <;> rfl

/-- the part of `parseStepField` after `from`/`to` are known (it occurs once per `switch` case in the translation) -/
theorem step_tail (b : Cron.Bound) (fuel : Nat) (hf : b.upper + 3 ≤ fuel) (frm to : Int) (t1 : Str) :
    Agrees
      (if (atoiPair (modelExt.atoi t1)).2.isSome then
        some ((default : Trans.cronField), some "newInvalidCronFieldError: step, _")
      else
        if ((!(TransCron.inScope frm (bnd b).lower (bnd b).upper)) ||
            (!(TransCron.inScope (atoiPair (modelExt.atoi t1)).1 1 (bnd b).upper))) ||
            (!(TransCron.inScope to (bnd b).lower (bnd b).upper)) then
          some ((default : Trans.cronField), some "newInvalidCronFieldError: step, _")
        else
          (TransCron.fillStepValues frm (atoiPair (modelExt.atoi t1)).1 to fuel).bind fun r =>
          if r.2.isSome then some ((default : Trans.cronField), r.2)
          else some (newCronField r.1, (none : Option String)))
      (Cron.stepOf b (some (frm, to)) (Cron.atoi t1)) fld := by
  have ha : modelExt.atoi t1 = Cron.atoi t1 := rfl
  rw [ha]
  generalize Cron.atoi t1 = o
  cases o with
  | none => exact ⟨_, _, rfl, wraps_step⟩
  | some step =>
    simp only [atoiPair, Cron.stepOf, _root_.TransCron.trans_inScope, bnd_lower, bnd_upper]
    cases h1 : Cron.inScope frm b.lower b.upper
    · exact ⟨_, _, rfl, wraps_step⟩
    · cases h2 : Cron.inScope step 1 b.upper
      · exact ⟨_, _, rfl, wraps_step⟩
      · cases h3 : Cron.inScope to b.lower b.upper
        · exact ⟨_, _, rfl, wraps_step⟩
        · obtain ⟨n, rfl, _⟩ := inScope_nat h1
          obtain ⟨k, rfl, _⟩ := inScope_nat h2
          obtain ⟨m, rfl, _⟩ := inScope_nat h3
          exact fill_tail wraps_fillStep (_root_.TransCron.trans_fillStepValues n k m fuel (by omega))

theorem trans_parseStepField (field : Str) (b : Cron.Bound) (names : List Str) (fuel : Nat) (hf : b.upper + 3 ≤ fuel) :
    Agrees (parseStepField modelExt field (bnd b) names fuel) (Cron.parseStep field b names) fld := by
  rw [model_parseStep]
  unfold parseStepField
  have hs : Cron.splitOn '/' field = modelExt.split field ['/'] := rfl
  rw [hs]
  generalize modelExt.split field ['/'] = t
  rcases t with _ | ⟨t0, _ | ⟨t1, _ | ⟨y, r⟩⟩⟩
  · exact ⟨_, _, rfl, wraps_step⟩
  · exact ⟨_, _, rfl, wraps_step⟩
  · show Agrees _ (Cron.stepOf b (Cron.stepFromTo b names t0) (Cron.atoi t1)) _
    unfold Cron.stepFromTo
    by_cases hstar : t0 = ['*']
    · subst hstar
      exact step_tail b fuel hf _ _ t1
    -- name the inner split (no `generalize` after a `simp`: simp leaves `Decidable` instance arguments behind)
    obtain ⟨tr, htr⟩ : ∃ tr, Cron.splitOn '-' t0 = tr := ⟨_, rfl⟩
    by_cases hc : t0.contains '-' = true
    · simp only [↓reduceIte, strIdx_zero, strIdx_one, ext_containsRune, ext_split, htr, hstar, hc, decide_false,
        Bool.false_eq_true]
      rcases tr with _ | ⟨a, _ | ⟨z, _ | ⟨y, r⟩⟩⟩
      · exact ⟨_, _, rfl, wraps_step⟩
      · exact ⟨_, _, rfl, wraps_step⟩
      · simp only [List.length_cons, List.length_nil, strIdx_zero, strIdx_one]
        rcases normalize_cases a names with ⟨v, hm, ht⟩ | ⟨_, e, hm, ht, hw⟩
        · rcases normalize_cases z names with ⟨w, hm2, ht2⟩ | ⟨_, e, hm2, ht2, hw⟩
          · simp only [hm, hm2, ht, ht2]
            exact step_tail b fuel hf v w t1
          · simp only [hm, hm2, ht, ht2]
            exact ⟨_, _, rfl, hw⟩
        · simp only [hm, ht]
          exact ⟨_, _, rfl, hw⟩
      · exact ⟨_, _, rfl, wraps_step⟩
    · simp only [↓reduceIte, strIdx_zero, strIdx_one, ext_containsRune, hstar, hc, decide_false, Bool.false_eq_true]
      rcases normalize_cases t0 names with ⟨v, hm, ht⟩ | ⟨_, e, hm, ht, hw⟩
      · simp only [hm, ht]
        exact step_tail b fuel hf v _ t1
      · simp only [hm, ht]
        exact ⟨_, _, rfl, hw⟩
  · exact ⟨_, _, rfl, wraps_step⟩

theorem insertSortedInt_ints (x : Nat) (l : List Nat) :
    insertSortedInt (x : Int) (ints l) = ints (Cron.insertSorted x l) := by
  induction l with
  | nil => rfl
  | cons h t ih =>
    simp only [ints, List.map_cons, insertSortedInt, Cron.insertSorted] at ih ⊢
    by_cases hx : x ≤ h
    · have : (x : Int) ≤ (h : Int) := by omega
      simp [hx, this]
    · have : ¬ (x : Int) ≤ (h : Int) := by omega
      simp only [hx, if_false, Int.ofNat_eq_natCast, this, List.map_cons]
      rw [← ih]

theorem sortInt_ints (l : List Nat) : sortInt (ints l) = ints (Cron.sortNat l) := by
  induction l with
  | nil => rfl
  | cons h t ih =>
    have : sortInt (ints (h :: t)) = insertSortedInt (h : Int) (sortInt (ints t)) := rfl
    rw [this, ih, insertSortedInt_ints]
    simp [Cron.sortNat]

theorem ints_append (a b : List Nat) : ints (a ++ b) = ints a ++ ints b := by simp [ints]

theorem list_loop1 (field : Str) (b : Cron.Bound) : ∀ l : List Int,
    parseListField.loop1 modelExt field (bnd b) l =
      if l.all (fun v => Cron.inScope v b.lower b.upper) then .ok ()
      else .error ((default : Trans.cronField), some "newInvalidCronFieldError: list, _") := by
  intro l
  induction l with
  | nil => rfl
  | cons h t ih =>
    unfold parseListField.loop1
    simp only [_root_.TransCron.trans_inScope, bnd_lower, bnd_upper, List.all_cons]
    by_cases hh : Cron.inScope h b.lower b.upper = true
    · simp [hh, ih]
    · simp [hh]

/-- the two member loops of `parseListField` (steps, ranges): parsing each element with `p` and appending its values
is the model's `mapM'` -/
theorem member_loop {loop : List Int → List Str → Option (Except (Trans.cronField × Option String) (List Int))}
    {p : Str → Option (Trans.cronField × Option String)} {pm : Str → Option (List Nat)}
    (hnil : ∀ acc, loop acc [] = some (.ok acc))
    (hcons : ∀ acc h t, loop acc (h :: t) = (p h).bind fun r =>
      if r.2.isSome then some (.error ((default : Trans.cronField), r.2)) else loop (acc ++ r.1.values) t)
    (hp : ∀ s, Agrees (p s) (pm s) fld) : ∀ (l : List Str) (acc : List Int),
    match Cron.mapM' pm l with
    | some sv => loop acc l = some (.ok (acc ++ ints sv.flatten))
    | none => ∃ a e, loop acc l = some (.error (a, some e)) ∧ WrapsParse e := by
  intro l
  induction l with
  | nil => intro acc; simp [Cron.mapM', hnil, ints]
  | cons h t ih =>
    intro acc
    rw [hcons]
    unfold Cron.mapM'
    rcases (hp h).cases with ⟨v, hm, ht⟩ | ⟨a, e, hm, ht, hw⟩
    · rw [hm, ht]
      simp only [Option.bind_some, Option.isSome_none, Bool.false_eq_true, if_false, fld]
      have := ih (acc ++ ints v)
      cases hr : Cron.mapM' pm t with
      | none => rw [hr] at this; exact this
      | some sv => rw [hr] at this; simp [this, ints_append]
    · rw [hm, ht]
      exact ⟨_, _, rfl, hw⟩

theorem trans_parseListField (field : Str) (b : Cron.Bound) (names : List Str) (fuel : Nat) (hf : b.upper + 3 ≤ fuel) :
    Agrees (parseListField modelExt field (bnd b) names fuel) (Cron.parseList field b names) fld := by
  unfold parseListField Cron.parseList
  simp only [ext_split, trans_extractStepValues, trans_extractRangeValues]
  obtain ⟨plain, hplain⟩ : ∃ p, ((Cron.splitOn ',' field).filter (fun v => !v.contains '/')).filter (fun v => !v.contains '-') = p := ⟨_, rfl⟩
  obtain ⟨steps, hsteps⟩ : ∃ p, (Cron.splitOn ',' field).filter (fun v => v.contains '/') = p := ⟨_, rfl⟩
  obtain ⟨ranges, hranges⟩ : ∃ p, ((Cron.splitOn ',' field).filter (fun v => !v.contains '/')).filter (fun v => v.contains '-') = p := ⟨_, rfl⟩
  simp only [hplain, hsteps, hranges]
  rcases (trans_translateLiterals names plain).cases with ⟨lits, hm, he⟩ | ⟨a, e, hm, he, hw⟩
  · simp only [Option.some.injEq, id] at he
    simp only [hm, he, Option.isSome_none, Bool.false_eq_true, if_false, list_loop1]
    cases hall : lits.all (fun v => Cron.inScope v b.lower b.upper)
    · exact ⟨_, _, rfl, wraps_list⟩
    · simp only [Bool.not_true, Bool.false_eq_true, if_false, if_true]
      have h2 := member_loop (loop := parseListField.loop2 modelExt (bnd b) names fuel) (fun _ => rfl) (fun _ _ _ => rfl)
        (fun s => trans_parseStepField s b names fuel hf) steps lits
      cases hs : Cron.mapM' (fun s => Cron.parseStep s b names) steps with
      | none =>
        rw [hs] at h2
        obtain ⟨a, e, he2, hw⟩ := h2
        rw [he2]
        exact ⟨_, _, rfl, hw⟩
      | some sv =>
        rw [hs] at h2
        simp only [h2, Option.bind_some]
        have h3 := member_loop (loop := parseListField.loop3 modelExt (bnd b) names fuel) (fun _ => rfl)
          (fun _ _ _ => rfl) (fun s => trans_parseRangeField s b names fuel hf) ranges (lits ++ ints sv.flatten)
        cases hr : Cron.mapM' (fun s => Cron.parseRange s b names) ranges with
        | none =>
          rw [hr] at h3
          obtain ⟨a, e, he3, hw⟩ := h3
          rw [he3]
          exact ⟨_, _, rfl, hw⟩
        | some rv =>
          rw [hr] at h3
          have key : sortInt (lits ++ ints sv.flatten ++ ints rv.flatten) =
              ints (Cron.sortNat (lits.map Int.toNat ++ sv.flatten ++ rv.flatten)) := by
            have hpos : ∀ v ∈ lits, 0 ≤ v := fun v hv => by
              have := (Cron.inScope_iff _ _ _).1 (List.all_eq_true.1 hall v hv)
              omega
            rw [← sortInt_ints, ints_append, ints_append, TransA.ints_toNat lits hpos]
          simp only [h3, Option.bind_some, ext_sortInts, Agrees, newCronField, fld, key]
  · simp only [Option.some.injEq] at he
    simp only [hm, he]
    exact ⟨_, _, rfl, hw⟩

theorem Agrees.map_fld {t : Option (Trans.cronField × Option String)} {m : Option (List Nat)}
    (h : Agrees t m fld) : Agrees t (m.map (fun v => ({ values := v } : Cron.Field))) mkField := by
  cases m <;> exact h

theorem trans_parseField (field : Str) (b : Cron.Bound) (names : List Str) (fuel : Nat) (hf : b.upper + 3 ≤ fuel) :
    Agrees (parseField modelExt field (bnd b) names fuel) (Cron.parseField field b names) mkField := by
  unfold parseField Cron.parseField
  rw [ext_containsRune, ext_containsRune, ext_containsRune]
  by_cases h1 : field = ['*']
  · subst h1
    exact rfl
  by_cases h2 : field = ['?']
  · subst h2
    exact rfl
  simp only [h1, h2, decide_false, Bool.or_self, Bool.false_eq_true, if_false, or_self]
  cases hc : field.contains ','
  · cases hs : field.contains '/'
    · cases hr : field.contains '-'
      · rcases normalize_cases field names with ⟨v, hm, ht⟩ | ⟨_, e, hm, ht, hw⟩
        · simp only [hm, ht, _root_.TransCron.trans_inScope, bnd_lower, bnd_upper]
          cases hi : Cron.inScope v b.lower b.upper
          · exact ⟨_, _, rfl, wraps_numeric⟩
          · obtain ⟨n, rfl, _⟩ := inScope_nat hi
            exact rfl
        · simp only [hm, ht]
          exact ⟨_, _, rfl, hw⟩
      · exact (trans_parseRangeField field b names fuel hf).map_fld
    · exact (trans_parseStepField field b names fuel hf).map_fld
  · exact (trans_parseListField field b names fuel hf).map_fld

theorem re_lastMonthDay (s : Str) : reMatch cronLastMonthDayRegex s = Cron.matchLastMonthDay s := by
  unfold reMatch; rw [if_pos (by decide_text)]

theorem re_weekday (s : Str) : reMatch cronWeekdayRegex s = Cron.matchWeekday s := by
  unfold reMatch; rw [if_neg (by decide_text), if_pos (by decide_text)]

theorem re_lastWeekday (s : Str) : reMatch cronLastWeekdayRegex s = Cron.matchLastWeekday s := by
  unfold reMatch; rw [if_neg (by decide_text), if_neg (by decide_text), if_pos (by decide_text)]

theorem re_hash (s : Str) : reMatch cronHashRegex s = Cron.matchHash s := by
  unfold reMatch; rw [if_neg (by decide_text), if_neg (by decide_text), if_neg (by decide_text), if_pos (by decide_text)]

theorem re_whitespace (s : Str) : reReplaceAll whitespacePattern s [' '] = Cron.collapseSpace s := by
  unfold reReplaceAll; rw [if_pos ⟨by decide_text, rfl⟩]

theorem trimSuffix_snoc (x : Str) (c : Char) : trimSuffix (x ++ [c]) [c] = x := by
  unfold trimSuffix
  have : [c].isSuffixOf (x ++ [c]) = true := by
    rw [List.isSuffixOf_iff_suffix]; exact List.suffix_append x [c]
  simp [this]

theorem matchWeekday_snoc {s : Str} (h : Cron.matchWeekday s = true) :
    ∃ x, s = x ++ ['W'] ∧ x ≠ [] := by
  unfold Cron.matchWeekday at h
  split at h
  · rename_i ds hrev
    refine ⟨ds.reverse, List.reverse_eq_cons_iff.1 hrev, ?_⟩
    simp only [Bool.and_eq_true, decide_eq_true_eq] at h
    simpa using h.1
  · cases h

theorem matchLastWeekday_snoc {s : Str} (h : Cron.matchLastWeekday s = true) : ∃ x, s = x ++ ['L'] := by
  unfold Cron.matchLastWeekday at h
  split at h
  · rename_i r hrev
    exact ⟨r.reverse, List.reverse_eq_cons_iff.1 hrev⟩
  · cases h

theorem trans_parseDayOfMonthField (field : Str) (b : Cron.Bound) (fuel : Nat) (hf : b.upper + 3 ≤ fuel) :
    Agrees (parseDayOfMonthField modelExt field (bnd b) [] fuel) (Cron.parseDom field b) mkField := by
  unfold parseDayOfMonthField Cron.parseDom
  obtain ⟨sp, hsp⟩ : ∃ sp, Cron.splitOn '-' field = sp := ⟨_, rfl⟩
  by_cases hL : field.contains 'L' = true ∧ Cron.matchLastMonthDay field = true
  · simp only [↓reduceIte, ext_containsRune, ext_reMatch, re_lastMonthDay, ext_split, ext_atoi, hsp, hL.1, hL.2,
      Bool.and_self, and_self]
    by_cases h1 : field = ['L']
    · subst h1
      exact rfl
    simp only [h1, decide_false, Bool.false_eq_true, if_false]
    rcases sp with _ | ⟨a, _ | ⟨k, _ | ⟨y, r⟩⟩⟩
    · exact ⟨_, _, rfl, wraps_last⟩
    · exact ⟨_, _, rfl, wraps_last⟩
    · obtain ⟨o, ho⟩ : ∃ o, Cron.atoi k = o := ⟨_, rfl⟩
      cases o with
      | none =>
        simp only [List.length_cons, List.length_nil, strIdx_one, ho]
        exact ⟨_, _, rfl, wraps_last⟩
      | some n =>
        simp only [List.length_cons, List.length_nil, strIdx_one, ho, atoiPair, _root_.TransCron.trans_inScope,
          bnd_lower, bnd_upper]
        cases hi : Cron.inScope n b.lower b.upper
        · exact ⟨_, _, rfl, wraps_last⟩
        · exact rfl
    · exact ⟨_, _, rfl, wraps_last⟩
  by_cases hW : field.contains 'W' = true
  · simp only [↓reduceIte, ext_containsRune, ext_reMatch, re_lastMonthDay, re_weekday, ext_trimSuffix, ext_atoi,
      Bool.and_eq_true, hL, hW, true_and]
    by_cases hLW : field = ['L', 'W']
    · subst hLW
      exact rfl
    by_cases hm : Cron.matchWeekday field = true
    · obtain ⟨x, rfl, hx⟩ := matchWeekday_snoc hm
      obtain ⟨o, ho⟩ : ∃ o, Cron.atoi x = o := ⟨_, rfl⟩
      simp only [↓reduceIte, hLW, hm, trimSuffix_snoc, List.dropLast_concat, hx, decide_false, Bool.false_eq_true, ho]
      cases o with
      | none => exact ⟨_, _, rfl, wraps_weekday⟩
      | some d =>
        simp only [atoiPair, _root_.TransCron.trans_inScope, bnd_lower, bnd_upper]
        cases hi : Cron.inScope d b.lower b.upper
        · exact ⟨_, _, rfl, wraps_weekday⟩
        · obtain ⟨n, rfl, _⟩ := inScope_nat hi
          exact rfl
    · simp only [↓reduceIte, hLW, hm, decide_false, Bool.false_eq_true]
      exact trans_parseField field b [] fuel hf
  · simp only [↓reduceIte, ext_containsRune, re_lastMonthDay, ext_reMatch, Bool.and_eq_true, hL, hW, Bool.false_eq_true,
      false_and]
    exact trans_parseField field b [] fuel hf

theorem trans_parseDayOfWeekField (field : Str) (b : Cron.Bound) (fuel : Nat) (hf : b.upper + 3 ≤ fuel) :
    Agrees (parseDayOfWeekField modelExt field (bnd b) Cron.dayNames fuel) (Cron.parseDow field b) mkField := by
  unfold parseDayOfWeekField Cron.parseDow
  obtain ⟨sp, hsp⟩ : ∃ sp, Cron.splitOn '#' field = sp := ⟨_, rfl⟩
  by_cases hL : field.contains 'L' = true ∧ Cron.matchLastWeekday field = true
  · obtain ⟨x, rfl⟩ := matchLastWeekday_snoc hL.2
    simp only [↓reduceIte, ext_containsRune, ext_reMatch, re_lastWeekday, ext_trimSuffix, hL.1, hL.2, Bool.and_self, and_self,
      trimSuffix_snoc, List.dropLast_concat]
    by_cases hx : x = []
    · subst hx
      exact rfl
    · simp only [hx, decide_false, Bool.false_eq_true, if_false]
      rcases normalize_cases x Cron.dayNames with ⟨v, hm, ht⟩ | ⟨_, e, hm, ht, hw⟩
      · simp only [hm, ht, _root_.TransCron.trans_inScope, bnd_lower, bnd_upper]
        cases hi : Cron.inScope v b.lower b.upper
        · exact ⟨_, _, rfl, wraps_last⟩
        · obtain ⟨n, rfl, _⟩ := inScope_nat hi
          exact rfl
      · simp only [hm, ht]
        exact ⟨_, _, rfl, wraps_last⟩
  by_cases hH : field.contains '#' = true ∧ Cron.matchHash field = true
  · simp only [↓reduceIte, ext_containsRune, ext_reMatch, re_lastWeekday, re_hash, ext_split, ext_atoi, hsp,
      Bool.and_eq_true, hL, hH.1, hH.2, and_self]
    rcases sp with _ | ⟨a, _ | ⟨k, _ | ⟨y, r⟩⟩⟩
    · exact ⟨_, _, rfl, wraps_hash⟩
    · exact ⟨_, _, rfl, wraps_hash⟩
    · simp only [List.length_cons, List.length_nil, strIdx_zero, strIdx_one]
      rcases normalize_cases a Cron.dayNames with ⟨v, hm, ht⟩ | ⟨_, e, hm, ht, hw⟩
      · obtain ⟨o, ho⟩ : ∃ o, Cron.atoi k = o := ⟨_, rfl⟩
        cases o with
        | none =>
          -- the same error on both sides of the test of `v`
          simp only [hm, ht, ho, atoiPair, Option.isSome_some, Bool.true_or, if_true, ite_self]
          exact ⟨_, _, rfl, wraps_hash⟩
        | some n =>
          simp only [hm, ht, ho, atoiPair, _root_.TransCron.trans_inScope, bnd_lower, bnd_upper]
          cases hi : Cron.inScope v b.lower b.upper
          · exact ⟨_, _, rfl, wraps_hash⟩
          · rcases Bool.eq_false_or_eq_true (Cron.inScope n 1 5) with hn | hn
            · simp only [hn]
              obtain ⟨n, rfl, _⟩ := inScope_nat hi
              exact rfl
            · simp only [hn]
              exact ⟨_, _, rfl, wraps_hash⟩
      · simp only [hm, ht]
        exact ⟨_, _, rfl, wraps_hash⟩
    · exact ⟨_, _, rfl, wraps_hash⟩
  · simp only [↓reduceIte, ext_containsRune, ext_reMatch, re_lastWeekday, re_hash, Bool.and_eq_true, hL, hH]
    exact trans_parseField field b Cron.dayNames fuel hf
/-- a string literal is `String.ofList` of its characters: rewriting with `String.toList_ofList` spares the kernel
the decoding of the literal -/
theorem months_eq : months = Cron.monthNames := by
  simp only [Cron.monthNames, List.map]
  repeat rw [String.toList_ofList]
  rfl

theorem days_eq : days = Cron.dayNames := by
  simp only [Cron.dayNames, List.map]
  repeat rw [String.toList_ofList]
  rfl

/-- `buildFields` as a chain of binds, in the order `buildCronField` parses the fields -/
theorem model_buildFields (bs : Cron.Bounds) (t0 t1 t2 t3 t4 t5 t6 : Str) :
    Cron.buildFields bs [t0, t1, t2, t3, t4, t5, t6] =
      (Cron.parseField t0 bs.sec []).bind fun f0 =>
      (Cron.parseField t1 bs.min []).bind fun f1 =>
      (Cron.parseField t2 bs.hour []).bind fun f2 =>
      (Cron.parseDom t3 bs.dom).bind fun f3 =>
      (Cron.parseField t4 bs.month Cron.monthNames).bind fun f4 =>
      (Cron.parseDow t5 bs.dow).bind fun f5 =>
      (Cron.parseField t6 bs.year []).bind fun f6 =>
      some { sec := f0, min := f1, hour := f2, dom := f3, month := f4,
             dow := { f5 with values := f5.values.map (· - 1) }, year := f6 } := by
  unfold Cron.buildFields
  dsimp only
  generalize Cron.parseField t0 bs.sec [] = p0
  generalize Cron.parseField t1 bs.min [] = p1
  generalize Cron.parseField t2 bs.hour [] = p2
  generalize Cron.parseDom t3 bs.dom = p3
  generalize Cron.parseField t4 bs.month Cron.monthNames = p4
  generalize Cron.parseDow t5 bs.dow = p5
  generalize Cron.parseField t6 bs.year [] = p6
  -- the first `none` decides both sides
  rcases p0 with _ | f0
  · rfl
  rcases p1 with _ | f1
  · rfl
  rcases p2 with _ | f2
  · rfl
  rcases p3 with _ | f3
  · rfl
  rcases p4 with _ | f4
  · rfl
  rcases p5 with _ | f5
  · rfl
  cases p6 <;> rfl

/-- one `x, err = f(…); if err != nil { return c, err }` step -/
theorem Agrees.bind_step {α β γ δ : Type} {t : Option (α × Option String)} {m : Option β} {f : β → α}
    (h : Agrees t m f) (c : γ) (k : α × Option String → Option (γ × Option String)) {km : β → Option δ} {g : δ → γ}
    (hok : ∀ b, m = Option.some b → Agrees (k (f b, Option.none)) (km b) g) :
    Agrees (t.bind fun r => if r.2.isSome then Option.some (c, r.2) else k r) (m.bind km) g := by
  cases m with
  | none =>
    obtain ⟨a, e, he, hw⟩ := h.err
    rw [he]
    exact ⟨c, e, rfl, hw⟩
  | some b =>
    rw [h.ok rfl]
    exact hok b rfl

/-- the fuel every field parser needs: the largest upper bound (year) + 3 -/
def parseFuel : Nat := 3943

theorem trans_buildCronField (t0 t1 t2 t3 t4 t5 t6 : Str) (fuel : Nat) (hf : parseFuel ≤ fuel) :
    Agrees (buildCronField modelExt [t0, t1, t2, t3, t4, t5, t6] fuel)
      (Cron.buildFields {} [t0, t1, t2, t3, t4, t5, t6]) mkFields := by
  unfold parseFuel at hf
  rw [model_buildFields]
  unfold buildCronField
  rw [months_eq, days_eq]
  refine (trans_parseField t0 ⟨0, 59⟩ [] fuel (by simp; omega)).bind_step _ _ fun f0 _ => ?_
  refine (trans_parseField t1 ⟨0, 59⟩ [] fuel (by simp; omega)).bind_step _ _ fun f1 _ => ?_
  refine (trans_parseField t2 ⟨0, 23⟩ [] fuel (by simp; omega)).bind_step _ _ fun f2 _ => ?_
  refine (trans_parseDayOfMonthField t3 ⟨1, 31⟩ fuel (by simp; omega)).bind_step _ _ fun f3 _ => ?_
  refine (trans_parseField t4 ⟨1, 12⟩ Cron.monthNames fuel (by simp; omega)).bind_step _ _ fun f4 _ => ?_
  refine (trans_parseDayOfWeekField t5 ⟨1, 7⟩ fuel (by simp; omega)).bind_step _ _ fun f5 hf5 => ?_
  refine (trans_parseField t6 ⟨1970, 3940⟩ [] fuel (by simp; omega)).bind_step _ _ fun f6 _ => ?_
  have hshift := _root_.TransCron.trans_dowShift f5 (Cron.parseDow_pos hf5)
  show Option.some (_, Option.none) = Option.some (mkFields _, Option.none)
  simp [setAt, mkFields, List.replicate, Trans.idxD, hshift]

theorem special_eq : special = Cron.specialTable := by
  simp only [Cron.specialTable, List.map]
  repeat rw [String.toList_ofList]
  rfl

/-- a text the translated macro lookup does not find is not in the model's table either -/
theorem lookup_of_mapLookup {e : Str} (h : (mapLookup special e).2 = false) : Cron.specialTable.lookup e = none := by
  rw [special_eq] at h
  unfold mapLookup at h
  cases hl : List.lookup e Cron.specialTable with
  | none => rfl
  | some v => rw [hl] at h; cases h

theorem notAny (t : Str) : (decide (t ≠ ['?']) && decide (t ≠ ['*'])) = !Cron.anyDay t := by
  unfold Cron.anyDay
  by_cases h1 : t = ['?'] <;> by_cases h2 : t = ['*'] <;> simp [h1, h2]

/-- the part of `parseCronExpression` after the length checks -/
theorem tokens7_agree (l : List Str) (hl : l.length = 7) (fuel : Nat) (hf : parseFuel ≤ fuel) :
    Agrees
      (if ((decide (strIdx l 3 ≠ ['?'])) && (decide (strIdx l 3 ≠ ['*']))) &&
          ((decide (strIdx l 5 ≠ ['?'])) && (decide (strIdx l 5 ≠ ['*']))) then
        some (([] : List Trans.cronField), some "newCronParseError: day field set twice")
      else buildCronField modelExt l fuel)
      (if (!Cron.anyDay (l.getD 3 []) && !Cron.anyDay (l.getD 5 [])) = true then none else Cron.buildFields {} l)
      mkFields := by
  have e3 : strIdx l 3 = l.getD 3 [] := rfl
  have e5 : strIdx l 5 = l.getD 5 [] := rfl
  simp only [e3, e5, notAny]
  cases h : !Cron.anyDay (l.getD 3 []) && !Cron.anyDay (l.getD 5 [])
  · match l, hl with
    | [t0, t1, t2, t3, t4, t5, t6], _ => exact trans_buildCronField t0 t1 t2 t3 t4 t5 t6 fuel hf
  · exact ⟨_, _, rfl, wraps_twice⟩

theorem trans_parseCronExpression (expr : Str) (fuel : Nat) (hf : parseFuel ≤ fuel) :
    Agrees (parseCronExpression modelExt expr fuel) (Cron.parseExpr {} expr) mkFields := by
  rw [Cron.parseExpr_eq]
  unfold parseCronExpression Cron.parseTokens
  rw [special_eq]
  have htok : (if (mapLookup Cron.specialTable expr).2 = true then modelExt.split (mapLookup Cron.specialTable expr).1 [' ']
      else modelExt.split expr [' ']) = Cron.tokensOf expr := by
    unfold mapLookup Cron.tokensOf
    cases List.lookup expr Cron.specialTable <;> rfl
  simp only [htok]
  generalize Cron.tokensOf expr = toks
  -- the length tests, on `Nat` as in the model
  have c1 : decide ((toks.length : Int) < 6) = decide (toks.length < 6) := decide_eq_decide.2 (by omega)
  have c2 : decide ((toks.length : Int) > 7) = decide (toks.length > 7) := decide_eq_decide.2 (by omega)
  have c3 : decide ((toks.length : Int) = 6) = decide (toks.length = 6) := decide_eq_decide.2 (by omega)
  simp only [c1, c2, c3, ← Bool.decide_or]
  by_cases hlen : toks.length < 6 ∨ toks.length > 7
  · simp only [hlen, decide_true, if_true]
    exact ⟨_, _, rfl, wraps_length⟩
  · simp only [hlen, decide_false, Bool.false_eq_true, if_false]
    by_cases h6 : toks.length = 6
    · simp only [h6, decide_true, if_true]
      exact tokens7_agree _ (by simp [h6]) fuel hf
    · simp only [h6, decide_false, Bool.false_eq_true, if_false]
      exact tokens7_agree _ (by omega) fuel hf

theorem trans_trimCronExpression (s : Str) : trimCronExpression modelExt s = Cron.trimExpr s := by
  unfold trimCronExpression Cron.trimExpr
  simp only [ext_trimSpace, ext_reReplaceAll, re_whitespace]

theorem trans_ValidateCronExpression (s : Str) (fuel : Nat) (hf : parseFuel ≤ fuel) :
    match Cron.parse {} s with
    | some _ => ValidateCronExpression modelExt s fuel = some none
    | none => ∃ e, ValidateCronExpression modelExt s fuel = some (some e) ∧ WrapsParse e := by
  unfold ValidateCronExpression Cron.parse
  rw [trans_trimCronExpression]
  rcases (trans_parseCronExpression (Cron.trimExpr s) fuel hf).cases with ⟨f, hm, ht⟩ | ⟨a, e, hm, ht, hw⟩
  · rw [ht, hm]
    rfl
  · rw [ht, hm]
    exact ⟨e, rfl, hw⟩

theorem lastDefined_loop : ∀ (l : List Trans.cronField) (i ld : Int), 0 ≤ i →
    (NewCronTriggerWithLoc.loop1 modelExt i ld l = -1 ↔ ld = -1 ∧ ∀ f ∈ l, f.values = []) := by
  intro l
  induction l with
  | nil => intro i ld _; simp [NewCronTriggerWithLoc.loop1]
  | cons h t ih =>
    intro i ld hi
    unfold NewCronTriggerWithLoc.loop1
    simp only
    rw [ih _ _ (by omega)]
    by_cases hv : h.values = []
    · simp [hv]
    · have : (h.values.length : Int) > 0 := by
        have : h.values.length ≠ 0 := by simpa using hv
        omega
      simp only [this, decide_true, if_true, List.mem_cons, forall_eq_or_imp, hv, false_and, and_false, iff_false,
        not_and]
      intro h1; omega

/-- `lastDefined` as `NewCronTriggerWithLoc` computes it from the parsed fields (before the full-wildcard adjustment) -/
def lastDefinedOf (g : Cron.Fields) : Int := NewCronTriggerWithLoc.loop1 modelExt 0 (-1) (mkFields g)

theorem lastDefinedOf_eq (g : Cron.Fields) : lastDefinedOf g = -1 ↔ Cron.allAny g = true := by
  unfold lastDefinedOf
  rw [lastDefined_loop _ _ _ (by omega)]
  simp [mkFields, mkField, TransA.ints_eq_nil, Cron.allAny, and_assoc]

theorem fillRange_0_59 (fuel : Nat) (hf : parseFuel ≤ fuel) :
    TransCron.fillRangeValues 0 59 fuel = some (ints (List.range 60), none) := by
  unfold parseFuel at hf
  have := _root_.TransCron.trans_fillRangeValues 0 59 fuel (by omega)
  have e : Cron.fillRange 0 59 = some (List.range 60) := by decide +kernel
  rw [e] at this
  exact this

theorem mkFields_finish (g : Cron.Fields) (h : Cron.allAny g = true) :
    setAt (mkFields g) 0 { (Trans.idxD (mkFields g) 0) with values := ints (List.range 60) } = mkFields (Cron.finish g) := by
  simp [Cron.finish, h, mkFields, mkField, setAt, Trans.idxD]

theorem finish_of_not (g : Cron.Fields) (h : ¬ Cron.allAny g = true) : Cron.finish g = g := by
  simp [Cron.finish, h]

theorem trans_NewCronTriggerWithLoc (s : Str) (fuel : Nat) (hf : parseFuel ≤ fuel) :
    Agrees (NewCronTriggerWithLoc modelExt s false fuel) (Cron.parse {} s)
      (fun g => TransCron.mkTrigger (String.ofList (Cron.trimExpr s)) (Cron.finish g) (lastDefinedOf g)) := by
  unfold NewCronTriggerWithLoc Cron.parse
  simp only [Bool.false_eq_true, if_false]
  rw [trans_trimCronExpression]
  rcases (trans_parseCronExpression (Cron.trimExpr s) fuel hf).cases with ⟨g, hm, ht⟩ | ⟨a, e, hm, ht, hw⟩
  · rw [ht, hm]
    simp only [Option.bind_some, Option.isSome_none, Bool.false_eq_true, if_false]
    show Agrees (if decide (lastDefinedOf g = -1) = true then _ else _) _ _
    by_cases ha : Cron.allAny g = true
    · have hl : lastDefinedOf g = -1 := (lastDefinedOf_eq g).2 ha
      simp only [hl, decide_true, if_true, fillRange_0_59 fuel hf, Option.bind_some, mkFields_finish g ha]
      rfl
    · have hl : ¬ lastDefinedOf g = -1 := fun h => ha ((lastDefinedOf_eq g).1 h)
      simp only [hl, decide_false, Bool.false_eq_true, if_false]
      unfold Agrees
      simp only [finish_of_not g ha]
      rfl
  · rw [ht, hm]
    exact ⟨_, _, rfl, hw⟩

theorem trans_NewCronTrigger (s : Str) (fuel : Nat) (hf : parseFuel ≤ fuel) :
    Agrees (NewCronTrigger modelExt s fuel) (Cron.parse {} s)
      (fun g => TransCron.mkTrigger (String.ofList (Cron.trimExpr s)) (Cron.finish g) (lastDefinedOf g)) :=
  trans_NewCronTriggerWithLoc s fuel hf

end TransParse
