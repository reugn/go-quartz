import QuartzModel.Proofs.CronAssembly
/-!
# `nextFire` on an arbitrary location (helpers for `Theorems/C14.lean`), and on a fixed-offset one

The location is an abstract `Zone`: nothing is assumed about `z.date`, and nothing relates
`z.offsetAt` at different instants. The retry loop `zoneLoop` is analysed with

* an inductive invariant (`ZoneInv`): the cursor is at or above the reading of `prev`, and every
  matching reading at or below the cursor (and above the reading of `prev`) was rejected, i.e. neither
  of the two instants the code can name for it (`time.Date(reading)` and `reading − offset at prev`)
  shows the reading and lies after `prev`;
* a measure argument (`zoneLoop_fuel`): every iteration strictly raises the cursor in `Civil.lexLt`,
  the cursors are valid civil times with year ≤ 3940, so the mixed-radix measure `μ6` bounds the number
  of iterations by `csmFuel`.
-/
namespace Cron
open Cal Odo

theorem fires_iff (z : Zone) (next wall prevSec : Int) :
    fires z next wall prevSec = true ↔ (next + z.offsetAt next = wall ∧ prevSec < next) := by
  unfold fires
  simp only [Bool.and_eq_true, decide_eq_true_eq]

theorem zoneLoop_succ (lim : Limits) (f : Fields) (z : Zone) (prevSec prevOff : Int) (fuel : Nat)
    (wall : Civil) :
    zoneLoop lim f z prevSec prevOff (fuel+1) wall =
      match csmNext lim f wall with
      | none => .outOfFuel
      | some none => .expired
      | some (some nw) =>
        let w := nw.toSeconds
        let n1 := z.date w
        let next := if fires z n1 w prevSec then n1 else w - prevOff
        if fires z next w prevSec then .ok (next * 1000000000)
        else zoneLoop lim f z prevSec prevOff fuel nw := by
  rw [zoneLoop]; rfl   -- `rfl` alone sends the unifier through `csmNext`

/-- `nextFire` as one call of the loop, with floor division -/
theorem nextFire_eq (f : Fields) (z : Zone) (prev : Int) :
    nextFire {} f z prev =
      zoneLoop {} f z (prev / 1000000000) (z.offsetAt (prev / 1000000000)) csmFuel
        (Civil.ofSeconds (prev / 1000000000 + z.offsetAt (prev / 1000000000))) := rfl

theorem wall0_valid (c prev : Int) (hc : -100000 ≤ c ∧ c ≤ 100000) (hp : -9223372036854775808 ≤ prev) :
    (Civil.ofSeconds (prev / 1000000000 + c)).Valid ∧
      (Civil.ofSeconds (prev / 1000000000 + c)).toSeconds = prev / 1000000000 + c := by
  apply Civil.toSeconds_ofSeconds
  show -((719529 : Nat) : Int) * 86400 + 86400 ≤ _
  omega

/-- neither of the two instants the code can name for the reading `w` shows `w` and lies after prev -/
def ZoneRejected (z : Zone) (prevSec prevOff w : Int) : Prop :=
  ¬ (z.date w + z.offsetAt (z.date w) = w ∧ prevSec < z.date w) ∧
  ¬ ((w - prevOff) + z.offsetAt (w - prevOff) = w ∧ prevSec < w - prevOff)

/-- the invariant of the `for` loop at cursor `wall` (search started from `wall0`) -/
structure ZoneInv (f : Fields) (z : Zone) (prevSec prevOff : Int) (wall0 wall : Civil) : Prop where
  ge : wall0 = wall ∨ Civil.lexLt wall0 wall
  rej : ∀ L, Matches f L → Civil.lexLt wall0 L → ¬ Civil.lexLt wall L →
    ZoneRejected z prevSec prevOff L.toSeconds

theorem zoneInv_init (f : Fields) (z : Zone) (prevSec prevOff : Int) (wall0 : Civil) :
    ZoneInv f z prevSec prevOff wall0 wall0 :=
  ⟨Or.inl rfl, fun _ _ h1 h2 => absurd h1 h2⟩

/-- what an accepted result is -/
def ZoneOk (f : Fields) (z : Zone) (prevSec prevOff : Int) (wall0 : Civil) (r : Int) : Prop :=
  ∃ (nw : Civil) (next : Int),
    Matches f nw ∧ Civil.lexLt wall0 nw ∧
    (next = z.date nw.toSeconds ∨ next = nw.toSeconds - prevOff) ∧
    next + z.offsetAt next = nw.toSeconds ∧ prevSec < next ∧ r = next * 1000000000 ∧
    ∀ L, Matches f L → Civil.lexLt wall0 L → Civil.lexLt L nw → ZoneRejected z prevSec prevOff L.toSeconds

/-- the instant the code tries for the reading `w`: one of the two candidates; if it does not fire, neither does -/
theorem fires_next (z : Zone) (prevSec prevOff w next : Int)
    (hnext : next = if fires z (z.date w) w prevSec = true then z.date w else w - prevOff) :
    (next = z.date w ∨ next = w - prevOff) ∧
      (¬ fires z next w prevSec = true → ZoneRejected z prevSec prevOff w) := by
  subst hnext
  split
  · next hf1 => exact ⟨Or.inl rfl, fun h => absurd hf1 h⟩
  · next hf1 =>
    exact ⟨Or.inr rfl, fun h => ⟨fun g => hf1 ((fires_iff _ _ _ _).mpr g), fun g => h ((fires_iff _ _ _ _).mpr g)⟩⟩

/-- partial correctness of the loop, for any fuel and any cursor satisfying the invariant -/
theorem zoneLoop_spec (f : Fields) (hwf : WellFormed f = true) (z : Zone) (prevSec prevOff : Int)
    (wall0 : Civil) :
    ∀ (fuel : Nat) (wall : Civil), ZoneInv f z prevSec prevOff wall0 wall →
      (∀ r, zoneLoop {} f z prevSec prevOff fuel wall = .ok r → ZoneOk f z prevSec prevOff wall0 r) ∧
      (zoneLoop {} f z prevSec prevOff fuel wall = .expired →
        ∀ L, Matches f L → Civil.lexLt wall0 L → ZoneRejected z prevSec prevOff L.toSeconds) := by
  intro fuel
  induction fuel with
  | zero =>
    intro wall _
    exact ⟨fun r h => (by cases h), fun h => (by cases h)⟩
  | succ fuel ih =>
    intro wall hinv
    rw [zoneLoop_succ]
    cases hc : csmNext {} f wall with
    | none => exact ⟨fun r h => (by cases h), fun h => (by cases h)⟩
    | some o =>
      cases o with
      | none =>
        exact ⟨fun r h => (by cases h), fun _ L hL h1 =>
          hinv.rej L hL h1 fun h => csmNext_spec_none f hwf wall hc ⟨L, hL, h⟩⟩
      | some nw =>
        obtain ⟨hm, hlt, hleast⟩ := csmNext_spec_some f hwf wall nw hc
        have hge : Civil.lexLt wall0 nw :=
          hinv.ge.elim (fun h => h ▸ hlt) (fun h => Civil.lexLt_trans _ _ _ h hlt)
        have hrej : ∀ L, Matches f L → Civil.lexLt wall0 L → Civil.lexLt L nw →
            ZoneRejected z prevSec prevOff L.toSeconds :=
          fun L hL h1 h2 => hinv.rej L hL h1 fun h => hleast L hL h h2
        simp only
        generalize hnext : (if fires z (z.date nw.toSeconds) nw.toSeconds prevSec = true
          then z.date nw.toSeconds else nw.toSeconds - prevOff) = next
        obtain ⟨hcand, hrejnw⟩ := fires_next z prevSec prevOff nw.toSeconds next hnext.symm
        split
        · next hf =>
          refine ⟨fun r h => ?_, (fun h => by cases h)⟩
          obtain ⟨e1, e2⟩ := (fires_iff _ _ _ _).mp hf
          exact ⟨nw, next, hm, hge, hcand, e1, e2, (Outcome.ok.inj h).symm, hrej⟩
        · next hf =>
          refine ih nw ⟨Or.inr hge, fun L hL h1 h2 => ?_⟩
          rcases Civil.lexLt_trichotomy L nw with h | rfl | h
          · exact hrej L hL h1 h
          · exact hrejnw hf
          · exact absurd h h2

/-- the loop does not run out of fuel: the measure of the cursor strictly increases -/
theorem zoneLoop_fuel (f : Fields) (hwf : WellFormed f = true) (z : Zone) (prevSec prevOff : Int) :
    ∀ (fuel : Nat) (wall : Civil), wall.Valid → wall.year ≤ 3940 →
      (((((3940 * 13 + 12) * 32 + 31) * 24 + 23) * 60 + 59) * 60 + 59) - μ6 (cfgOfCivil wall) < fuel →
      zoneLoop {} f z prevSec prevOff fuel wall ≠ .outOfFuel := by
  intro fuel
  induction fuel with
  | zero => intro wall _ _ h; omega
  | succ fuel ih =>
    intro wall hv hy hf
    rw [zoneLoop_succ]
    cases hc : csmNext {} f wall with
    | none => exact absurd hc (csmNext_ne_none f hwf wall hv)
    | some o =>
      cases o with
      | none => exact fun h => by cases h
      | some nw =>
        obtain ⟨hm, hlt, _⟩ := csmNext_spec_some f hwf wall nw hc
        have hv' := matches_valid f nw hm
        have hy' : nw.year ≤ 3940 := Nat.le_trans (matches_year_le f nw hm) (by decide)
        have hb := inBox_cfgOfCivil wall hv hy
        have hb' := inBox_cfgOfCivil nw hv' hy'
        have h1 := μ6_measure.mono _ _ hb hb' ((lt_cfg_iff wall (cfgOfCivil nw)).mpr hlt)
        have h2 := μ6_measure.le _ hb'
        simp only
        generalize (if fires z (z.date nw.toSeconds) nw.toSeconds prevSec = true
          then z.date nw.toSeconds else nw.toSeconds - prevOff) = next
        split
        · exact fun h => by cases h
        · exact ih nw hv' hy' (by omega)

/-- a start beyond the year range: exhausted at once -/
theorem csmNext_year_big (f : Fields) (wall : Civil) (h : 2261 < wall.year) :
    csmNext {} f wall = some none :=
  (csmNext_eq_expired_iff {} f wall).mpr (findForward_year_big f csmFuel wall h)

theorem nextFire_zone_ne_outOfFuel (f : Fields) (hwf : WellFormed f = true) (z : Zone) (prev : Int)
    (hp : -9223372036854775808 ≤ prev) (hz : ∀ u, -100000 ≤ z.offsetAt u ∧ z.offsetAt u ≤ 100000) :
    nextFire {} f z prev ≠ .outOfFuel := by
  rw [nextFire_eq f z prev, csmFuel_eq]
  obtain ⟨hwv, _⟩ := wall0_valid (z.offsetAt (prev / 1000000000)) prev (hz _) hp
  by_cases hy : (Civil.ofSeconds (prev / 1000000000 + z.offsetAt (prev / 1000000000))).year ≤ 3940
  · exact zoneLoop_fuel f hwf z _ _ _ _ hwv hy (by omega)
  · rw [zoneLoop_succ, csmNext_year_big f _ (by omega)]
    exact fun h => by cases h

theorem nextFire_ok_spec (f : Fields) (hwf : WellFormed f = true) (z : Zone) (prev : Int)
    (r : Int) (h : nextFire {} f z prev = .ok r) :
    ZoneOk f z (prev / 1000000000) (z.offsetAt (prev / 1000000000))
      (Civil.ofSeconds (prev / 1000000000 + z.offsetAt (prev / 1000000000))) r := by
  rw [nextFire_eq f z prev] at h
  exact (zoneLoop_spec f hwf z _ _ _ _ _ (zoneInv_init f z _ _ _)).1 r h

theorem nextFire_expired_spec (f : Fields) (hwf : WellFormed f = true) (z : Zone) (prev : Int)
    (h : nextFire {} f z prev = .expired) :
    ∀ L, Matches f L →
      Civil.lexLt (Civil.ofSeconds (prev / 1000000000 + z.offsetAt (prev / 1000000000))) L →
      ZoneRejected z (prev / 1000000000) (z.offsetAt (prev / 1000000000)) L.toSeconds := by
  rw [nextFire_eq f z prev] at h
  exact (zoneLoop_spec f hwf z _ _ _ _ _ (zoneInv_init f z _ _ _)).2 h

/-- the first candidate is accepted when `time.Date` and the offset at the candidate agree with the
offset in force at prev -/
theorem nextFire_first_accepted (f : Fields) (hwf : WellFormed f = true) (z : Zone) (prev : Int)
    (hp : -9223372036854775808 ≤ prev) (hz : ∀ u, -100000 ≤ z.offsetAt u ∧ z.offsetAt u ≤ 100000) (t : Civil)
    (ht : csmNext {} f
      (Civil.ofSeconds (prev / 1000000000 + z.offsetAt (prev / 1000000000))) = some (some t))
    (hd : z.date t.toSeconds = t.toSeconds - z.offsetAt (prev / 1000000000))
    (ho : z.offsetAt (t.toSeconds - z.offsetAt (prev / 1000000000)) =
      z.offsetAt (prev / 1000000000)) :
    nextFire {} f z prev = .ok ((t.toSeconds - z.offsetAt (prev / 1000000000)) * 1000000000) := by
  rw [nextFire_eq f z prev, csmFuel_eq, zoneLoop_succ, ht]
  obtain ⟨hwv, hws⟩ := wall0_valid (z.offsetAt (prev / 1000000000)) prev (hz _) hp
  obtain ⟨hm, hlt, _⟩ := csmNext_spec_some f hwf _ t ht
  have hsec := (Civil.toSeconds_lt_iff _ t hwv (matches_valid f t hm)).mpr hlt
  have hf : fires z (t.toSeconds - z.offsetAt (prev / 1000000000)) t.toSeconds (prev / 1000000000)
      = true := by
    rw [fires_iff, ho]
    omega
  simp only [hd, hf, if_true]

theorem nextFire_first_expired (f : Fields) (z : Zone) (prev : Int)
    (h : csmNext {} f (Civil.ofSeconds (prev / 1000000000 + z.offsetAt (prev / 1000000000))) = some none) :
    nextFire {} f z prev = .expired := by
  rw [nextFire_eq, csmFuel_eq, zoneLoop_succ, h]

/-- `nextFire` on a fixed-offset location is one call of the state machine -/
theorem nextFire_fixed (f : Fields) (hwf : WellFormed f = true) (c prev : Int)
    (hc : -100000 ≤ c ∧ c ≤ 100000) (hp : -9223372036854775808 ≤ prev) :
    ∃ nw, csmNext {} f (Civil.ofSeconds (prev / 1000000000 + c)) = some nw ∧
      nextFire {} f (fixedZone c) prev =
        (match nw with
         | none => .expired
         | some t => .ok ((t.toSeconds - c) * 1000000000)) := by
  cases h : csmNext {} f (Civil.ofSeconds (prev / 1000000000 + c)) with
  | none => exact absurd h (csmNext_ne_none f hwf _ (wall0_valid c prev hc hp).1)
  | some nw =>
    refine ⟨nw, rfl, ?_⟩
    cases nw with
    | none => exact nextFire_first_expired f (fixedZone c) prev h
    | some t => exact nextFire_first_accepted f hwf (fixedZone c) prev hp (fun _ => hc) t h rfl rfl

/-- an `.ok` result is the instant of the civil time found by the state machine -/
theorem nextFire_fixed_ok (f : Fields) (hwf : WellFormed f = true) (c prev : Int)
    (hc : -100000 ≤ c ∧ c ≤ 100000) (hp : -9223372036854775808 ≤ prev) (r : Int)
    (h : nextFire {} f (fixedZone c) prev = .ok r) :
    ∃ t, csmNext {} f (Civil.ofSeconds (prev / 1000000000 + c)) = some (some t) ∧
      r = (t.toSeconds - c) * 1000000000 := by
  obtain ⟨nw, hnw, hnf⟩ := nextFire_fixed f hwf c prev hc hp
  rw [hnf] at h
  cases nw with
  | none => cases h
  | some t => exact ⟨t, hnw, (Outcome.ok.inj h).symm⟩

theorem nextFire_fixed_expired (f : Fields) (hwf : WellFormed f = true) (c prev : Int)
    (hc : -100000 ≤ c ∧ c ≤ 100000) (hp : -9223372036854775808 ≤ prev)
    (h : nextFire {} f (fixedZone c) prev = .expired) :
    csmNext {} f (Civil.ofSeconds (prev / 1000000000 + c)) = some none := by
  obtain ⟨nw, hnw, hnf⟩ := nextFire_fixed f hwf c prev hc hp
  rw [hnf] at h
  cases nw with
  | none => exact hnw
  | some t => cases h

end Cron
