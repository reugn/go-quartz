import QuartzModel.Cron.NextFire
import QuartzModel.Cron.Spec
import QuartzModel.Proofs.Odometer
import QuartzModel.Proofs.CalendarLemmas
import QuartzModel.Proofs.CommonNode
import QuartzModel.Proofs.DayContract
import QuartzModel.Proofs.DaySpec
/-!
# Assembly: from the component contracts to `csmNext`

The six levels built from well-formed fields meet the odometer contract and the digit bounds (`levels_ok`,
`levels_bound`); "every level valid" is the declarative `Matches` and the odometer order on six levels is
`Civil.lexLt`, so one call of the state machine returns the least matching civil time strictly after the
start, or reports exhaustion iff there is none (`csmNext_spec_some`, `csmNext_spec_none`); the fuel constant
suffices for every valid civil start, also beyond the year range of the node (`csmNext_ne_none`).
-/
namespace Odo

variable (L : Nat → Lvl) (D : ∀ k, LvlDec (L k))

/-- if the most significant digit is invalid and cannot be advanced, the first pass exhausts -/
theorem findForward_top_overflow (m fuel : Nat) (c : Cfg) (hinv : (D m).isValid c (c m) = false)
    (hov : ((L m).next c (c m)).2 = true) :
    ∃ c', findForward L D (m+1) fuel c = some (c', true) := by
  refine ⟨resetFrom L m (set c m ((L m).next c (c m)).1), ?_⟩
  have hadv : advFrom L D (m+1) (m+1) c =
      some (resetFrom L m (set c m ((L m).next c (c m)).1), true) := by
    rw [advFrom_succ, hinv, hov]
    simp only [Bool.false_eq_true, if_false, if_true]
    unfold overflowFrom
    simp
  rw [findForward_eq, firstPass, hadv]
  rfl

end Odo

namespace Cron
open Cal Odo

theorem levels_ok (f : Fields) (hwf : WellFormed f = true) : ∀ k, LvlOK 6 k (levels {} f k) := by
  have w := wfParts f hwf
  intro k
  match k with
  | 0 => exact commonLvl_ok 6 0 0 59 f.sec.values w.secS w.secA (Or.inl (by omega))
  | 1 => exact commonLvl_ok 6 1 0 59 f.min.values w.minS w.minA (Or.inl (by omega))
  | 2 => exact commonLvl_ok 6 2 0 23 f.hour.values w.hourS w.hourA (Or.inl (by omega))
  | 3 => exact dayLvl_ok f hwf
  | 4 => exact commonLvl_ok 6 4 1 12 f.month.values w.monthS w.monthA (Or.inl (by omega))
  | 5 =>
    exact commonLvl_ok_lower 6 5 0 2261 f.year.values w.yearS (fun _ _ => Nat.zero_le _)
      (Or.inl (by omega))
  | k+6 => exact commonLvl_ok_lower 6 (k+6) 0 0 [] rfl (fun _ _ => Nat.zero_le _) (Or.inl (by omega))

theorem levels_bound (f : Fields) (hwf : WellFormed f = true) : ∀ k, LvlBound B6 k (levels {} f k) := by
  have w := wfParts f hwf
  intro k
  match k with
  | 0 => exact commonLvl_bound B6 0 0 59 f.sec.values w.secA (by omega) (Nat.le_refl _)
  | 1 => exact commonLvl_bound B6 1 0 59 f.min.values w.minA (by omega) (Nat.le_refl _)
  | 2 => exact commonLvl_bound B6 2 0 23 f.hour.values w.hourA (by omega) (Nat.le_refl _)
  | 3 => exact dayLvl_bound f hwf B6 (Nat.le_refl _)
  | 4 => exact commonLvl_bound B6 4 1 12 f.month.values w.monthA (by omega) (Nat.le_refl _)
  | 5 =>
    exact commonLvl_bound_values B6 5 0 2261 f.year.values
      (fun x hx => ((allIn_iff 1970 3940 f.year.values).mp w.yearA x hx).2) (by omega)
      (by show 2261 ≤ 3940; omega)
  | k+6 =>
    exact commonLvl_bound_values B6 (k+6) 0 0 [] (fun x hx => by cases hx) (Nat.le_refl _)
      (Nat.zero_le _)

theorem allValid_iff_matches (f : Fields) (hwf : WellFormed f = true) (c : Cfg) :
    AllValid (levels {} f) 6 c ↔ Matches f (civilOfCfg c) := by
  have h6 : AllValid (levels {} f) 6 c ↔
      commonValid 0 59 f.sec.values (c 0) = true ∧ commonValid 0 59 f.min.values (c 1) = true ∧
      commonValid 0 23 f.hour.values (c 2) = true ∧ dayValid (dayCfg {} f) (c 5) (c 4) (c 3) = true ∧
      commonValid 1 12 f.month.values (c 4) = true ∧ commonValid 0 2261 f.year.values (c 5) = true :=
    forall_lt_six (P := fun k => (levels {} f k).valid c (c k))
  rw [h6, dayValid_iff f hwf]
  simp only [commonValid_iff]
  constructor
  · rintro ⟨⟨-, s2, s1⟩, ⟨-, m2, m1⟩, ⟨-, h2, h1⟩, hd, ⟨mo2, mo3, mo1⟩, -, y2, y1⟩
    exact ⟨s1, s2, m1, m2, h1, h2, mo1, mo2, mo3, y1, y2, hd⟩
  · rintro ⟨s1, s2, m1, m2, h1, h2, mo1, mo2, mo3, y1, y2, hd⟩
    exact ⟨⟨Nat.zero_le _, s2, s1⟩, ⟨Nat.zero_le _, m2, m1⟩, ⟨Nat.zero_le _, h2, h1⟩, hd, ⟨mo2, mo3, mo1⟩,
      Nat.zero_le _, y2, y1⟩

theorem matches_valid (f : Fields) (t : Civil) (h : Matches f t) : t.Valid := by
  obtain ⟨_, s2, _, m2, _, h2, _, mo2, mo3, _, _, hd⟩ := h
  exact ⟨⟨mo2, mo3, hd.1, hd.2.1⟩, h2, m2, s2⟩

theorem matches_year_le (f : Fields) (t : Civil) (h : Matches f t) : t.year ≤ 2261 := by
  obtain ⟨_, _, _, _, _, _, _, _, _, _, y2, _⟩ := h
  exact y2

theorem civilOfCfg_cfgOfCivil (t : Civil) : civilOfCfg (cfgOfCivil t) = t := rfl

theorem lt_cfg_iff (a : Civil) (r : Cfg) : Lt 6 (cfgOfCivil a) r ↔ Civil.lexLt a (civilOfCfg r) := by
  rw [Lt6_iff]; exact Iff.rfl

theorem csmFuel_eq :
    csmFuel = (((((3940 * 13 + 12) * 32 + 31) * 24 + 23) * 60 + 59) * 60 + 59) + 1 := rfl

theorem commonNext_ovf_of_gt (min max : Nat) (values : List Nat) (v : Nat) (h : max < v) :
    (commonNext min max values v).2 = true := by
  unfold commonNext nextInRange
  split
  · have hnone : values.find? (fun x => decide (v < x) && decide (x ≤ max)) = none := by
      rw [List.find?_eq_none]
      intro x _
      simp only [Bool.and_eq_true, decide_eq_true_eq]
      omega
    rw [hnone]
  · rw [if_pos (by omega)]

/-- a start beyond the last year of the year node: the first pass reports exhaustion at once -/
theorem findForward_year_big (f : Fields) (fuel : Nat) (wall : Civil) (h : 2261 < wall.year) :
    ∃ c', findForward (levels {} f) (levelsDec {} f) 6 fuel (cfgOfCivil wall) = some (c', true) := by
  have hinv : (levelsDec {} f 5).isValid (cfgOfCivil wall) (cfgOfCivil wall 5) = false :=
    Bool.eq_false_iff.mpr fun hv => by have := commonValid_le 0 2261 f.year.values wall.year hv; omega
  have hov : ((levels {} f 5).next (cfgOfCivil wall) (cfgOfCivil wall 5)).2 = true :=
    commonNext_ovf_of_gt 0 2261 f.year.values wall.year h
  exact findForward_top_overflow (levels {} f) (levelsDec {} f) 5 fuel (cfgOfCivil wall) hinv hov

theorem inBox_cfgOfCivil (wall : Civil) (hv : wall.Valid) (hy : wall.year ≤ 3940) :
    InBox B6 6 (cfgOfCivil wall) := by
  obtain ⟨⟨_, hm, _, hd⟩, hh, hmi, hs⟩ := hv
  have hdim := (Cal.dim_bounds wall.year wall.month).2
  exact (InBox6_iff _).mpr ⟨hs, hmi, hh, Nat.le_trans hd hdim, hm, hy⟩

theorem findForward_ne_none (f : Fields) (hwf : WellFormed f = true) (wall : Civil) (hv : wall.Valid) :
    findForward (levels {} f) (levelsDec {} f) 6 csmFuel (cfgOfCivil wall) ≠ none := by
  by_cases hy : wall.year ≤ 3940
  · exact findForward_fuel (levels {} f) (levelsDec {} f) B6 6 (levels_ok f hwf) (levels_bound f hwf)
      μ6 _ μ6_measure (cfgOfCivil wall) csmFuel (inBox_cfgOfCivil wall hv hy)
      (by rw [csmFuel_eq]; omega)
  · obtain ⟨c', h⟩ := findForward_year_big f csmFuel wall (by omega)
    rw [h]; simp

theorem csmNext_eq_none_iff (lim : Limits) (f : Fields) (wall : Civil) :
    csmNext lim f wall = none ↔
      findForward (levels lim f) (levelsDec lim f) 6 csmFuel (cfgOfCivil wall) = none := by
  unfold csmNext; split <;> simp [*]

theorem csmNext_eq_expired_iff (lim : Limits) (f : Fields) (wall : Civil) :
    csmNext lim f wall = some none ↔
      ∃ c, findForward (levels lim f) (levelsDec lim f) 6 csmFuel (cfgOfCivil wall) = some (c, true) := by
  unfold csmNext; split <;> simp [*]

theorem csmNext_eq_some_iff (lim : Limits) (f : Fields) (wall t : Civil) :
    csmNext lim f wall = some (some t) ↔
      ∃ c, findForward (levels lim f) (levelsDec lim f) 6 csmFuel (cfgOfCivil wall) = some (c, false) ∧
        civilOfCfg c = t := by
  unfold csmNext; split <;> simp [*]

theorem csmNext_ne_none (f : Fields) (hwf : WellFormed f = true) (wall : Civil) (hv : wall.Valid) :
    csmNext {} f wall ≠ none :=
  fun h => findForward_ne_none f hwf wall hv ((csmNext_eq_none_iff {} f wall).mp h)

theorem csmNext_spec_some (f : Fields) (hwf : WellFormed f = true) (wall t : Civil)
    (h : csmNext {} f wall = some (some t)) :
    Matches f t ∧ Civil.lexLt wall t ∧
      ∀ u, Matches f u → Civil.lexLt wall u → ¬ Civil.lexLt u t := by
  obtain ⟨c, hff, rfl⟩ := (csmNext_eq_some_iff {} f wall t).mp h
  obtain ⟨hav, hlt, hleast⟩ :=
    (findForward_spec (levels {} f) (levelsDec {} f) 6 csmFuel (levels_ok f hwf) (cfgOfCivil wall)).1 c hff
  refine ⟨(allValid_iff_matches f hwf c).mp hav, (lt_cfg_iff wall c).mp hlt, fun u hu hwu hut => ?_⟩
  -- `c ≤ u` by minimality and `u < c` by assumption, as configurations
  have hvu : AllValid (levels {} f) 6 (cfgOfCivil u) := (allValid_iff_matches f hwf (cfgOfCivil u)).mpr hu
  have hcu : Le 6 c (cfgOfCivil u) := hleast _ hvu ((lt_cfg_iff wall (cfgOfCivil u)).mpr hwu)
  have huc : Lt 6 (cfgOfCivil u) c := (lt_cfg_iff u c).mpr hut
  exact Lt_irrefl 6 c (Lt_of_Le_of_Lt 6 _ _ _ hcu huc)

theorem csmNext_spec_none (f : Fields) (hwf : WellFormed f = true) (wall : Civil)
    (h : csmNext {} f wall = some none) : ¬ ∃ u, Matches f u ∧ Civil.lexLt wall u := by
  obtain ⟨c, hff⟩ := (csmNext_eq_expired_iff {} f wall).mp h
  rintro ⟨u, hu, hwu⟩
  exact (findForward_spec (levels {} f) (levelsDec {} f) 6 csmFuel (levels_ok f hwf) (cfgOfCivil wall)).2 c hff
    (cfgOfCivil u) ((allValid_iff_matches f hwf (cfgOfCivil u)).mpr hu) ((lt_cfg_iff wall (cfgOfCivil u)).mpr hwu)

end Cron
