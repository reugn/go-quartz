import QuartzModel.Theorems.TransMachine
import QuartzModel.Theorems.C01
import QuartzModel.Theorems.C02
import QuartzModel.Theorems.C06
/-!
# Transfer of C01 / C02 / C06 to the translated state machine

`nextFireT` is the model of `CronTrigger.NextFireTime` (`quartz/cron.go`, hand-written as `Cron.nextFire`) in which
every call `newCSMFromFields(wall, ct.fields).NextTriggerTime(time.UTC)` runs the TRANSLATED Go code
(`TransCsm.transCsmNext T`) instead of the hand-written `Cron.csmNext`.  Given that the two agree on valid
wall clocks (`Agree`, which `Theorems/TransFinal.lean` proves for `T := goTime`), `nextFireT = nextFire`
on fixed-offset locations and the property theorems carry over verbatim.
-/
namespace TransCsm
open Generated.Trans Cron Cal Odo TransRepr TransA TransC

/-- the `for` loop of `NextFireTime` over an arbitrary state-machine step (`Cron.zoneLoop` is the instance
`step := csmNext lim f`) -/
def zoneLoopG (step : Civil → Option (Option Civil)) (z : Zone) (prevSec prevOff : Int) : Nat → Civil → Outcome
  | 0, _ => .outOfFuel
  | fuel+1, wall =>
    match step wall with
    | none => .outOfFuel
    | some none => .expired
    | some (some nw) =>
      let w := nw.toSeconds
      let n1 := z.date w
      let next := if fires z n1 w prevSec then n1 else w - prevOff
      if fires z next w prevSec then .ok (next * 1000000000) else zoneLoopG step z prevSec prevOff fuel nw

theorem zoneLoop_eq_G (lim : Limits) (f : Fields) (z : Zone) (prevSec prevOff : Int) (fuel : Nat) (wall : Civil) :
    zoneLoop lim f z prevSec prevOff fuel wall = zoneLoopG (csmNext lim f) z prevSec prevOff fuel wall := by
  induction fuel generalizing wall with
  | zero => rfl
  | succ fuel ih =>
    rw [zoneLoop_succ]
    simp only [zoneLoopG, ih]
    rfl -- the same `match`, compiled once for each definition

/-- `CronTrigger.NextFireTime(prev)` with the translated state machine (`cf` = its fuel) -/
def nextFireT (T : TimeExt) (cf : Nat) (f : Fields) (z : Zone) (prevNs : Int) : Outcome :=
  let prevSec := prevNs / 1000000000   -- floor: the whole second prev lies in (D27)
  let prevOff := z.offsetAt prevSec
  zoneLoopG (fun wall => transCsmNext T f wall cf) z prevSec prevOff csmFuel (Civil.ofSeconds (prevSec + prevOff))

/-- the translated state machine agrees with the model on every valid wall clock -/
def Agree (T : TimeExt) (cf : Nat) (f : Fields) : Prop :=
  ∀ wall : Civil, wall.Valid → wall.year ≤ 3940 → transCsmNext T f wall cf = csmNext {} f wall

/-- a wall clock `csmNext` returns is valid and its
year is `≤ lastYear = 2261`, hence `≤ 3940` (the bound of `Agree`) -/
theorem csmNext_some_valid (f : Fields) (hwf : WellFormed f = true) (wall t : Civil)
    (h : csmNext {} f wall = some (some t)) : t.Valid ∧ t.year ≤ 3940 := by
  obtain ⟨hm, _, _⟩ := csmNext_spec_some f hwf wall t h
  exact ⟨matches_valid f t hm, Nat.le_trans (matches_year_le f t hm) (by decide)⟩

theorem zoneLoopT_eq (T : TimeExt) (cf : Nat) (f : Fields) (hwf : WellFormed f = true) (hA : Agree T cf f)
    (z : Zone) (prevSec prevOff : Int) (fuel : Nat) :
    ∀ wall : Civil, wall.Valid → wall.year ≤ 3940 →
      zoneLoopG (fun wall => transCsmNext T f wall cf) z prevSec prevOff fuel wall =
        zoneLoop {} f z prevSec prevOff fuel wall := by
  induction fuel with
  | zero => intro _ _ _; rfl
  | succ fuel ih =>
    intro wall hv hy
    rw [zoneLoop_succ]
    simp only [zoneLoopG, hA wall hv hy]
    cases h : csmNext {} f wall with
    | none => rfl
    | some o =>
      cases o with
      | none => rfl
      | some t =>
        obtain ⟨hvt, hty⟩ := csmNext_some_valid f hwf wall t h
        simp only [ih t hvt hty]

/-- every real `prev` is an int64 count of
nanoseconds, so the start wall clock is a valid civil time before the year 2263 -/
theorem wall0_int64 (c prev : Int) (hc : -100000 ≤ c ∧ c ≤ 100000) (hp : -9223372036854775808 ≤ prev) (hmax : prev ≤ 9223372036854775807) :
    (Civil.ofSeconds (prev / 1000000000 + c)).Valid ∧ (Civil.ofSeconds (prev / 1000000000 + c)).year ≤ 3940 := by
  have h1 := Civil.ofSeconds_year_mono (prev / 1000000000 + c) 9223472137
    (by show -((719529 : Nat) : Int) * 86400 + 86400 ≤ _; omega) (by omega)
  have h2 : (Civil.ofSeconds 9223472137).year = 2262 := by decide
  exact ⟨(wall0_valid c prev hc hp).1, by omega⟩

/-- on a fixed-offset location, `NextFireTime` with the translated state machine is the model's `nextFire` -/
theorem nextFireT_eq (T : TimeExt) (cf : Nat) (f : Fields) (hwf : WellFormed f = true) (hA : Agree T cf f)
    (c prev : Int) (hc : -100000 ≤ c ∧ c ≤ 100000) (hp : -9223372036854775808 ≤ prev) (hmax : prev ≤ 9223372036854775807) :
    nextFireT T cf f (fixedZone c) prev = nextFire {} f (fixedZone c) prev := by
  obtain ⟨hwv, hy⟩ := wall0_int64 c prev hc hp hmax
  unfold nextFireT nextFire
  simp only [fixedZone]
  exact zoneLoopT_eq T cf f hwf hA _ _ _ _ _ hwv hy

end TransCsm
