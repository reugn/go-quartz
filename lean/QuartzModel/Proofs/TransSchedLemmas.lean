import QuartzModel.Generated.TransSched
import QuartzModel.Sched.Model
import QuartzModel.Proofs.SchedLemmas
/-!
# The translated scheduler code (`Generated.TransSched`) run on the hand-written model (`Sched.Model`):
representation maps, the model instances of the externals with one lemma per call on them, the abstraction of Go
errors (`absErr`) and of a dispatch step (`absStep`).

* `ofEntry` / `toEntry`: a model `Queue.Entry` as a translated `scheduledJob` and back.
* `modelQ : JobQueueExt (Arr × List Entry) Matcher`: the default-queue model `Queue.qpush` … as a queue external
  (the second component logs the successfully pushed entries, so that `StepOut.pushed` is observable).
* `modelT : TriggerExt (List (Nat × Trig) × List TrigCall)`: trigger objects by identity, `Sched.Trig.fire`; the
  second component logs the calls (`StepOut.calls`).
-/
namespace TransSched
open Generated.TransSched Sched Queue

/-- a model entry as a Go `*scheduledJob` (non-nil detail, key, options, trigger; `tag` = identity of the trigger) -/
def ofEntry (e : Entry) : scheduledJob :=
  { job := some { job := none, jobKey := some { name := e.name, group := e.group },
                  opts := some { Suspended := e.suspended, Replace := e.replace } },
    trigger := some e.tag, priority := e.prio }

/-- what the default queue and the scheduler observe of a `ScheduledJob` -/
def toEntry (j : scheduledJob) : Entry :=
  { group := (deref (deref j.job).jobKey).group, name := (deref (deref j.job).jobKey).name, prio := j.priority,
    suspended := (deref (deref j.job).opts).Suspended, replace := (deref (deref j.job).opts).Replace,
    tag := deref j.trigger }

@[simp] theorem toEntry_ofEntry (e : Entry) : toEntry (ofEntry e) = e := rfl

@[simp] theorem deref_some {α : Type} [Inhabited α] (a : α) : deref (some a) = a := rfl

@[simp] theorem ofEntry_trigger (e : Entry) : (ofEntry e).trigger = some e.tag := rfl

@[simp] theorem ofEntry_priority (e : Entry) : (ofEntry e).priority = e.prio := rfl

/-- the job `fetchAndReschedule` pushes back: same detail and trigger, new fire time -/
@[simp] theorem toEntry_reschedule (e : Entry) (p : Int) :
    toEntry { job := (ofEntry e).job, trigger := some e.tag, priority := p } = { e with prio := p } := rfl

/-- the errors of the default queue (`quartz/queue.go`: `newIllegalStateError(ErrQueueEmpty)` …) -/
def qerr : QErr → Option Err
  | .queueEmpty => newIllegalStateError (some ErrQueueEmpty)
  | .jobNotFound => newIllegalStateError (some ErrJobNotFound)
  | .jobAlreadyExists => newIllegalStateError (some ErrJobAlreadyExists)

@[simp] theorem qerr_isSome (e : QErr) : (qerr e).isSome = true := by cases e <;> rfl

@[simp] theorem qerr_ne_none (e : QErr) : (qerr e = none) = False := by cases e <;> simp [qerr, newIllegalStateError, errorf2]

/-- the model's classification of a Go error by `errors.Is` against the sentinels -/
def absErr : Option Err → Option SErr
  | none => none
  | some e =>
    if e.is ErrIllegalArgument then some .illegalArgument
    else if e.is ErrJobAlreadyExists then some .jobAlreadyExists
    else if e.is ErrJobNotFound then some .jobNotFound
    else if e.is ErrJobIsSuspended then some .jobIsSuspended
    else if e.is ErrJobIsActive then some .jobIsActive
    else if e.is ErrQueueEmpty then some .queueEmpty
    else some .triggerError

/-! `absErr` on the errors the translated code makes: each unfolds to `errors.Is` tests between wrapped sentinels, which
differ in their names. -/
section
attribute [local simp] absErr newIllegalStateError errorf2 Err.is ErrIllegalState ErrIllegalArgument ErrJobAlreadyExists
  ErrJobNotFound ErrJobIsSuspended ErrJobIsActive ErrQueueEmpty ErrTriggerExpired

@[simp] theorem absErr_qerr (e : QErr) : absErr (qerr e) = some (ofQErr e) := by cases e <;> simp [qerr, ofQErr]

@[simp] theorem absErr_illegal (msg : String) : absErr (newIllegalArgumentError msg) = some .illegalArgument := by
  simp [newIllegalArgumentError, errorf1]

@[simp] theorem absErr_suspended : absErr (newIllegalStateError (some ErrJobIsSuspended)) = some .jobIsSuspended := by simp

@[simp] theorem absErr_active : absErr (newIllegalStateError (some ErrJobIsActive)) = some .jobIsActive := by simp

@[simp] theorem absErr_expired : absErr (some ErrTriggerExpired) = some .triggerError := by simp
end

/-- every branch of `absErr (some e)` is a `some` -/
theorem absErr_eq_none {e : Option Err} : absErr e = none ↔ e = none := by
  cases e with
  | none => exact ⟨fun _ => rfl, fun _ => rfl⟩
  | some x =>
    have h : (absErr (some x)).isSome = true := by
      simp only [absErr, apply_ite Option.isSome, Option.isSome_some, ite_self]
    constructor <;> intro h'
    · rw [h'] at h; cases h
    · cases h'

theorem absErr_ne_none {e : Option Err} (h : e ≠ none) : absErr e ≠ none := fun h' => h (absErr_eq_none.mp h')

/-- queue state of the model instance: the heap array and the log of successful pushes -/
abbrev MQ := Arr × List Entry
/-- trigger heap of the model instance: trigger objects by identity and the log of calls -/
abbrev MH := List (Nat × Trig) × List TrigCall

/-- the default-queue model as the external `JobQueue` -/
def modelQ : JobQueueExt MQ Matcher where
  Push q j :=
    match qpush q.1 (toEntry (deref j)) with
    | .ok q' => ((q', q.2 ++ [toEntry (deref j)]), none)
    | .error e => (q, qerr e)
  Pop q :=
    match qpop q.1 with
    | .ok (q', e) => ((q', q.2), (some (ofEntry e), none))
    | .error e => (q, (none, qerr e))
  Head q :=
    match qhead q.1 with
    | .ok e => (q, (some (ofEntry e), none))
    | .error e => (q, (none, qerr e))
  Get q k :=
    match qget q.1 (deref k).group (deref k).name with
    | .ok e => (q, (some (ofEntry e), none))
    | .error e => (q, (none, qerr e))
  Remove q k :=
    match qremove q.1 (deref k).group (deref k).name with
    | .ok (q', e) => ((q', q.2), (some (ofEntry e), none))
    | .error e => (q, (none, qerr e))
  ScheduledJobs q ms := (q, ((qlist q.1 ms).map (fun e => some (ofEntry e)), none))
  Size q := (q, (Int.ofNat q.1.size, none))
  Clear q := ((#[], q.2), none)

/-- `Sched.Trig.fire` on trigger objects held by identity as the external `Trigger` -/
def modelT : TriggerExt MH where
  NextFireTime h ref prev :=
    let r := ((h.1.lookup ref).getD (.script [])).fire prev
    (((ref, r.2) :: h.1.filter (fun p => p.1 != ref), h.2 ++ [⟨ref, prev, r.1⟩]),
      match r.1 with
      | some v => (v, none)
      | none => (0, some ErrTriggerExpired))
  Description h _ := (h, "")

def envOf (thr : Int) (started : Bool) (now : Int) : Env := { opts := { OutdatedThreshold := thr }, started := started, now := now }

/-- a model state as the state of the translated code (empty logs) -/
def stOf (s : SState) : St MQ MH := { queue := (s.q, []), trigs := (s.trigs, []), out := [] }

/-- the model state inside a state of the translated code (logs and events dropped) -/
def ssOf (σ : St MQ MH) : SState := { q := σ.queue.1, trigs := σ.trigs.1 }

@[simp] theorem ssOf_stOf (s : SState) : ssOf (stOf s) = s := rfl

/-! One call on the model instances: what the translated code sees (the Go result pair) and the new state. -/

@[simp] theorem callQ_push (σ : St MQ MH) (j : scheduledJob) :
    σ.callQ (fun q => modelQ.Push q (some j)) =
      match qpush σ.queue.1 (toEntry j) with
      | .ok q' => ({ σ with queue := (q', σ.queue.2 ++ [toEntry j]) }, none)
      | .error x => (σ, qerr x) := by
  simp only [St.callQ, modelQ, deref_some]
  cases qpush σ.queue.1 (toEntry j) <;> rfl

@[simp] theorem callQ_pop (σ : St MQ MH) :
    σ.callQ (fun q => modelQ.Pop q) =
      match qpop σ.queue.1 with
      | .ok (q', e) => ({ σ with queue := (q', σ.queue.2) }, some (ofEntry e), none)
      | .error x => (σ, none, qerr x) := by
  simp only [St.callQ, modelQ]
  rcases qpop σ.queue.1 with x | ⟨q', e⟩ <;> rfl

@[simp] theorem callQ_get (σ : St MQ MH) (k : JobKey) :
    σ.callQ (fun q => modelQ.Get q (some k)) =
      (σ, match qget σ.queue.1 k.group k.name with
          | .ok e => (some (ofEntry e), none)
          | .error x => (none, qerr x)) := by
  simp only [St.callQ, modelQ, deref_some]
  cases qget σ.queue.1 k.group k.name <;> rfl

@[simp] theorem callQ_remove (σ : St MQ MH) (k : JobKey) :
    σ.callQ (fun q => modelQ.Remove q (some k)) =
      match qremove σ.queue.1 k.group k.name with
      | .ok (q', e) => ({ σ with queue := (q', σ.queue.2) }, some (ofEntry e), none)
      | .error x => (σ, none, qerr x) := by
  simp only [St.callQ, modelQ, deref_some]
  rcases qremove σ.queue.1 k.group k.name with x | ⟨q', e⟩ <;> rfl

@[simp] theorem callT_fire (σ : St MQ MH) (ref : Nat) (prev : Int) :
    σ.callT (fun h => modelT.NextFireTime h ref prev) =
      ({ σ with trigs := ((ref, (((ssOf σ).trig ref).fire prev).2) :: σ.trigs.1.filter (fun p => p.1 != ref),
                          σ.trigs.2 ++ [⟨ref, prev, (((ssOf σ).trig ref).fire prev).1⟩]) },
        match (((ssOf σ).trig ref).fire prev).1 with
        | some v => (v, none)
        | none => (0, some ErrTriggerExpired)) := rfl

theorem i64_id {x : Int} (h : -9223372036854775808 ≤ x ∧ x ≤ 9223372036854775807) : i64 x = x := by
  rw [i64, Int.emod_eq_of_lt (by omega) (by omega), Int.add_sub_cancel]

theorem i64_range (x : Int) : -9223372036854775808 ≤ i64 x ∧ i64 x ≤ 9223372036854775807 := by
  unfold i64; omega

/-- well-formed int64 arguments for a trigger call -/
def I64 (x : Int) : Prop := -maxInt64 - 1 ≤ x ∧ x ≤ maxInt64

/-- the class of a defunctionalised extractor -/
def fnClass : validateJob.Fn → Class
  | .lit0 => .suspended
  | .lit1 _ _ => .outdated
  | .lit2 _ => .notDue
  | .lit3 _ => .valid

/-- `validateJob` on a queue entry, by the class of the entry: the Boolean, the closure and the events -/
theorem validateJob_eq {Q H M : Type} (JQ : JobQueueExt Q M) (TR : TriggerExt H) (σ : St Q H) (e : Entry) (now thr : Int)
    (started : Bool) (hnov : i64 (now - thr) = now - thr) :
    validateJob JQ TR (envOf thr started now) σ (some (ofEntry e)) =
      match classify e now thr with
      | .suspended => (σ, false, .lit0)
      | .outdated => ((σ.emit (.log "Info" "Job is outdated")).emit (.misfireOffer (some (ofEntry e))), false,
                      .lit1 (some (ofEntry e)) now)
      | .notDue => (σ.emit (.log "Debug" "Job is not due to run yet"), false, .lit2 (some (ofEntry e)))
      | .valid => (σ, true, .lit3 (some (ofEntry e))) := by
  simp only [validateJob, classify, envOf, deref_some, scheduledJob.JobDetail, scheduledJob.NextRunTime, ofEntry, hnov]
  cases e.suspended
  · by_cases h1 : e.prio < now - thr
    · simp [h1]
    · by_cases h2 : e.prio > now <;> simp [h1, h2]
  · simp

def isMisfire : Event → Bool
  | .misfireOffer _ => true
  | _ => false

def hasMisfire (out : List Event) : Bool := out.any isMisfire

/-- `validateJob` returns no class: it is read off `valid`, the misfire offer (outdated) and the "not due" log line -/
def clsOf (valid : Bool) (out : List Event) : Class :=
  if valid then .valid else if hasMisfire out then .outdated
  else if out.contains (Event.log "Debug" "Job is not due to run yet") then .notDue else .suspended

/-- what `Sched.step` reports, read off a run of the translated `fetchAndReschedule`: the new state and the `StepOut`
(returned job ↦ `popped`, `valid` ↦ `dispatched`, misfire offer ↦ `misfired`, trigger call log ↦ `calls`, queue push
log ↦ `pushed`).  The returned Go error and the log lines are dropped. -/
def absStep (r : St MQ MH × (Option scheduledJob × Bool × Option Err)) : SState × StepOut :=
  (ssOf r.1, { popped := r.2.1.map toEntry, cls := r.2.1.map (fun _ => clsOf r.2.2.1 r.1.out), dispatched := r.2.2.1,
               misfired := hasMisfire r.1.out, calls := r.1.trigs.2, pushed := r.1.queue.2.head? })

end TransSched
