import QuartzModel.Sched.Wakeup
/-! The inductive invariant of the wake-up protocol (`Sched/Wakeup.lean`) and its preservation by every step. -/
namespace Wakeup

/-- a decrease of the earliest fire time since the loop last read the queue (`dirty`) is covered by a token, by a `Reset()`
    that is still to come, or by a loop that has not yet blocked; and a loop that is not behind (`dirty = false`) has read,
    or armed its timer for, what the queue holds -/
def Inv (P : Params) (s : St) : Prop :=
  (s.dirty = true → s.token > 0 ∨ sendPending P s = true ∨ s.pc.beforeRead = true) ∧
  (s.pc = .atHead false → s.dirty = false → s.q = none) ∧
  (∀ d, s.pc = .armed d ∨ s.pc = .inSelect d → s.dirty = false → d.covers s.q = true)

theorem WF.mut {P : Params} (h : WF P) (m : Mut) (hm : m.canDecrease = true) :
    P.sends m = true ∧ P.sendAfter m = true := by
  obtain ⟨_, _, _, h1, _, _, h4, _⟩ := h
  cases m <;> simp [Mut.canDecrease] at hm
  · exact (by simpa [wfMut, Mut.canDecrease] using h1 : _ ∧ _).2
  · exact (by simpa [wfMut, Mut.canDecrease] using h4 : _ ∧ _).2

theorem Due.lt_none (q : Due) : Due.lt q none = q.isSome := by
  cases q <;> rfl

/-- `covers` is antitone in the earliest fire time: a deadline that covers `q` covers every `q'` that is not earlier -/
theorem covers_mono (d : Deadline) (q q' : Due) (h : Due.lt q' q = false) (hc : d.covers q = true) :
    d.covers q' = true := by
  cases d <;> cases q <;> cases q' <;> simp_all [Deadline.covers, Due.lt] <;> omega

theorem allowed_noDecrease (m : Mut) (q q' : Due) (hm : m.canDecrease = false) (h : m.allowed q q' = true) :
    Due.lt q' q = false := by
  cases m <;> simp_all [Mut.canDecrease, Mut.allowed]

theorem WF.sends_of_lt {P : Params} (h : WF P) (m : Mut) (q q' : Due) (hal : m.allowed q q' = true)
    (hlt : Due.lt q' q = true) : P.sends m = true ∧ P.sendAfter m = true := by
  cases hm : m.canDecrease
  · rw [allowed_noDecrease m q q' hm hal] at hlt; cases hlt
  · exact h.mut m hm

theorem send_wf {P : Params} (h : WF P) (s : St) :
    ∃ n, n > 0 ∧ send P s = some { s with token := n } := by
  obtain ⟨hcap, hnb, _⟩ := h
  unfold send
  split
  · exact ⟨s.token + 1, by omega, rfl⟩
  · rename_i hfull
    split
    · rename_i h0 _; omega
    · refine ⟨s.token, by omega, ?_⟩
      simp

/-- `Inv` does not look at `api` except through `sendPending`, nor at the exact token count -/
theorem inv_setQ {P : Params} (s : St) (q' : Due) (a : Api)
    (hi : Inv P s) (hsp : sendPending P s = false)
    (hnew : Due.lt q' s.q = true → sendPending P { setQ s q' with api := a } = true ∨ s.pc.beforeRead = true) :
    Inv P { setQ s q' with api := a } := by
  obtain ⟨i1, i2, i3⟩ := hi
  refine ⟨?_, ?_, ?_⟩
  · intro hd
    simp only [setQ, Bool.or_eq_true] at hd
    rcases hd with hd | hd
    · rcases i1 hd with h | h | h
      · exact Or.inl h
      · simp [hsp] at h
      · exact Or.inr (Or.inr h)
    · exact Or.inr (hnew hd)
  · intro hpc hd
    simp only [setQ, Bool.or_eq_false_iff] at hd hpc ⊢
    have := i2 hpc hd.1
    rw [this, Due.lt_none] at hd
    cases q' <;> simp_all
  · intro d hpc hd
    simp only [setQ, Bool.or_eq_false_iff] at hd hpc ⊢
    exact covers_mono d s.q q' hd.2 (i3 d hpc hd.1)

/-- a loop that will read the queue again before it blocks owes nothing -/
theorem inv_beforeRead (P : Params) (s : St) (h : s.pc.beforeRead = true) : Inv P s := by
  refine ⟨fun _ => Or.inr (Or.inr h), fun hpc => ?_, fun d hpc => ?_⟩
  · simp [hpc, Pc.beforeRead] at h
  · rcases hpc with hpc | hpc <;> simp [hpc, Pc.beforeRead] at h

theorem inv_init (P : Params) (q : Due) : Inv P (init q) := inv_beforeRead P _ rfl

/-- the API thread moves: a token already there stays, and a pending `Reset()` stays pending or has left a token -/
theorem inv_api {P : Params} {s : St} (hi : Inv P s) (a : Api) (n : Nat) (hn : s.token > 0 → n > 0)
    (hp : sendPending P s = true → n > 0 ∨ sendPending P { s with api := a, token := n } = true) :
    Inv P { s with api := a, token := n } := by
  refine ⟨fun hd => ?_, hi.2.1, hi.2.2⟩
  rcases hi.1 hd with h | h | h
  · exact Or.inl (hn h)
  · exact (hp h).imp_right Or.inl
  · exact Or.inr (Or.inr h)

/-- the loop moves on towards the `select` with a deadline that covers the queue as it read it -/
theorem inv_pc {P : Params} {s : St} (hi : Inv P s) (hnr : s.pc.beforeRead = false) (p : Pc) (hp : p ≠ .atHead false)
    (hc : ∀ d, p = .armed d ∨ p = .inSelect d → s.dirty = false → d.covers s.q = true) : Inv P { s with pc := p } := by
  refine ⟨fun hd => ?_, fun h => absurd h hp, hc⟩
  rcases hi.1 hd with h | h | h
  · exact Or.inl h
  · exact Or.inr (Or.inl h)
  · simp [hnr] at h

/-- the caller's `Reset()`: it leaves a token, or the mutator does not send, and then no `Reset()` was pending -/
theorem inv_send {P : Params} (hP : WF P) {s : St} (hi : Inv P s) (m : Mut) (a : St)
    (ha : (if P.sends m = true then send P s else some s) = some a)
    (hp : P.sends m = false → sendPending P s = false) : Inv P { a with api := .tokenSent m } := by
  split at ha
  · obtain ⟨n, hn0, hn⟩ := send_wf hP s
    rw [hn] at ha; cases ha
    exact inv_api hi _ n (fun _ => hn0) (fun _ => Or.inl hn0)
  · rename_i hns
    cases ha
    exact inv_api hi _ _ id (by simp [hp (by simpa using hns)])

theorem inv_step (P : Params) (hP : WF P) (s s' : St) (a : Act) (hi : Inv P s)
    (hs : step P s a = some s') : Inv P s' := by
  cases a with
  | loopSize b =>
    simp only [step] at hs
    split at hs <;> simp at hs
    obtain ⟨hb, rfl⟩ := hs
    refine ⟨by simp, fun h _ => ?_, by simp⟩
    simp at h; simpa [h] using hb
  | loopHead d =>
    cases hpc : s.pc <;> simp [step, hpc] at hs
    rename_i ne
    have hc : s' = { s with pc := .armed d } ∧ (s.dirty = false → d.covers s.q = true) := by
      cases ne <;> simp at hs
      · obtain ⟨rfl, rfl⟩ := hs
        exact ⟨rfl, fun hd => by rw [hi.2.1 hpc hd]; rfl⟩
      · cases hq : s.q <;> simp [hq] at hs
        · exact ⟨hs.symm, fun _ => by cases d <;> rfl⟩
        · obtain ⟨rfl, rfl⟩ := hs
          exact ⟨rfl, fun _ => by simp [Deadline.covers]⟩
    rw [hc.1]
    exact inv_pc hi (by simp [hpc, Pc.beforeRead]) _ (by simp) (fun d' h => by simp at h; subst h; exact hc.2)
  | loopSelect =>
    simp only [step] at hs
    split at hs <;> simp at hs
    rename_i d hpc
    subst hs
    exact inv_pc hi (by simp [hpc, Pc.beforeRead]) _ (by simp) (fun d h => hi.2.2 d (by simpa [hpc] using h))
  | loopWakeToken =>
    simp only [step] at hs
    split at hs <;> simp at hs
    obtain ⟨_, rfl⟩ := hs
    exact inv_beforeRead _ _ (by simp [afterWake, hP.2.2.1, Pc.beforeRead])
  | loopTick =>
    simp only [step] at hs
    split at hs <;> simp at hs
    subst hs; exact inv_beforeRead _ _ rfl
  | loopLock =>
    simp only [step] at hs
    split at hs <;> simp at hs
    obtain ⟨_, rfl⟩ := hs; exact inv_beforeRead _ _ rfl
  | loopStepDone q' =>
    simp only [step] at hs
    split at hs
    · have : s'.pc = .atSize := by
        split at hs
        · obtain ⟨n, _, hn⟩ := send_wf hP { setQ s q' with pc := .atSize }
          rw [hn] at hs; cases hs; rfl
        · cases hs; rfl
      exact inv_beforeRead _ _ (by rw [this]; rfl)
    · cases hs
  | apiLock m =>
    cases hapi : s.api <;> simp [step, hapi] at hs
    obtain ⟨_, rfl⟩ := hs
    exact inv_api hi _ _ id (by simp [sendPending, hapi])
  | apiMutate q' =>
    -- the call holds the lock and mutates before its `Reset()` (`locked`) or after it (`tokenSent`: a mutator that sends first)
    cases hapi : s.api <;> simp [step, hapi] at hs
    all_goals
      obtain ⟨⟨hsa, hal⟩, rfl⟩ := hs
      refine inv_setQ s q' _ hi (by simp [sendPending, hapi]) (fun hlt => ?_)
      have hw := hP.sends_of_lt _ _ _ hal hlt
    · exact Or.inl (by simp [sendPending, hw])
    · simp [hw.2] at hsa
  | apiSend =>
    -- the `Reset()` comes after the mutation (`mutated`) or before it (`locked`: a mutator that sends first)
    cases hapi : s.api <;> simp [step, hapi] at hs
    all_goals
      obtain ⟨_, a, ha, rfl⟩ := hs
      exact inv_send hP hi _ a ha (fun h => by simp [sendPending, hapi, h])
  | apiUnlock =>
    cases hapi : s.api <;> simp [step, hapi] at hs
    · subst hs; exact inv_api hi _ _ id (by simp [sendPending, hapi])
    · obtain ⟨h, rfl⟩ := hs; exact inv_api hi _ _ id (by simp [sendPending, hapi, h])
    · obtain ⟨_, rfl⟩ := hs; exact inv_api hi _ _ id (by simp [sendPending, hapi])

theorem inv_run (P : Params) (hP : WF P) (s : St) (as : List Act) (hi : Inv P s) :
    ∀ s', run P s as = some s' → Inv P s' := by
  induction as generalizing s with
  | nil => intro s' h; cases h; exact hi
  | cons a as ih =>
    intro s' h
    obtain ⟨s1, hst, h⟩ := Option.bind_eq_some_iff.mp h
    exact ih s1 (inv_step P hP s s1 a hi hst) s' h

theorem run_append (P : Params) (s : St) (as bs : List Act) :
    run P s (as ++ bs) = (run P s as).bind (fun s' => run P s' bs) := by
  induction as generalizing s with
  | nil => simp [run]
  | cons a as ih =>
    simp only [List.cons_append, run]
    cases step P s a with
    | none => simp
    | some s1 => simp [ih]

/-- a run in the form in which `simp` evaluates it step by step: the rest of the run is not looked at before the step is known -/
theorem run_cons (P : Params) (s : St) (a : Act) (as : List Act) :
    run P s (a :: as) = match step P s a with | some s1 => run P s1 as | none => none := by
  simp only [run]; cases step P s a <;> rfl

theorem run_nil (P : Params) (s : St) : run P s [] = some s := rfl

end Wakeup
