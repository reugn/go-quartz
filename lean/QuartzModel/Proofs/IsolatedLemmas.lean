import QuartzModel.Jobs.Isolated
/-! helper lemmas for `Theorems/C17.lean`: the inductive invariant of the isolated-job gate -/
namespace Jobs.Isolated

variable {n : Nat}

@[simp] theorem setPc_same (pc : Fin n → PC) (t : Fin n) (v : PC) : setPc pc t v t = v := by
  simp [setPc]

theorem setPc_other (pc : Fin n → PC) (t u : Fin n) (v : PC) (h : u ≠ t) : setPc pc t v u = pc u := by
  simp [setPc, h]

theorem PC.holds_iff (p : PC) : p.holds = true ↔ p = .running ∨ ∃ e, p = .exiting e := by
  cases p <;> simp [PC.holds]

/-- at most one thread is inside the gate, and the flag is set exactly when one is -/
def Inv (s : State n) : Prop :=
  (∀ t u, (s.pc t).holds = true → (s.pc u).holds = true → t = u) ∧
  (s.flag = true ↔ ∃ t, (s.pc t).holds = true)

theorem inv_init : Inv (State.init n) := by
  constructor
  · intro t u h; simp [State.init, PC.holds] at h
  · simp [State.init, PC.holds]

/-- a step that changes neither the flag nor who is inside keeps the invariant -/
theorem inv_of_holds_eq {s s' : State n} (h : Inv s) (hf : s'.flag = s.flag)
    (hp : ∀ u, (s'.pc u).holds = (s.pc u).holds) : Inv s' := by
  constructor
  · intro t u ht hu; rw [hp] at ht hu; exact h.1 t u ht hu
  · rw [hf, h.2]; simp only [hp]

theorem holds_setPc (pc : Fin n → PC) (t : Fin n) (v : PC) (h : v.holds = (pc t).holds) (u : Fin n) :
    (setPc pc t v u).holds = (pc u).holds := by
  by_cases hu : u = t
  · subst hu; simp [h]
  · rw [setPc_other pc t u v hu]

theorem inv_step {s s' : State n} {t : Fin n} (h : Inv s) (st : Step true s t s') : Inv s' := by
  cases st with
  | swap hpc =>
    cases hfl : s.flag with
    | true => exact inv_of_holds_eq h hfl.symm (holds_setPc _ _ _ (by rw [hpc]; rfl))
    | false =>
      simp only [Bool.false_eq_true, if_false]
      have honly : ∀ a, (setPc s.pc t PC.running a).holds = true → a = t := fun a ha =>
        Decidable.byContradiction fun hat => by
          rw [setPc_other _ _ _ _ hat] at ha
          have := h.2.mpr ⟨a, ha⟩
          rw [hfl] at this; cases this
      constructor
      · intro a b ha hb; rw [honly a ha, honly b hb]
      · exact ⟨fun _ => ⟨t, by simp [PC.holds]⟩, fun _ => rfl⟩
  | refuse hpc | leave _ hpc _ | again _ hpc =>
    exact inv_of_holds_eq h rfl (holds_setPc _ _ _ (by rw [hpc]; rfl))
  | store e hpc =>
    have hthold : (s.pc t).holds = true := by rw [hpc]; rfl
    have hnone : ∀ a, (setPc s.pc t (PC.finished (CallResult.delegated e)) a).holds = false := by
      intro a
      by_cases hat : a = t
      · subst hat; simp [PC.holds]
      · rw [setPc_other _ _ _ _ hat]
        exact Bool.eq_false_iff.mpr fun hh => hat (h.1 a t hh hthold)
    refine ⟨fun a b ha => ?_, ⟨(nomatch ·), fun ⟨a, ha⟩ => ?_⟩⟩ <;> rw [hnone a] at ha <;> cases ha
  | unwind _ hd => cases hd

theorem inv_reachable {s : State n} (h : Reachable true s) : Inv s := by
  induction h with
  | init => exact inv_init
  | step _ st ih => exact inv_step ih st

end Jobs.Isolated
