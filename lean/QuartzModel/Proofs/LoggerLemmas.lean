import QuartzModel.Logger.Simple
/-!
# Helper lemmas for C18: the mutex of `SimpleLogger.output` keeps a prefix together with its line (`LInv`); the structured reading
of an argument list behind `formatArgs`; no record is lost (`Complete`)
-/
namespace Logger

theorem updT_same (f : Nat → Thread) (i : Nat) (t : Thread) : updT f i t i = t := by simp [updT]

theorem updT_other (f : Nat → Thread) (i j : Nat) (t : Thread) (h : j ≠ i) : updT f i t j = f j := by
  simp [updT, h]

structure LInv (thr : Int) (s : LState) : Prop where
  /-- mutual exclusion: whoever is past `Lock()` holds the mutex -/
  excl : ∀ i, (s.th i).pc ≠ .start → s.lock = some i
  /-- whoever is past the filter is logging an enabled record -/
  cur : ∀ i, (s.th i).pc ≠ .start → ∃ r rest, (s.th i).todo = r :: rest ∧ enabled thr r.lvl.value = true
  /-- between `SetPrefix` and `Output` the shared prefix is the one of the record being logged -/
  pfx : ∀ i r rest, (s.th i).pc = .prefixed → (s.th i).todo = r :: rest → s.pfx = r.lvl.label
  /-- every written line carries the label of its own level, and passed the filter -/
  out : ∀ e ∈ s.out, e.label = e.lvl.label ∧ enabled thr e.lvl.value = true

theorem linv_init (thr : Int) (work : Nat → List Rec) : LInv thr (linit work) where
  excl := by intro i h; simp [linit] at h
  cur := by intro i h; simp [linit] at h
  pfx := by intro i r rest h; simp [linit] at h
  out := by intro e h; simp [linit] at h

/-- whoever may take a step past `Lock()` is alone: if the mutex is free or held by `i`, every other goroutine is at `start` -/
theorem LInv.others_start {thr : Int} {s : LState} (h : LInv thr s) (i : Nat) (hl : s.lock = none ∨ s.lock = some i) (j : Nat)
    (hji : j ≠ i) : (s.th j).pc = .start :=
  Classical.byContradiction fun hne => by
    have := h.excl j hne
    rcases hl with hl | hl <;> rw [hl] at this <;> cases this
    exact hji rfl

/-- a step of goroutine `i` alone: the invariant has to be checked for its new thread state `t` only, provided the step leaves
mutex and prefix as they are whenever some other goroutine is past `start` -/
theorem LInv.upd {thr : Int} {s s' : LState} (h : LInv thr s) (i : Nat) (t : Thread) (hth : s'.th = updT s.th i t)
    (hoth : ∀ j, j ≠ i → (s.th j).pc ≠ .start → s'.lock = s.lock ∧ s'.pfx = s.pfx)
    (hex : t.pc ≠ .start → s'.lock = some i)
    (hcur : t.pc ≠ .start → ∃ r rest, t.todo = r :: rest ∧ enabled thr r.lvl.value = true)
    (hpf : ∀ r rest, t.pc = .prefixed → t.todo = r :: rest → s'.pfx = r.lvl.label)
    (hout : ∀ e ∈ s'.out, e.label = e.lvl.label ∧ enabled thr e.lvl.value = true) : LInv thr s' := by
  refine ⟨fun j hj => ?_, fun j hj => ?_, fun j r rest hj ht => ?_, hout⟩ <;> rw [hth] at hj <;> by_cases hji : j = i
  · subst hji; rw [updT_same] at hj; exact hex hj
  · rw [updT_other _ _ _ _ hji] at hj; rw [(hoth j hji hj).1]; exact h.excl j hj
  · subst hji; rw [hth, updT_same] at *; exact hcur hj
  · rw [hth, updT_other _ _ _ _ hji] at *; exact h.cur j hj
  · subst hji; rw [hth, updT_same] at ht; rw [updT_same] at hj; exact hpf r rest hj ht
  · rw [hth, updT_other _ _ _ _ hji] at ht; rw [updT_other _ _ _ _ hji] at hj
    rw [(hoth j hji (by rw [hj]; exact LPc.noConfusion)).2]; exact h.pfx j r rest hj ht

theorem linv_step (thr : Int) (s : LState) (i : Nat) (h : LInv thr s) : LInv thr (lstep true thr s i) := by
  unfold lstep
  cases htodo : (s.th i).todo with
  | nil => exact h
  | cons r rest =>
    have hcur := h.cur i
    rw [htodo] at hcur
    cases hpc : (s.th i).pc <;> dsimp only
    case start =>
      cases hen : enabled thr r.lvl.value with
      | false =>
        exact h.upd i ⟨.start, rest⟩ rfl (fun _ _ _ => ⟨rfl, rfl⟩) (absurd rfl) (absurd rfl) (fun _ _ hp => nomatch hp) h.out
      | true =>
        cases hl : s.lock with
        | some k => exact h
        | none =>
          have ho := h.others_start i (.inl hl)
          exact h.upd i ⟨.locked, r :: rest⟩ rfl (fun j hji hj => absurd (ho j hji) hj) (fun _ => rfl)
            (fun _ => ⟨r, rest, rfl, hen⟩) (fun _ _ hp => nomatch hp) h.out
    all_goals
      have hli := h.excl i (by rw [hpc]; exact LPc.noConfusion)
      have ho := h.others_start i (.inr hli)
      have hen : enabled thr r.lvl.value = true := by
        obtain ⟨_, _, h1, hen⟩ := hcur (by rw [hpc]; exact LPc.noConfusion)
        cases h1; exact hen
    case locked =>
      exact h.upd i ⟨.prefixed, r :: rest⟩ rfl (fun j hji hj => absurd (ho j hji) hj) (fun _ => hli)
        (fun _ => ⟨r, rest, rfl, hen⟩) (fun _ _ _ ht => by cases ht; rfl) h.out
    case prefixed =>
      refine h.upd i ⟨.written, r :: rest⟩ rfl (fun j hji hj => absurd (ho j hji) hj) (fun _ => hli)
        (fun _ => ⟨r, rest, rfl, hen⟩) (fun _ _ hp => nomatch hp) fun e he => ?_
      rcases List.mem_cons.mp he with rfl | he
      · exact ⟨h.pfx i r rest hpc htodo, hen⟩
      · exact h.out e he
    case written =>
      exact h.upd i ⟨.start, rest⟩ rfl (fun j hji hj => absurd (ho j hji) hj) (absurd rfl) (absurd rfl)
        (fun _ _ hp => nomatch hp) h.out

theorem linv_reachable (thr : Int) (work : Nat → List Rec) (sched : List Nat) :
    LInv thr (lrun true thr (linit work) sched) :=
  List.foldlRecOn sched _ (linv_init thr work) fun s h i _ => linv_step thr s i h

/-- key/value pairs, and the odd argument at the end if there is one -/
structure Structured where
  pairs : List (String × String)
  tail : Option String
  deriving DecidableEq, Repr

def structured : List String → Structured
  | [] => ⟨[], none⟩
  | [a] => ⟨[], some a⟩
  | k :: v :: rest => ⟨(k, v) :: (structured rest).pairs, (structured rest).tail⟩

/-- back from the structured form to the flat argument list -/
def Structured.flat (s : Structured) : List String := s.pairs.flatMap (fun kv => [kv.1, kv.2]) ++ s.tail.toList

/-- the items that follow `msg=…`, each rendered on its own -/
def Structured.items (s : Structured) : List String := s.pairs.map (fun kv => kv.1 ++ "=" ++ kv.2) ++ s.tail.toList

theorem structured_flat : ∀ args : List String, (structured args).flat = args
  | [] => rfl
  | [_] => rfl
  | k :: v :: rest => by
    have ih := structured_flat rest
    simp only [Structured.flat, structured, List.flatMap_cons, List.cons_append, List.nil_append] at ih ⊢
    rw [ih]

/-- two more arguments: one more pair, the same parity -/
theorem half_add_two (n : Nat) : (n + 1 + 1) / 2 = n / 2 + 1 ∧ (n + 1 + 1) % 2 = n % 2 :=
  ⟨Nat.add_div_right n Nat.zero_lt_two, Nat.add_mod_right n 2⟩

theorem structured_counts : ∀ args : List String,
    (structured args).pairs.length = args.length / 2 ∧ ((structured args).tail.isSome ↔ args.length % 2 = 1)
  | [] => by simp [structured]
  | [_] => by simp [structured]
  | k :: v :: rest => by
    simp only [structured, List.length_cons, half_add_two, (structured_counts rest).1]
    exact ⟨trivial, (structured_counts rest).2⟩

/-- `String.join`, by its own two equations -/
def concat : List String → String
  | [] => ""
  | a :: t => a ++ concat t

/-- `formatArgs` = every item preceded by `", "` -/
theorem formatArgs_items : ∀ args : List String,
    formatArgs args = concat ((structured args).items.map (", " ++ ·))
  | [] => by simp [formatArgs, structured, Structured.items, concat]
  | [a] => by simp [formatArgs, structured, Structured.items, concat]
  | k :: v :: rest => by
    have ih := formatArgs_items rest
    simp only [formatArgs, structured, Structured.items, List.map_cons, List.cons_append, concat] at ih ⊢
    rw [ih]
    simp [String.append_assoc]

/-- item `j` of the line, by POSITION in the flat argument list (the Go loop `i = 2j`) -/
def itemAt (args : List String) (j : Nat) : String :=
  if 2 * j + 1 < args.length then ", " ++ args.getD (2 * j) "" ++ "=" ++ args.getD (2 * j + 1) ""
  else ", " ++ args.getD (2 * j) ""

theorem itemAt_succ (k v : String) (rest : List String) (j : Nat) :
    itemAt (k :: v :: rest) (j + 1) = itemAt rest j := by
  simp only [itemAt, List.length_cons, show 2 * (j + 1) = 2 * j + 1 + 1 from rfl, List.getD_cons_succ, Nat.add_lt_add_iff_right]

theorem formatArgs_indexed : ∀ args : List String,
    formatArgs args = concat ((List.range ((args.length + 1) / 2)).map (itemAt args))
  | [] => by simp [formatArgs, concat]
  | [a] => by simp [formatArgs, concat, itemAt, List.range_succ]
  | k :: v :: rest => by
    have hf : (itemAt (k :: v :: rest) ∘ Nat.succ) = itemAt rest := funext (itemAt_succ k v rest)
    rw [List.length_cons, List.length_cons, (half_add_two _).1, List.range_succ_eq_map, List.map_cons, List.map_map, hf, concat,
      ← formatArgs_indexed rest]
    simp [formatArgs, itemAt, String.append_assoc]
/-! ## nothing is lost: per goroutine, written ++ still to write = the enabled records of its work -/

def Emitted.record (e : Emitted) : Rec := ⟨e.lvl, e.msg⟩

/-- the records goroutine `i` has written so far, oldest first -/
def writtenBy (s : LState) (i : Nat) : List Rec := ((s.out.filter (fun e => e.tid = i)).map Emitted.record).reverse

/-- the enabled records a goroutine has still to write -/
def pending (thr : Int) (t : Thread) : List Rec :=
  match t.pc with
  | .written => t.todo.tail.filter (fun r => enabled thr r.lvl.value)
  | _ => t.todo.filter (fun r => enabled thr r.lvl.value)

def Complete (thr : Int) (work : Nat → List Rec) (s : LState) : Prop :=
  ∀ i, writtenBy s i ++ pending thr (s.th i) = (work i).filter (fun r => enabled thr r.lvl.value)

theorem complete_init (thr : Int) (work : Nat → List Rec) : Complete thr work (linit work) := by
  intro i; simp [writtenBy, pending, linit]

theorem Complete.upd {thr : Int} {work : Nat → List Rec} {s s' : LState} (hc : Complete thr work s) (i : Nat) (t : Thread)
    (hth : s'.th = updT s.th i t) (hout : ∀ j, j ≠ i → writtenBy s' j = writtenBy s j)
    (hi : writtenBy s' i ++ pending thr t = writtenBy s i ++ pending thr (s.th i)) : Complete thr work s' := by
  intro j
  rw [hth]
  by_cases hji : j = i
  · subst hji; rw [updT_same, hi]; exact hc j
  · rw [updT_other _ _ _ _ hji, hout j hji]; exact hc j

theorem complete_step (thr : Int) (work : Nat → List Rec) (s : LState) (i : Nat) (h : LInv thr s)
    (hc : Complete thr work s) : Complete thr work (lstep true thr s i) := by
  unfold lstep
  cases htodo : (s.th i).todo with
  | nil => exact hc
  | cons r rest =>
    cases hpc : (s.th i).pc <;> dsimp only
    case start =>
      cases hen : enabled thr r.lvl.value with
      | false => exact hc.upd i ⟨.start, rest⟩ rfl (fun _ _ => rfl) (by simp [writtenBy, pending, hpc, htodo, hen])
      | true =>
        cases hl : s.lock with
        | some k => exact hc
        | none => exact hc.upd i ⟨.locked, r :: rest⟩ rfl (fun _ _ => rfl) (by simp [writtenBy, pending, hpc, htodo])
    case locked => exact hc.upd i ⟨.prefixed, r :: rest⟩ rfl (fun _ _ => rfl) (by simp [writtenBy, pending, hpc, htodo])
    case prefixed =>
      obtain ⟨_, _, h1, hen⟩ := h.cur i (by rw [hpc]; exact LPc.noConfusion)
      rw [htodo] at h1; cases h1
      exact hc.upd i ⟨.written, r :: rest⟩ rfl (fun j hji => by simp [writtenBy, Ne.symm hji])
        (by simp [writtenBy, pending, hpc, htodo, hen, Emitted.record])
    case written => exact hc.upd i ⟨.start, rest⟩ rfl (fun _ _ => rfl) (by simp [writtenBy, pending, hpc, htodo])

theorem complete_reachable (thr : Int) (work : Nat → List Rec) (sched : List Nat) :
    Complete thr work (lrun true thr (linit work) sched) :=
  (List.foldlRecOn (motive := fun s => LInv thr s ∧ Complete thr work s) sched _ ⟨linv_init thr work, complete_init thr work⟩
    fun s h i _ => ⟨linv_step thr s i h.1, complete_step thr work s i h.1 h.2⟩).2

end Logger
