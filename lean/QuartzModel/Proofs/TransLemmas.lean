import QuartzModel.Proofs.TransRepr
/-!
# Stage A: the translated `CommonNode` (`Generated.Trans`, from `internal/csm/common_node.go`) against `Cron/Nodes.lean`

The equalities are proved for the node `mkCommon mn mx vs v` built from the model's `Nat` parameters (`*_mk`; used by
Stages B and C).  `eq_mk`: every node with non-negative fields (`CommonWF`) is of that form, which is how
`Theorems/TransCsm.lean` states them for such nodes.
-/
namespace TransA
open Generated.Trans Cron TransRepr

/-! ## comparisons of casts -/

theorem dec_le_cast (a b : Nat) : decide ((a : Int) ≤ (b : Int)) = decide (a ≤ b) :=
  decide_eq_decide.mpr Int.ofNat_le

theorem dec_lt_cast (a b : Nat) : decide ((a : Int) < (b : Int)) = decide (a < b) :=
  decide_eq_decide.mpr Int.ofNat_lt

theorem dec_eq_cast (a b : Nat) : decide ((a : Int) = (b : Int)) = decide (a = b) :=
  decide_eq_decide.mpr Int.ofNat_inj

theorem dec_ne_cast (a b : Nat) : decide ((a : Int) ≠ (b : Int)) = (a != b) := by
  rw [decide_not, dec_eq_cast]; rfl

/-! ## `ints` (a `Nat` list as a Go `[]int`) and Go indexing `idx` -/

theorem ints_length (l : List Nat) : (ints l).length = l.length := List.length_map _

/-- Go `len(xs) != 0` -/
theorem ints_length_ne (l : List Nat) : decide (((ints l).length : Int) ≠ 0) = decide (l ≠ []) :=
  decide_eq_decide.mpr (not_congr (by rw [ints_length, Int.natCast_eq_zero, List.length_eq_zero_iff]))

theorem ints_nil : ints [] = [] := rfl
theorem ints_cons (a : Nat) (t : List Nat) : ints (a :: t) = (a : Int) :: ints t := rfl

theorem ints_eq_nil (l : List Nat) : ints l = [] ↔ l = [] := List.map_eq_nil_iff

theorem idx_ints (l : List Nat) (i : Int) : idx (ints l) i = ((l.getD i.toNat 0 : Nat) : Int) := by
  unfold idx ints
  simp only [List.getD_eq_getElem?_getD, List.getElem?_map]
  cases l[i.toNat]? <;> rfl

theorem idx_ints_zero (l : List Nat) : idx (ints l) 0 = ((l.headD 0 : Nat) : Int) := by
  rw [idx_ints]; cases l <;> rfl

/-- Go `xs[i]` for an index in range, as the model reads it -/
theorem idx_ints_lt (D : List Nat) (i : Int) (k : Nat) (hi : i = k) (hk : k < D.length) :
    D[k]? = some (idx (ints D) i).toNat ∧ 0 ≤ idx (ints D) i := by
  subst hi
  rw [idx_ints, Int.toNat_natCast, Int.toNat_natCast, List.getD_eq_getElem?_getD, List.getElem?_eq_getElem hk]
  exact ⟨rfl, Int.natCast_nonneg _⟩

/-- Go `contains` on `[]int` is list membership -/
theorem trans_contains (l : List Nat) (x : Nat) : contains (ints l) (x : Int) = l.contains x := by
  induction l with
  | nil => rfl
  | cons a t ih =>
    rw [List.contains_cons, ← ih, Bool.beq_eq_decide_eq, ← dec_eq_cast]
    unfold contains
    rw [ints_cons, contains.loop1]
    cases decide ((x : Int) = a) <;> rfl

/-! ## `mkCommon` form -/

theorem hasRange_mk (mn mx : Nat) (vs : List Nat) (v : Nat) :
    CommonNode.hasRange (mkCommon mn mx vs v) = decide (vs ≠ []) :=
  ints_length_ne vs

theorem isValid_mk (mn mx : Nat) (vs : List Nat) (v : Nat) :
    CommonNode.isValid (mkCommon mn mx vs v) = commonValid mn mx vs v := by
  unfold CommonNode.isValid
  rw [hasRange_mk]
  simp only [mkCommon, trans_contains, commonValid]
  cases vs with
  | nil => simp
  | cons a t => simp

theorem nextInRange_loop (mn mx : Nat) (vs : List Nat) (v : Nat) (l : List Nat) :
    CommonNode.nextInRange.loop1 (mkCommon mn mx vs v) (ints l) =
      match l.find? (fun x => decide (v < x) && decide (x ≤ mx)) with
      | some x => Ctl.ret (mkCommon mn mx vs x, false)
      | none => Ctl.done (mkCommon mn mx vs v) := by
  induction l with
  | nil => rfl
  | cons a t ih =>
    rw [ints_cons, CommonNode.nextInRange.loop1, ih, List.find?_cons]
    show (if (decide ((v : Int) < (a : Int)) && decide ((a : Int) ≤ (mx : Int))) = true then _ else _) = _
    rw [dec_lt_cast, dec_le_cast]
    cases decide (v < a) && decide (a ≤ mx) <;> rfl

theorem nextInRange_mk (mn mx : Nat) (vs : List Nat) (v : Nat) :
    CommonNode.nextInRange (mkCommon mn mx vs v) =
      (mkCommon mn mx vs (nextInRange vs mx v).1, (nextInRange vs mx v).2) := by
  unfold CommonNode.nextInRange nextInRange
  have : (mkCommon mn mx vs v).values = ints vs := rfl
  rw [this, nextInRange_loop]
  cases vs.find? (fun x => decide (v < x) && decide (x ≤ mx)) with
  | some x => rfl
  | none => simp [mkCommon, idx_ints_zero]

theorem next_mk (mn mx : Nat) (v : Nat) :
    CommonNode.next (mkCommon mn mx [] v) =
      (if v + 1 > mx then (mkCommon mn mx [] mn, true) else (mkCommon mn mx [] (v + 1), false)) :=
  ite_congr (by rw [decide_eq_true_eq]; exact propext Int.ofNat_lt) (fun _ => rfl) (fun _ => rfl)

/-- Go `CommonNode.Next` -/
theorem Next_mk (mn mx : Nat) (vs : List Nat) (v : Nat) :
    CommonNode.Next (mkCommon mn mx vs v) =
      (mkCommon mn mx vs (commonNext mn mx vs v).1, (commonNext mn mx vs v).2) := by
  unfold CommonNode.Next commonNext
  rw [hasRange_mk]
  cases vs with
  | nil =>
    simp only [ne_eq, not_true_eq_false, decide_false, Bool.false_eq_true, ↓reduceIte, next_mk mn mx v]
    split <;> rfl
  | cons a t =>
    simp only [ne_eq, reduceCtorEq, not_false_eq_true, decide_true, ↓reduceIte, nextInRange_mk]

/-- Go `CommonNode.Reset` -/
theorem Reset_mk (mn mx : Nat) (vs : List Nat) (v : Nat) :
    CommonNode.Reset (mkCommon mn mx vs v) = mkCommon mn mx vs (commonReset mn mx vs) :=
  -- `Reset` sets the value to `max` and takes `Next`, as `commonReset` does
  congrArg Prod.fst (Next_mk mn mx vs mx)

/-- Go `CommonNode.findForward` -/
theorem findForward_mk (mn mx : Nat) (vs : List Nat) (v : Nat) :
    CommonNode.findForward (mkCommon mn mx vs v) =
      (if commonValid mn mx vs v then (mkCommon mn mx vs v, unchanged)
       else (mkCommon mn mx vs (commonNext mn mx vs v).1, ffCode (commonNext mn mx vs v).2)) := by
  unfold CommonNode.findForward
  rw [isValid_mk, Next_mk]
  cases commonValid mn mx vs v with
  | true => rfl
  | false =>
    simp only [Bool.not_false, ↓reduceIte, Bool.false_eq_true, ffCode]
    cases (commonNext mn mx vs v).2 <;> rfl

theorem Value_mk (mn mx : Nat) (vs : List Nat) (v : Nat) : CommonNode.Value (mkCommon mn mx vs v) = (v : Int) := rfl

/-! ## arbitrary well-formed nodes -/

/-- all fields of the node are non-negative (they are: limits and parsed values are) -/
structure CommonWF (n : CommonNode) : Prop where
  value : 0 ≤ n.value
  min : 0 ≤ n.min
  max : 0 ≤ n.max
  values : ∀ x ∈ n.values, 0 ≤ x

theorem ints_toNat (l : List Int) (h : ∀ x ∈ l, 0 ≤ x) : ints (l.map Int.toNat) = l := by
  unfold ints
  rw [List.map_map]
  exact (List.map_congr_left fun x hx => Int.toNat_of_nonneg (h x hx)).trans (List.map_id l)

theorem eq_mk (n : CommonNode) (h : CommonWF n) :
    n = mkCommon n.min.toNat n.max.toNat (n.values.map Int.toNat) n.value.toNat := by
  cases n with
  | mk value min max values =>
    have h1 := h.value; have h2 := h.min; have h3 := h.max
    simp only at h1 h2 h3
    simp only [mkCommon, ints_toNat values h.values, CommonNode.mk.injEq, and_true]
    omega

theorem mk_value (mn mx : Nat) (vs : List Nat) (v w : Nat) :
    ({ mkCommon mn mx vs v with value := (w : Int) } : CommonNode) = mkCommon mn mx vs w := rfl

theorem with_value (n : CommonNode) (h : CommonWF n) (w : Nat) :
    ({ n with value := (w : Int) } : CommonNode) = mkCommon n.min.toNat n.max.toNat (n.values.map Int.toNat) w :=
  congrArg (fun n : CommonNode => { n with value := (w : Int) }) (eq_mk n h)

end TransA
