import QuartzModel.Queue.Heap
/-!
# The `container/heap` model (`up`, `down`, `hpush`, `hpop`, `hremove`) keeps the heap order

`up` and `down` only exchange slots (`Swaps`: size, permutation, frame), and each of them repairs a heap
with one hole (`HeapBut`): `up` when the hole's children are in order, `down` when its parent is.
`hpop` and `hremove` exchange a slot with the last one, repair the prefix and cut the last slot off.
Core Lean only.
-/
namespace Queue

theorem size_swp (a : Arr) (i j : Nat) : (swp a i j).size = a.size := by
  unfold swp; split <;> simp

theorem swp_perm (a : Arr) (i j : Nat) : (swp a i j).toList.Perm a.toList := by
  unfold swp
  split
  · rename_i h
    exact Array.perm_iff_toList_perm.mp (Array.swap_perm h.1 h.2)
  · exact List.Perm.refl _

theorem swp_self (a : Arr) (i : Nat) : swp a i i = a := by
  unfold swp; split
  · simp [Array.swap]
  · rfl

theorem getElem?_swp_ne (a : Arr) (i j k : Nat) (hi : k ≠ i) (hj : k ≠ j) : (swp a i j)[k]? = a[k]? := by
  unfold swp
  split
  · rw [Array.getElem?_swap, if_neg (Ne.symm hj), if_neg (Ne.symm hi)]
  · rfl

theorem getElem?_swp_left (a : Arr) (i j : Nat) (hi : i < a.size) (hj : j < a.size) :
    (swp a i j)[i]? = a[j]? := by
  unfold swp
  rw [dif_pos ⟨hi, hj⟩, Array.getElem?_swap, if_pos rfl, Array.getElem?_eq_getElem hj]
  split
  · rename_i h; subst h; rfl
  · rfl

theorem getElem?_swp_right (a : Arr) (i j : Nat) (hi : i < a.size) (hj : j < a.size) :
    (swp a i j)[j]? = a[i]? := by
  unfold swp
  rw [dif_pos ⟨hi, hj⟩, Array.getElem?_swap, if_pos rfl, Array.getElem?_eq_getElem hi]

theorem prioAt_congr (a b : Arr) (k l : Nat) (h : a[k]? = b[l]?) : prioAt a k = prioAt b l := by
  unfold prioAt
  rw [Array.getD_eq_getD_getElem?, Array.getD_eq_getD_getElem?, h]

theorem prioAt_swp_left (a : Arr) (i j : Nat) (hi : i < a.size) (hj : j < a.size) :
    prioAt (swp a i j) i = prioAt a j :=
  prioAt_congr _ _ _ _ (getElem?_swp_left a i j hi hj)

theorem prioAt_swp_right (a : Arr) (i j : Nat) (hi : i < a.size) (hj : j < a.size) :
    prioAt (swp a i j) j = prioAt a i :=
  prioAt_congr _ _ _ _ (getElem?_swp_right a i j hi hj)

theorem prioAt_swp_ne (a : Arr) (i j k : Nat) (hi : k ≠ i) (hj : k ≠ j) : prioAt (swp a i j) k = prioAt a k :=
  prioAt_congr _ _ _ _ (getElem?_swp_ne a i j k hi hj)

theorem prioAt_of_getElem? (a : Arr) (k : Nat) (e : Entry) (h : a[k]? = some e) :
    prioAt a k = e.prio := by
  unfold prioAt
  rw [Array.getD_eq_getD_getElem?, h]; rfl

/-- `b` arises from `a` by exchanging slots below `n` -/
inductive Swaps (n : Nat) : Arr → Arr → Prop
  | refl (a : Arr) : Swaps n a a
  | step {a b : Arr} {i j : Nat} (hi : i < n) (hj : j < n) (h : Swaps n (swp a i j) b) : Swaps n a b

theorem Swaps.size {n : Nat} {a b : Arr} (h : Swaps n a b) : b.size = a.size := by
  induction h with
  | refl => rfl
  | step _ _ _ ih => rw [ih, size_swp]

theorem Swaps.perm {n : Nat} {a b : Arr} (h : Swaps n a b) : b.toList.Perm a.toList := by
  induction h with
  | refl => exact List.Perm.refl _
  | step _ _ _ ih => exact ih.trans (swp_perm _ _ _)

theorem Swaps.frame {n : Nat} {a b : Arr} (h : Swaps n a b) (k : Nat) (hk : n ≤ k) : b[k]? = a[k]? := by
  induction h with
  | refl => rfl
  | step hi hj _ ih =>
    rw [ih, getElem?_swp_ne _ _ _ _ (Nat.ne_of_gt (Nat.lt_of_lt_of_le hi hk)) (Nat.ne_of_gt (Nat.lt_of_lt_of_le hj hk))]

theorem Swaps.trans {n : Nat} {a b c : Arr} (h : Swaps n a b) (h' : Swaps n b c) : Swaps n a c := by
  induction h with
  | refl => exact h'
  | step hi hj _ ih => exact .step hi hj (ih h')

theorem par_lt {k : Nat} (h : 0 < k) : (k - 1) / 2 < k :=
  Nat.lt_of_le_of_lt (Nat.div_le_self _ _) (Nat.sub_lt h Nat.one_pos)

theorem up_swaps (a : Arr) (j n : Nat) (hj : j < n) : Swaps n a (up a j) := by
  fun_induction up a j with
  | case1 a => exact .refl a
  | case2 a j h0 i _ ih =>
    have hi : i < n := Nat.lt_trans (par_lt (Nat.pos_of_ne_zero h0)) hj
    exact .step hi hj (ih hi)
  | case3 a j _ i _ => exact .refl a

theorem up_zero (a : Arr) : up a 0 = a := by rw [up, dif_pos rfl]

theorem child_lt (a : Arr) (i n : Nat) (h : 2 * i + 1 < n) : child a i n < n := by
  unfold child; split
  · rename_i hc; omega
  · omega

theorem down_swaps (a : Arr) (i n : Nat) : Swaps n a (down a i n).1 := by
  fun_induction down a i n with
  | case1 a i hlt j _ ih => exact .step (by omega) (child_lt a i n hlt) ih
  | case2 a i _ j _ => exact .refl a
  | case3 a i _ => exact .refl a

theorem up_size (a : Arr) (j : Nat) : (up a j).size = a.size := (up_swaps a j (j + 1) (by omega)).size

theorem down_size (a : Arr) (i n : Nat) : (down a i n).1.size = a.size := (down_swaps a i n).size

theorem down_false (a : Arr) (i n : Nat) (h : (down a i n).2 = false) : (down a i n).1 = a := by
  revert h
  fun_cases down a i n with
  | case1 => exact fun h => nomatch h
  | case2 => exact fun _ => rfl
  | case3 => exact fun _ => rfl

theorem lt_of_par_eq {c i : Nat} (hc : 0 < c) (h : (c - 1) / 2 = i) : i < c := h ▸ par_lt hc

theorem child_of_par_eq {c i : Nat} (hc : 0 < c) (h : (c - 1) / 2 = i) : c = 2 * i + 1 ∨ c = 2 * i + 2 := by
  omega

theorem child_par (a : Arr) (i n : Nat) : 0 < child a i n ∧ (child a i n - 1) / 2 = i := by
  unfold child; split
  · exact ⟨Nat.succ_pos _, Nat.mul_add_div Nat.two_pos i 1⟩
  · exact ⟨Nat.succ_pos _, Nat.mul_div_cancel_left i Nat.two_pos⟩

def LeChildren (a : Arr) (v : Int) (i n : Nat) : Prop :=
  ∀ c, 0 < c → c < n → (c - 1) / 2 = i → v ≤ prioAt a c

theorem LeChildren.of_le {a : Arr} {v w : Int} {i n : Nat} (h : LeChildren a w i n) (hvw : v ≤ w) :
    LeChildren a v i n :=
  fun c hc hcn hcp => Int.le_trans hvw (h c hc hcn hcp)

theorem leChildren_of_leaf {a : Arr} {v : Int} {i n : Nat} (hge : ¬ 2 * i + 1 < n) : LeChildren a v i n :=
  fun c hc hcn hcp => absurd hcn (by have := child_of_par_eq hc hcp; omega)

theorem child_min (a : Arr) (i n : Nat) : LeChildren a (prioAt a (child a i n)) i n := by
  intro c hc hcn hcp
  unfold child
  split
  · rename_i hr
    rcases child_of_par_eq hc hcp with rfl | rfl
    · exact Int.le_of_lt hr.2
    · exact Int.le_refl _
  · rename_i hr
    rcases child_of_par_eq hc hcp with rfl | rfl
    · exact Int.le_refl _
    · exact Int.not_lt.mp fun hh => hr ⟨hcn, hh⟩

/-- heap order on the prefix `[0, n)` -/
def IsHeapN (a : Arr) (n : Nat) : Prop := ∀ k, 0 < k → k < n → prioAt a ((k - 1) / 2) ≤ prioAt a k

/-- heap order on `[0, n)` except on the edges at `i`, whose children dominate its parent instead;
the priority at `i` is not mentioned -/
def HeapBut (a : Arr) (i n : Nat) : Prop :=
  (∀ k, 0 < k → k < n → k ≠ i → (k - 1) / 2 ≠ i → prioAt a ((k - 1) / 2) ≤ prioAt a k) ∧
  (0 < i → LeChildren a (prioAt a ((i - 1) / 2)) i n)

theorem IsHeapN.mono {a : Arr} {n m : Nat} (h : IsHeapN a n) (hm : m ≤ n) : IsHeapN a m :=
  fun k hk hkm => h k hk (Nat.lt_of_lt_of_le hkm hm)

theorem IsHeapN.heapBut {a : Arr} {n : Nat} (h : IsHeapN a n) (i : Nat) : HeapBut a i n :=
  ⟨fun k hk hkn _ _ => h k hk hkn, fun hi c hc hcn hcp =>
    Int.le_trans (h i hi (Nat.lt_trans (lt_of_par_eq hc hcp) hcn)) (hcp ▸ h c hc hcn)⟩

theorem IsHeapN.heapBut_last {a : Arr} {n : Nat} (h : IsHeapN a n) : HeapBut a n (n + 1) :=
  ⟨fun k hk hkn hne _ => h k hk (Nat.lt_of_le_of_ne (Nat.le_of_lt_succ hkn) hne),
   fun _ => leChildren_of_leaf (by omega)⟩

theorem HeapBut.heap {a : Arr} {i n : Nat} (h : HeapBut a i n)
    (hp : 0 < i → prioAt a ((i - 1) / 2) ≤ prioAt a i)
    (hc : LeChildren a (prioAt a i) i n) : IsHeapN a n := by
  intro k hk hkn
  by_cases h1 : k = i
  · subst h1; exact hp hk
  · by_cases h2 : (k - 1) / 2 = i
    · rw [h2]; exact hc k hk hkn h2
    · exact h.1 k hk hkn h1 h2

theorem HeapBut.congr {a b : Arr} {i n : Nat} (h : HeapBut a i n)
    (hb : ∀ k, k < n → k ≠ i → prioAt b k = prioAt a k) : HeapBut b i n := by
  constructor
  · intro k hk hkn h1 h2
    rw [hb k hkn h1, hb _ (Nat.lt_trans (par_lt hk) hkn) h2]
    exact h.1 k hk hkn h1 h2
  · intro hi c hc hcn hcp
    have hic := lt_of_par_eq hc hcp
    rw [hb c hcn (Nat.ne_of_gt hic), hb _ (Nat.lt_trans (par_lt hi) (Nat.lt_trans hic hcn)) (Nat.ne_of_lt (par_lt hi))]
    exact h.2 hi c hc hcn hcp

/-- exchanging the hole `j` with its parent `i`, larger than `j`, moves the hole up, and the new hole is below
its children -/
theorem HeapBut.move_up {a : Arr} {i j n : Nat} (h : HeapBut a j n) (hn : n ≤ a.size) (hj : j < n)
    (h0 : 0 < j) (hi : (j - 1) / 2 = i) (hlt : prioAt a j < prioAt a i) :
    HeapBut (swp a i j) i n ∧ LeChildren (swp a i j) (prioAt (swp a i j) i) i n := by
  have hij : i < j := lt_of_par_eq h0 hi
  have hja : j < a.size := Nat.lt_of_lt_of_le hj hn
  have pl := prioAt_swp_left a i j (Nat.lt_trans hij hja) hja
  have pr := prioAt_swp_right a i j (Nat.lt_trans hij hja) hja
  have pn := prioAt_swp_ne a i j
  -- an edge from `i` to a child `c ≠ j`, which is in order before the exchange
  have hic : ∀ c, 0 < c → c < n → (c - 1) / 2 = i → c ≠ j →
      prioAt (swp a i j) c = prioAt a c ∧ prioAt a i ≤ prioAt a c := fun c hc hcn hcp hcj =>
    ⟨pn c (Nat.ne_of_gt (lt_of_par_eq hc hcp)) hcj, hcp ▸ h.1 c hc hcn hcj (hcp ▸ Nat.ne_of_lt hij)⟩
  refine ⟨⟨fun k hk hkn h1 h2 => ?_, fun hi0 c hc hcn hcp => ?_⟩, fun c hc hcn hcp => ?_⟩
  · have hkj : k ≠ j := fun e => h2 (e ▸ hi)
    rw [pn k h1 hkj]
    by_cases h3 : (k - 1) / 2 = j
    · rw [h3, pr, ← hi]; exact h.2 h0 k hk hkn h3
    · rw [pn _ h2 h3]; exact h.1 k hk hkn hkj h3
  · have hpj : (i - 1) / 2 ≠ j := Nat.ne_of_lt (Nat.lt_trans (par_lt hi0) hij)
    have hpi := h.1 i hi0 (Nat.lt_trans hij hj) (Nat.ne_of_lt hij) hpj
    rw [pn _ (Nat.ne_of_lt (par_lt hi0)) hpj]
    by_cases h3 : c = j
    · rw [h3, pr]; exact hpi
    · rw [(hic c hc hcn hcp h3).1]; exact Int.le_trans hpi (hic c hc hcn hcp h3).2
  · rw [pl]
    by_cases h3 : c = j
    · rw [h3, pr]; exact Int.le_of_lt hlt
    · rw [(hic c hc hcn hcp h3).1]; exact Int.le_trans (Int.le_of_lt hlt) (hic c hc hcn hcp h3).2

/-- exchanging the hole `i` with its smallest child `j`, smaller than `i`, moves the hole down, and the new
hole is above its parent -/
theorem HeapBut.move_down {a : Arr} {i j n : Nat} (h : HeapBut a i n) (hn : n ≤ a.size) (hjn : j < n)
    (h0 : 0 < j) (hj : (j - 1) / 2 = i) (hlt : prioAt a j < prioAt a i)
    (hmin : LeChildren a (prioAt a j) i n) :
    HeapBut (swp a i j) j n ∧ (0 < j → prioAt (swp a i j) ((j - 1) / 2) ≤ prioAt (swp a i j) j) := by
  have hij : i < j := lt_of_par_eq h0 hj
  have hja : j < a.size := Nat.lt_of_lt_of_le hjn hn
  have pl := prioAt_swp_left a i j (Nat.lt_trans hij hja) hja
  have pr := prioAt_swp_right a i j (Nat.lt_trans hij hja) hja
  have pn := prioAt_swp_ne a i j
  refine ⟨⟨fun k hk hkn h1 h2 => ?_, fun _ c hc hcn hcp => ?_⟩, fun _ => ?_⟩
  · by_cases h3 : k = i
    · rw [h3, pl, pn _ (Nat.ne_of_lt (par_lt (h3 ▸ hk))) (h3 ▸ h2)]; exact h.2 (h3 ▸ hk) j h0 hjn hj
    · rw [pn k h3 h1]
      by_cases h4 : (k - 1) / 2 = i
      · rw [h4, pl]; exact hmin k hk hkn h4
      · rw [pn _ h4 h2]; exact h.1 k hk hkn h3 h4
  · have hjc := lt_of_par_eq hc hcp
    rw [hj, pl, pn c (Nat.ne_of_gt (Nat.lt_trans hij hjc)) (Nat.ne_of_gt hjc)]
    exact hcp ▸ h.1 c hc hcn (Nat.ne_of_gt (Nat.lt_trans hij hjc)) (hcp ▸ Nat.ne_of_gt hij)
  · rw [hj, pl, pr]; exact Int.le_of_lt hlt

theorem up_heapN (a : Arr) (j n : Nat) (hn : n ≤ a.size) (hj : j < n) (h : HeapBut a j n)
    (hc : LeChildren a (prioAt a j) j n) : IsHeapN (up a j) n := by
  fun_induction up a j with
  | case1 a => exact h.heap (fun h0 => absurd h0 (Nat.lt_irrefl 0)) hc
  | case2 a j h0 i hlt ih =>
    have hpos := Nat.pos_of_ne_zero h0
    obtain ⟨h', hc'⟩ := h.move_up hn hj hpos rfl hlt
    exact ih (by rw [size_swp]; exact hn) (Nat.lt_trans (par_lt hpos) hj) h' hc'
  | case3 a j _ i hge => exact h.heap (fun _ => Int.not_lt.mp hge) hc

theorem down_heapN (a : Arr) (i n : Nat) (hn : n ≤ a.size) (h : HeapBut a i n)
    (hp : 0 < i → prioAt a ((i - 1) / 2) ≤ prioAt a i) : IsHeapN (down a i n).1 n := by
  fun_induction down a i n with
  | case1 a i hlt j hless ih =>
    obtain ⟨h', hp'⟩ := h.move_down hn (child_lt a i n hlt) (child_par a i n).1 (child_par a i n).2 hless
      (child_min a i n)
    exact ih (by rw [size_swp]; exact hn) h' hp'
  | case2 a i _ j hge => exact h.heap hp ((child_min a i n).of_le (Int.not_lt.mp hge))
  | case3 a i hge => exact h.heap hp (leChildren_of_leaf hge)

theorem down_eq_self (a : Arr) (i n : Nat)
    (hc : LeChildren a (prioAt a i) i n) : down a i n = (a, false) := by
  unfold down
  split
  · rename_i hlt
    rw [if_neg (Int.not_lt.mpr (hc _ (child_par a i n).1 (child_lt a i n hlt) (child_par a i n).2))]
  · rfl

/-- Go `heap.Fix`, as `heap.Remove` inlines it: `down`, and `up` if `down` moved nothing -/
def fix (a : Arr) (i n : Nat) : Arr :=
  if (down a i n).2 then (down a i n).1 else up (down a i n).1 i

theorem fix_swaps (a : Arr) (i n : Nat) (hi : i < n) : Swaps n a (fix a i n) := by
  unfold fix
  split
  · exact down_swaps a i n
  · exact (down_swaps a i n).trans (up_swaps _ i n hi)

theorem fix_heapN (a : Arr) (i n : Nat) (hn : n ≤ a.size) (hi : i < n) (h : HeapBut a i n) :
    IsHeapN (fix a i n) n := by
  unfold fix
  by_cases hp : 0 < i → prioAt a ((i - 1) / 2) ≤ prioAt a i
  · -- the hole is above its parent: `down` repairs it, and `up` then runs on a heap
    have hd := down_heapN a i n hn h hp
    split
    · exact hd
    · refine up_heapN _ i n (by rw [down_size]; exact hn) hi (hd.heapBut i) fun c hc hcn hcp => ?_
      have := hd c hc hcn
      rwa [hcp] at this
  · -- the hole is below its parent, hence below its children: `down` does nothing, `up` repairs
    have hpos : 0 < i := Nat.pos_of_ne_zero fun e => hp fun h0 => absurd h0 (e ▸ Nat.lt_irrefl 0)
    have hlt : prioAt a i < prioAt a ((i - 1) / 2) := Int.not_le.mp fun hle => hp fun _ => hle
    have hc : LeChildren a (prioAt a i) i n := (h.2 hpos).of_le (Int.le_of_lt hlt)
    rw [down_eq_self a i n hc]
    exact up_heapN a i n hn hi h hc

theorem prioAt_root_le (a : Arr) (n : Nat) (h : IsHeapN a n) (k : Nat) (hk : k < n) :
    prioAt a 0 ≤ prioAt a k := by
  induction k using Nat.strongRecOn with
  | _ k ih =>
    by_cases h0 : k = 0
    · subst h0; exact Int.le_refl _
    · have hk0 := Nat.pos_of_ne_zero h0
      exact Int.le_trans (ih _ (par_lt hk0) (Nat.lt_trans (par_lt hk0) hk)) (h k hk0 hk)

theorem heapN_root_min (a : Arr) (h : IsHeapN a a.size) (e : Entry) (h0 : a[0]? = some e) :
    ∀ x ∈ a.toList, e.prio ≤ x.prio := by
  intro x hx
  obtain ⟨k, hk, rfl⟩ := Array.mem_iff_getElem.mp (Array.mem_toList_iff.mp hx)
  have := prioAt_root_le a a.size h k hk
  rwa [prioAt_of_getElem? a 0 e h0, prioAt_of_getElem? a k _ (Array.getElem?_eq_getElem hk)] at this

theorem prioAt_push_lt (a : Arr) (e : Entry) (k : Nat) (hk : k < a.size) :
    prioAt (a.push e) k = prioAt a k := by
  apply prioAt_congr
  rw [Array.getElem?_push_lt hk, Array.getElem?_eq_getElem hk]

theorem hpush_size (a : Arr) (e : Entry) : (hpush a e).size = a.size + 1 := by
  unfold hpush; rw [up_size]; simp

theorem hpush_perm (a : Arr) (e : Entry) : (hpush a e).toList.Perm (e :: a.toList) := by
  unfold hpush
  refine (up_swaps _ _ (a.size + 1) (by omega)).perm.trans ?_
  simp only [Array.toList_push]
  exact List.perm_append_singleton _ _

theorem hpush_heapN (a : Arr) (e : Entry) (h : IsHeapN a a.size) :
    IsHeapN (hpush a e) (hpush a e).size := by
  rw [hpush_size]
  have h' : IsHeapN (a.push e) a.size := fun k hk hkn => by
    rw [prioAt_push_lt _ _ _ hkn, prioAt_push_lt _ _ _ (by omega)]; exact h k hk hkn
  exact up_heapN _ _ _ (by simp) (by omega) h'.heapBut_last (leChildren_of_leaf (by omega))

theorem hpop_empty (a : Arr) (h : a.size = 0) : hpop a = (a, none) := by
  unfold hpop; simp [h]

theorem hremove_eq (a : Arr) (i n : Nat) (hn : a.size = n + 1) (hi : i ≤ n) :
    ∃ a2, hremove a i = (a2.pop, a2.back?) ∧ Swaps n (swp a i n) a2 ∧
      (IsHeapN a (n + 1) → IsHeapN a2 n) := by
  have hg : ¬ (a.size = 0 ∨ i ≥ a.size) := by omega
  by_cases hni : n = i
  · refine ⟨a, ?_, ?_, fun h => h.mono (Nat.le_succ n)⟩
    · unfold hremove
      rw [if_neg hg]
      simp only [hn, Nat.add_sub_cancel, hni, ne_eq, not_true_eq_false, if_false]
    · rw [← hni, swp_self]; exact .refl a
  · have hin : i < n := by omega
    refine ⟨fix (swp a i n) i n, ?_, fix_swaps _ i n hin, fun h => ?_⟩
    · unfold hremove
      rw [if_neg hg]
      simp only [hn, Nat.add_sub_cancel, ne_eq, hni, not_false_eq_true, if_true]
      rfl
    · exact fix_heapN _ i n (by rw [size_swp]; omega) hin <|
        ((h.mono (Nat.le_succ n)).heapBut i).congr fun k hkn hki => prioAt_swp_ne a i n k hki (Nat.ne_of_lt hkn)

/-- the cut-off slot holds the old `a[i]`, the rest are the other entries, in heap order if those of `a` are -/
theorem hremove_core (a : Arr) (i : Nat) (hi : i < a.size) :
    ∃ a' e, hremove a i = (a', some e) ∧ a'.size + 1 = a.size ∧ a[i]? = some e ∧
      a.toList.Perm (e :: a'.toList) ∧ (IsHeapN a a.size → IsHeapN a' a'.size) := by
  obtain ⟨n, hn⟩ : ∃ n, a.size = n + 1 := ⟨a.size - 1, by omega⟩
  obtain ⟨a2, hr, hs, hh⟩ := hremove_eq a i n hn (by omega)
  have hs2 : a2.size = n + 1 := by rw [hs.size, size_swp, hn]
  have hl : a2[n]? = a[i]? := by
    rw [hs.frame n (Nat.le_refl n), getElem?_swp_right a i n (by omega) (by omega)]
  have hp : a2.toList.Perm a.toList := hs.perm.trans (swp_perm _ _ _)
  obtain ⟨ys, x, rfl⟩ := Array.exists_push_of_size_pos (xs := a2) (by omega)
  have hys : ys.size = n := by simpa using hs2
  subst hys
  rw [hr, hn]
  refine ⟨ys, x, by simp, rfl, by simpa using hl.symm, ?_, fun h k hk hkn => ?_⟩
  · exact hp.symm.trans (by simp only [Array.toList_push]; exact List.perm_append_singleton _ _)
  · have := hh h k hk hkn
    rwa [prioAt_push_lt _ _ _ (Nat.lt_trans (par_lt hk) hkn), prioAt_push_lt _ _ _ hkn] at this

/-- `heap.Pop` is `heap.Remove` at the root -/
theorem hpop_eq_hremove (a : Arr) : hpop a = hremove a 0 := by
  unfold hpop hremove
  by_cases h0 : a.size = 0
  · rw [if_pos h0, if_pos (Or.inl h0)]
  · rw [if_neg h0, if_neg (by omega)]
    by_cases hn : a.size - 1 = 0
    · simp only [hn, swp_self, ne_eq, not_true_eq_false, if_false]
      rw [down, dif_neg (by omega)]
    · simp only [ne_eq, hn, not_false_eq_true, if_true, up_zero, ite_self]

theorem hpop_core (a : Arr) (hne : a.size ≠ 0) :
    ∃ a' e, hpop a = (a', some e) ∧ a'.size + 1 = a.size ∧ a[0]? = some e ∧
      a.toList.Perm (e :: a'.toList) ∧ (IsHeapN a a.size → IsHeapN a' a'.size) :=
  hpop_eq_hremove a ▸ hremove_core a 0 (Nat.pos_of_ne_zero hne)

theorem hremove_size_le (a : Arr) (i : Nat) : (hremove a i).1.size ≤ a.size := by
  by_cases hi : i < a.size
  · obtain ⟨a', e, he, hs, _⟩ := hremove_core a i hi
    rw [he]; exact Nat.le.intro hs
  · rw [hremove, if_pos (Or.inr (Nat.le_of_not_lt hi))]; exact Nat.le_refl _

end Queue
