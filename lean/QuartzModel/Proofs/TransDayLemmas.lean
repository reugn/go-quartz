import QuartzModel.Proofs.TransLemmas
import QuartzModel.Proofs.CalendarLemmas
import QuartzModel.Proofs.DayContract
import QuartzModel.Proofs.DaySpec
import QuartzModel.Proofs.CommonNode
/-!
# Stage B: the translated `DayNode` (`Generated.Trans`, from `internal/csm/day_node.go` and `util.go`, instantiated at
`Cron.goTime`) against the day node of `Cron/Nodes.lean`

For `1 ≤ m ≤ 12`, any year `y : Nat` (also 0), fuel `≥ 32`, `dc = dayCfg {} f`, `WellFormed f`; the digit bound `v ≤ 31` is
used by `trans_dayNext` and `trans_dayFindForward` only (a weekday offset from `v` must land within the following month).
Stage C (the state machine) consumes `trans_dayIsValid`, `trans_dayNext`, `trans_dayFindForward`, `trans_dayReset`.

None needs `1 ≤ v`.  None needs `1 ≤ y`: `goTime` reads ordinals `≤ 0` as December of year -1, as Go does
(`goMonth_under_ne` is where this is used).  Were they clamped to 0 by `Int.toNat`, `trans_closestWeekday` and hence the
last four would be false at `y = 0, m = 1` for `1W` (`closestWeekday goTime (dayNumber 0 1 1)` would be `0`, the model's `3`).
The CommonNode equalities are those of Stage A (`TransA.*_mk`, `Proofs/TransLemmas.lean`).
-/
namespace TransDay
open Generated.Trans Cron Cal TransRepr TransA

/- `id rfl`: deliberately NOT `rfl`-lemmas, so that `simp` rewrites with congruence (a `dsimp` step would leave
`Decidable` instances mentioning `goTime.month`, which later `simp` calls reject) -/
theorem T_date : goTime.date = goDate := id rfl
theorem T_day : goTime.day = goDay := id rfl
theorem T_month : goTime.month = goMonth := id rfl
theorem T_year : goTime.year = goYear := id rfl
theorem T_weekday : goTime.weekday = goWeekday := id rfl

theorem dayNumber_lin (y m d : Nat) : dayNumber y m d = dayNumber y m 0 + d := by
  unfold dayNumber; omega

theorem dayNumber_add (y m d k : Nat) : dayNumber y m (d + k) = dayNumber y m d + k :=
  (Nat.add_assoc _ _ _).symm

theorem goDate_int (y m : Nat) (d : Int) (hm1 : 1 ≤ m) (hm12 : m ≤ 12) :
    goDate (y : Int) (m : Int) d = (dayNumber y m 0 : Int) + d := by
  have hm : (0 : Int) ≤ (m : Int) - 1 := Int.sub_nonneg_of_le (Int.ofNat_le.mpr hm1)
  have hm' : (m : Int) - 1 < 12 := Int.sub_one_lt_of_le (Int.ofNat_le.mpr hm12)
  unfold goDate
  simp only [Int.ediv_eq_zero_of_lt hm hm', Int.emod_eq_of_lt hm hm', Int.add_zero, Int.sub_add_cancel,
    Int.toNat_natCast]
  rw [dayNumber_lin y m 1]; omega

def nxt (y m : Nat) : Nat × Nat := if m = 12 then (y + 1, 1) else (y, m + 1)

theorem nxt_ok (y m : Nat) (hm12 : m ≤ 12) :
    1 ≤ (nxt y m).2 ∧ (nxt y m).2 ≤ 12 ∧ (nxt y m).2 ≠ m := by
  unfold nxt
  split
  · rename_i h; subst h; exact ⟨Nat.le_refl 1, (by decide : 1 ≤ 12), (by decide : 1 ≠ 12)⟩
  · rename_i h; exact ⟨Nat.succ_pos m, Nat.lt_of_le_of_ne hm12 h, Nat.succ_ne_self m⟩

theorem dayNumber_over (y m k : Nat) (hm1 : 1 ≤ m) (hm12 : m ≤ 12) :
    dayNumber y m (dim y m + k) = dayNumber (nxt y m).1 (nxt y m).2 k := by
  unfold nxt
  split
  · -- December: the year ends
    rename_i h; subst h
    simp only [dayNumber, yearLen y, daysBeforeMonth_one, ← daysBeforeMonth_twelve y]
    omega
  · rename_i h
    simp only [dayNumber, monthLen y m hm1 (Nat.lt_of_le_of_ne hm12 h)]
    omega

theorem goDate_nxt (y m : Nat) (d : Int) (hm1 : 1 ≤ m) (hm12 : m ≤ 12) :
    goDate ((nxt y m).1 : Int) ((nxt y m).2 : Int) d = (dayNumber y m (dim y m) : Int) + d := by
  have hn := nxt_ok y m hm12
  rw [goDate_int _ _ d hn.1 hn.2.1, ← dayNumber_over y m 0 hm1 hm12]
  rfl

/-- `time.Date` normalises month 13 into January of the next year -/
theorem goDate_succ_month (y m : Nat) (d : Int) (hm1 : 1 ≤ m) (hm12 : m ≤ 12) :
    goDate (y : Int) ((m : Int) + 1) d = (dayNumber y m (dim y m) : Int) + d := by
  rw [← goDate_nxt y m d hm1 hm12]
  unfold nxt
  split
  · rename_i h; subst h
    simp only [goDate, Int.natCast_add]
    rfl
  · rfl

theorem goDate_valid (y m d : Nat) (hm1 : 1 ≤ m) (hm12 : m ≤ 12) :
    goDate (y : Int) (m : Int) (d : Int) = (dayNumber y m d : Int) := by
  rw [goDate_int y m d hm1 hm12, dayNumber_lin y m d, Int.natCast_add]

/-- every month but January of year 0 follows some month -/
theorem exists_prev (y m : Nat) (hm1 : 1 ≤ m) (hm12 : m ≤ 12) (hy : 1 ≤ y ∨ 2 ≤ m) :
    ∃ y' m', 1 ≤ m' ∧ m' ≤ 12 ∧ nxt y' m' = (y, m) := by
  by_cases h : m = 1
  · subst h
    exact ⟨y - 1, 12, by decide, by decide, by show (y - 1 + 1, 1) = (y, 1); rw [Nat.sub_add_cancel (by omega)]⟩
  · exact ⟨y, m - 1, by omega, by omega, by unfold nxt; rw [if_neg (by omega), Nat.sub_add_cancel hm1]⟩

theorem dayNumber_pos (y m d : Nat) (hv : ValidDate y m d) : ¬ ((dayNumber y m d : Int) ≤ 0) := by
  have := hv.2.2.1
  have := dayNumber_lin y m d
  omega

theorem goDay_dn (y m d : Nat) (hv : ValidDate y m d) : goDay (dayNumber y m d : Int) = (d : Int) := by
  unfold goDay; rw [if_neg (dayNumber_pos y m d hv), Int.toNat_natCast, civilOfDay_dayNumber y m d hv]

theorem goMonth_dn (y m d : Nat) (hv : ValidDate y m d) : goMonth (dayNumber y m d : Int) = (m : Int) := by
  unfold goMonth; rw [if_neg (dayNumber_pos y m d hv), Int.toNat_natCast, civilOfDay_dayNumber y m d hv]

theorem goYear_dn (y m d : Nat) (hv : ValidDate y m d) : goYear (dayNumber y m d : Int) = (y : Int) := by
  unfold goYear; rw [if_neg (dayNumber_pos y m d hv), Int.toNat_natCast, civilOfDay_dayNumber y m d hv]

theorem goWeekday_dn (y m d : Nat) : goWeekday (dayNumber y m d : Int) = (weekday y m d : Int) := by
  unfold goWeekday weekday; omega

theorem validDate_over (y m k : Nat) (hm12 : m ≤ 12) (hk1 : 1 ≤ k) (hk : k ≤ 28) :
    ValidDate (nxt y m).1 (nxt y m).2 k := by
  have a := nxt_ok y m hm12
  have b := dim_bounds (nxt y m).1 (nxt y m).2
  exact ⟨a.1, a.2.1, hk1, Nat.le_trans hk b.1⟩

theorem goDay_over (y m k : Nat) (hm1 : 1 ≤ m) (hm12 : m ≤ 12) (hk1 : 1 ≤ k) (hk : k ≤ 28) :
    goDay (dayNumber y m (dim y m + k) : Int) = (k : Int) := by
  rw [dayNumber_over y m k hm1 hm12]; exact goDay_dn _ _ _ (validDate_over y m k hm12 hk1 hk)

theorem goMonth_over_ne (y m k : Nat) (hm1 : 1 ≤ m) (hm12 : m ≤ 12) (hk1 : 1 ≤ k) (hk : k ≤ 28) :
    goMonth (dayNumber y m (dim y m + k) : Int) ≠ (m : Int) := by
  rw [dayNumber_over y m k hm1 hm12, goMonth_dn _ _ _ (validDate_over y m k hm12 hk1 hk)]
  exact fun e => (nxt_ok y m hm12).2.2 (Int.ofNat_inj.mp e)

/-- (ordinals `≤ 0` read as December of year -1) -/
theorem goMonth_under_ne (y m j : Nat) (hm1 : 1 ≤ m) (hm12 : m ≤ 12) (hj : j ≤ 27) :
    goMonth ((dayNumber y m 0 : Int) - j) ≠ (m : Int) := by
  by_cases hy : 1 ≤ y ∨ 2 ≤ m
  · -- day `0 - j` is day `dim - j` of the month before
    obtain ⟨y', m', h1, h12, hn⟩ := exists_prev y m hm1 hm12 hy
    have a := dayNumber_over y' m' 0 h1 h12
    have hne := (nxt_ok y' m' h12).2.2
    rw [hn] at hne
    rw [hn, Nat.add_zero] at a
    have hd := dim_bounds y' m'
    have e : (dayNumber y m 0 : Int) - j = (dayNumber y' m' (dim y' m' - j) : Nat) := by
      have := dayNumber_add y' m' (dim y' m' - j) j
      rw [Nat.sub_add_cancel (by omega)] at this
      dsimp only at a; omega
    rw [e, goMonth_dn _ _ _ ⟨h1, h12, by omega, Nat.sub_le _ _⟩]
    exact fun e => hne (Int.ofNat_inj.mp e).symm
  · obtain ⟨rfl, rfl⟩ : y = 0 ∧ m = 1 := by omega
    have e : dayNumber 0 1 0 = 0 := by decide
    unfold goMonth
    rw [e, if_pos (by omega)]
    decide

theorem validDate_last (y m : Nat) (hm1 : 1 ≤ m) (hm12 : m ≤ 12) : ValidDate y m (dim y m) := by
  have := dim_bounds y m
  exact ⟨hm1, hm12, Nat.le_trans (by decide) this.1, Nat.le_refl _⟩

theorem trans_lastDayOfMonth (y m : Nat) (hm1 : 1 ≤ m) (hm12 : m ≤ 12) :
    Generated.Trans.lastDayOfMonth goTime (y : Int) (m : Int) = (dim y m : Int) := by
  have hd := dim_bounds y m
  have hv : ValidDate y m 1 := ⟨hm1, hm12, Nat.le_refl 1, Nat.le_trans (by decide) hd.1⟩
  have e : goDate (y : Int) (m : Int) 1 = (dayNumber y m 1 : Int) := goDate_valid y m 1 hm1 hm12
  simp only [Generated.Trans.lastDayOfMonth, makeDateTime, T_date, T_day, T_month, T_year, e,
    goYear_dn y m 1 hv, goMonth_dn y m 1 hv, goDay_dn y m 1 hv, Int.add_zero]
  rw [goDate_succ_month y m _ hm1 hm12]
  have : (dayNumber y m (dim y m) : Int) + (((1 : Nat) : Int) + -1) = (dayNumber y m (dim y m) : Int) := by omega
  rw [this]
  exact goDay_dn y m _ (validDate_last y m hm1 hm12)

theorem trans_dayMax (n : DayNode) (y m : Nat) (hm1 : 1 ≤ m) (hm12 : m ≤ 12) :
    DayNode.max goTime n (m : Int) (y : Int) = (dim y m : Int) := by
  simp only [DayNode.max, makeDateTime, T_date, T_day]
  by_cases h : m = 12
  · subst h
    have : decide ((((12 : Nat) : Int)) = 12) = true := by decide
    simp only [this, if_true]
    rw [show goDate ((y : Int) + 1) 1 0 = _ from goDate_nxt y 12 0 hm1 hm12, Int.add_zero]
    exact goDay_dn y 12 _ (validDate_last y 12 hm1 hm12)
  · have : decide ((m : Int) = 12) = false := decide_eq_false (fun e => h (Int.ofNat_inj.mp e))
    simp only [this, Bool.false_eq_true, if_false]
    rw [goDate_succ_month y m 0 hm1 hm12, Int.add_zero]
    exact goDay_dn y m _ (validDate_last y m hm1 hm12)

theorem trans_getWeekday (dc : DayCfg) (y m v : Nat) (hm1 : 1 ≤ m) (hm12 : m ≤ 12) :
    DayNode.getWeekday goTime (mkDay dc v) (m : Int) (y : Int) = (weekday y m v : Int) := by
  simp only [DayNode.getWeekday, makeDateTime, T_date, T_weekday, mkDay, mkCommon]
  rw [goDate_valid y m v hm1 hm12, goWeekday_dn]

theorem isWeekday_dn (y m d : Nat) : isWeekday goTime (dayNumber y m d : Int) = isWeekdayB y m d := by
  simp only [isWeekday, T_weekday, goWeekday_dn, isWeekdayB]
  exact congr (congrArg and (dec_ne_cast _ 6)) (dec_ne_cast _ 0)

/-- one test of the search loop: the candidate ordinal `o` is day `d` of the month when `inm` holds, and lies outside
the month otherwise -/
theorem closest_test (y m t d : Nat) (o : Int) (inm : Prop) (ht : ValidDate y m t)
    (hin : inm → ValidDate y m d ∧ o = (dayNumber y m d : Int)) (hout : ¬ inm → goMonth o ≠ (m : Int)) :
    ((goMonth o = goMonth (dayNumber y m t : Int) ∧ isWeekday goTime o = true) ↔
      (inm ∧ isWeekdayB y m d = true)) ∧ (inm → goDay o = (d : Int)) := by
  rw [goMonth_dn y m t ht]
  refine ⟨?_, fun h => ?_⟩
  · by_cases h : inm
    · obtain ⟨hv, rfl⟩ := hin h
      rw [goMonth_dn y m d hv, isWeekday_dn]
      exact ⟨fun a => ⟨h, a.2⟩, fun a => ⟨rfl, a.2⟩⟩
    · exact ⟨fun a => absurd a.1 (hout h), fun a => absurd a.1 h⟩
  · obtain ⟨hv, rfl⟩ := hin h
    exact goDay_dn y m d hv

theorem closest_loop (y m t : Nat) (hm1 : 1 ≤ m) (hm12 : m ≤ 12) (ht1 : 1 ≤ t) (ht : t ≤ dim y m) :
    ∀ cnt i : Nat, cnt + i = 8 → 1 ≤ i →
      (match closestWeekday.loop1 goTime (dayNumber y m t : Int) cnt (i : Int) with
        | .ret r => r
        | .done _ => (t : Int)) = (closestSearch y m t (dim y m) cnt i : Int) := by
  intro cnt
  induction cnt with
  | zero => intro i _ _; rfl
  | succ cnt ih =>
    intro i h8 hi
    have hi' : i ≤ 7 := by omega
    have hvt : ValidDate y m t := ⟨hm1, hm12, ht1, ht⟩
    -- the previous day `t - i` (`t = (t - i) + i`; for `t ≤ i` it is day `t - i ≤ 0`) and the next day `t + i`
    obtain ⟨p1, p2⟩ := closest_test y m t (t - i) ((dayNumber y m t : Int) + -(i : Int)) (i < t) hvt
      (fun h => ⟨⟨hm1, hm12, Nat.sub_pos_of_lt h, Nat.le_trans (Nat.sub_le t i) ht⟩, by
        rw [← Nat.sub_add_cancel (Nat.le_of_lt h), dayNumber_add, Nat.add_sub_cancel, Int.natCast_add,
          Int.add_neg_cancel_right]⟩)
      (fun h => by
        have e : (dayNumber y m t : Int) + -(i : Int) = (dayNumber y m 0 : Int) - ((i - t : Nat) : Int) := by
          rw [← Nat.zero_add t, dayNumber_add, Nat.zero_add]; omega
        rw [e]
        exact goMonth_under_ne y m (i - t) hm1 hm12 (Nat.le_trans (Nat.sub_le i t) (Nat.le_trans hi' (by decide))))
    obtain ⟨n1, n2⟩ := closest_test y m t (t + i) ((dayNumber y m t : Int) + (i : Int)) (t + i ≤ dim y m) hvt
      (fun h => ⟨⟨hm1, hm12, Nat.le_trans ht1 (Nat.le_add_right t i), h⟩, by rw [dayNumber_add, Int.natCast_add]⟩)
      (fun h => by
        rw [← Int.natCast_add, ← dayNumber_add, ← Nat.add_sub_cancel' (Nat.le_of_lt (Nat.lt_of_not_le h))]
        exact goMonth_over_ne y m _ hm1 hm12 (Nat.sub_pos_of_lt (Nat.lt_of_not_le h)) (by omega))
    have hi7 : decide ((i : Int) ≤ 7) = true := decide_eq_true (Int.ofNat_le.mpr hi')
    have ei : (i : Int) + 1 = ((i + 1 : Nat) : Int) := rfl
    simp only [closestWeekday.loop1, hi7, if_true, T_month, T_day, ei, Bool.and_eq_true, decide_eq_true_eq, p1, n1]
    unfold closestSearch
    by_cases c1 : i < t ∧ isWeekdayB y m (t - i) = true
    · rw [if_pos c1, if_pos c1]
      exact p2 c1.1
    · rw [if_neg c1, if_neg c1]
      by_cases c2 : t + i ≤ dim y m ∧ isWeekdayB y m (t + i) = true
      · rw [if_pos c2, if_pos c2]
        exact n2 c2.1
      · rw [if_neg c2, if_neg c2]
        exact ih (i + 1) (by rw [← h8, Nat.add_assoc, Nat.add_comm 1 i]) (Nat.le_add_left 1 i)

theorem trans_closestWeekday (y m t : Nat) (hm1 : 1 ≤ m) (hm12 : m ≤ 12) (ht1 : 1 ≤ t) (ht : t ≤ dim y m) :
    Generated.Trans.closestWeekday goTime (dayNumber y m t : Int) = (Cron.closestWeekday y m t : Int) := by
  have hvt : ValidDate y m t := ⟨hm1, hm12, ht1, ht⟩
  unfold Generated.Trans.closestWeekday Cron.closestWeekday
  rw [isWeekday_dn, T_day, goDay_dn y m t hvt]
  by_cases hw : isWeekdayB y m t = true
  · simp only [hw, if_true]
  · simp only [hw, Bool.false_eq_true, if_false]
    have e : ((7 : Int) + 1 - 1).toNat = 7 := by decide
    rw [e]
    exact closest_loop y m t hm1 hm12 ht1 ht 7 1 rfl (Nat.le_refl 1)

theorem ints_nil : ints ([] : List Nat) = [] := rfl

/-- the filter of the model's `daysOfWeekInMonth` -/
def dowF (y m w : Nat) : Nat → Option Nat := fun i => if weekday y m (i + 1) = w then some (i + 1) else none

theorem daysOfWeekInMonth_eq (y m w : Nat) :
    Cron.daysOfWeekInMonth y m w = (List.range (dim y m)).filterMap (dowF y m w) := rfl

/-- the loop at day `j + 1`, with `k` days of the month still to come, appends their matches to `acc` -/
theorem dow_loop (y m w : Nat) (hm1 : 1 ≤ m) (hm12 : m ≤ 12) :
    ∀ (k j cnt : Nat) (acc : List Int), j + k = dim y m → k < cnt →
      DayNode.daysOfWeekInMonth.loop1 goTime (y : Int) (m : Int) (w : Int) cnt acc ((j : Int) + 1) =
        some (acc ++ ints ((List.range' j k).filterMap (dowF y m w)))
  | 0, j, cnt+1, acc, hj, _ => by
    obtain rfl : j = dim y m := hj
    have hne := goMonth_over_ne y (m) 1 hm1 hm12 (Nat.le_refl 1) (by decide)
    have ej : ((dim y m : Nat) : Int) + 1 = ((dim y m + 1 : Nat) : Int) := rfl
    simp only [DayNode.daysOfWeekInMonth.loop1, makeDateTime, T_date, T_month, ej,
      goDate_valid y m (dim y m + 1) hm1 hm12, decide_eq_true hne, if_true]
    exact congrArg some (List.append_nil acc).symm
  | k+1, j, cnt+1, acc, hj, hc => by
    have hv : ValidDate y m (j + 1) :=
      ⟨hm1, hm12, Nat.succ_pos j, by rw [← hj]; exact Nat.add_le_add_left (Nat.succ_pos k) j⟩
    have hd : decide ((m : Int) ≠ (m : Int)) = false := decide_eq_false (fun h => h rfl)
    have ej : (j : Int) + 1 = ((j + 1 : Nat) : Int) := rfl
    simp only [DayNode.daysOfWeekInMonth.loop1, makeDateTime, T_date, T_month, T_weekday, ej,
      goDate_valid y m (j + 1) hm1 hm12, goMonth_dn y m _ hv, goWeekday_dn, hd, Bool.false_eq_true, if_false, dec_eq_cast]
    rw [dow_loop y m w hm1 hm12 k (j + 1) cnt _ (by rw [← hj, Nat.add_assoc, Nat.add_comm 1 k])
        (Nat.lt_of_succ_lt_succ hc), List.range'_succ,
      List.filterMap_cons]
    unfold dowF
    by_cases hw : weekday y m (j + 1) = w
    · rw [if_pos (decide_eq_true hw), if_pos hw, List.append_assoc]; rfl
    · rw [if_neg (fun h => hw (of_decide_eq_true h)), if_neg hw]

theorem trans_daysOfWeekInMonth (dc : DayCfg) (y m v fuel : Nat) (hm1 : 1 ≤ m) (hm12 : m ≤ 12)
    (hfuel : 32 ≤ fuel) :
    DayNode.daysOfWeekInMonth goTime (mkDay dc v) (m : Int) (y : Int) fuel =
      some (ints (Cron.daysOfWeekInMonth y m (dc.wvalues.headD 0))) := by
  have hd := dim_bounds y m
  have h := dow_loop y m (dc.wvalues.headD 0) hm1 hm12 (dim y m) 0 fuel [] (Nat.zero_add _)
    (Nat.lt_of_le_of_lt hd.2 hfuel)
  rw [← List.range_eq_range', List.nil_append] at h
  simp only [DayNode.daysOfWeekInMonth, mkDay, idx_ints_zero]
  exact h

theorem mkDay_n (dc : DayCfg) (v : Nat) : (mkDay dc v).n = dc.n := id rfl
theorem mkDay_c (dc : DayCfg) (v : Nat) : (mkDay dc v).c = mkCommon dc.min dc.max dc.values v := id rfl
theorem mkDay_w (dc : DayCfg) (v : Nat) : (mkDay dc v).weekdayValues = ints dc.wvalues := id rfl
theorem mkCommon_value (mn mx : Nat) (vs : List Nat) (v : Nat) : (mkCommon mn mx vs v).value = (v : Int) := id rfl
theorem mkCommon_min (mn mx : Nat) (vs : List Nat) (v : Nat) : (mkCommon mn mx vs v).min = (mn : Int) := id rfl

theorem isWeekday_mk (dc : DayCfg) (v : Nat) :
    DayNode.isWeekday (mkDay dc v) = decide (dc.wvalues ≠ []) :=
  ints_length_ne dc.wvalues

/-- specification of the translated `targetDay` against the model's -/
def TargetSpec (dc : DayCfg) (y m : Nat) (r : Option (Int × Bool)) : Prop :=
  ∃ t ok, r = some (t, ok) ∧ (ok = true → Cron.targetDay dc y m = some t.toNat ∧ 0 ≤ t) ∧
    (ok = false → Cron.targetDay dc y m = none)

/-- the two forms of a result meeting `TargetSpec`: the model's target as a natural number, or none -/
theorem TargetSpec.cases {dc : DayCfg} {y m : Nat} {r : Option (Int × Bool)} (h : TargetSpec dc y m r) :
    (∃ k : Nat, r = some ((k : Int), true) ∧ Cron.targetDay dc y m = some k) ∨
      (∃ t, r = some (t, false) ∧ Cron.targetDay dc y m = none) := by
  obtain ⟨t, ok, ht, h1, h2⟩ := h
  cases ok with
  | true =>
    obtain ⟨e, h0⟩ := h1 rfl
    obtain ⟨k, rfl⟩ := Int.eq_ofNat_of_zero_le h0
    exact Or.inl ⟨k, ht, e⟩
  | false => exact Or.inr ⟨t, ht, h2 rfl⟩

theorem targetDay_weekdayNode (dc : DayCfg) (y m v fuel : Nat) (hm1 : 1 ≤ m) (hm12 : m ≤ 12) (hfuel : 32 ≤ fuel)
    (hiw : dc.isWeekdayNode = true) (hws : dc.wvalues ≠ []) (h6 : dc.wvalues.headD 0 ≤ 6) :
    TargetSpec dc y m (DayNode.targetDay goTime (mkDay dc v) (m : Int) (y : Int) fuel) := by
  have hpos := (daysOfWeekInMonth_length y m _ (Nat.lt_succ_of_le h6)).1
  unfold TargetSpec DayNode.targetDay DayNode.weekdayOfMonth Cron.targetDay
  rw [isWeekday_mk, decide_eq_true hws, if_pos rfl, trans_daysOfWeekInMonth dc y m v fuel hm1 hm12 hfuel, Option.bind_some,
    if_pos hiw, mkDay_n]
  dsimp only
  rw [ints_length]
  generalize Cron.daysOfWeekInMonth y m (dc.wvalues.headD 0) = D at hpos ⊢
  by_cases c1 : dc.n > (D.length : Int)
  · rw [if_pos (decide_eq_true c1)]
    exact ⟨0, false, rfl, fun h => Bool.noConfusion h, fun _ => if_pos c1⟩
  · rw [if_neg (fun h => c1 (of_decide_eq_true h))]
    simp only [if_neg c1]
    by_cases c2 : dc.n > 0
    · -- the `n`-th occurrence
      rw [if_pos (decide_eq_true c2), if_pos c2]
      exact ⟨_, true, rfl, fun _ => idx_ints_lt D _ (dc.n.toNat - 1) (by omega) (by omega), fun h => Bool.noConfusion h⟩
    · -- the last occurrence
      rw [if_neg (fun h => c2 (of_decide_eq_true h)), if_neg c2, List.getLast?_eq_getElem?]
      exact ⟨_, true, rfl, fun _ => idx_ints_lt D _ (D.length - 1) (by omega) (by omega), fun h => Bool.noConfusion h⟩

theorem closestOfMonth_eq (iw : Bool) (n : Int) (vs : List Nat) (mx y m v t : Nat) (hm1 : 1 ≤ m) (hm12 : m ≤ 12)
    (ht1 : 1 ≤ t) (ht : t ≤ dim y m)
    (hdate : (if (decide (idx (ints vs) 0 > (dim y m : Int)) || decide (band n NLastDayOfMonth ≠ 0)) = true
        then (dim y m : Int) else idx (ints vs) 0) = (t : Int)) :
    DayNode.closestWeekdayOfMonth goTime (mkDay ⟨iw, n, vs, [], 1, mx⟩ v) (m : Int) (y : Int) =
      (Cron.closestWeekday y m t : Int) := by
  unfold DayNode.closestWeekdayOfMonth
  have hn : (mkDay ⟨iw, n, vs, [], 1, mx⟩ v).n = n := rfl
  have hv : (mkDay ⟨iw, n, vs, [], 1, mx⟩ v).c.values = ints vs := rfl
  simp only [trans_lastDayOfMonth y m hm1 hm12, hn, hv, makeDateTime, T_date]
  rw [hdate, goDate_valid y m t hm1 hm12]
  exact trans_closestWeekday y m t hm1 hm12 ht1 ht

/-- Go `&` on a positive `int` and a constant, as a test -/
theorem band_test (n : Int) (hn : 0 < n) (b : Nat) :
    decide (band n (Int.ofNat b) ≠ 0) = decide (n.toNat &&& b ≠ 0) := by
  obtain ⟨a, rfl⟩ := Int.eq_ofNat_of_zero_le (Int.le_of_lt hn)
  exact decide_eq_decide.mpr (by show ((a &&& b : Nat) : Int) ≠ 0 ↔ a &&& b ≠ 0; omega)

theorem targetDay_monthdayNode (dc : DayCfg) (y m v fuel : Nat) (hm1 : 1 ≤ m) (hm12 : m ≤ 12)
    (hiw : dc.isWeekdayNode = false) (hws : dc.wvalues = []) (hmin : dc.min = 1)
    (hW : dc.n > 0 → dc.n.toNat &&& 2 ≠ 0 → dc.n.toNat &&& 1 ≠ 0 ∨ 1 ≤ dc.values.headD 0) :
    TargetSpec dc y m (DayNode.targetDay goTime (mkDay dc v) (m : Int) (y : Int) fuel) := by
  obtain ⟨iw, n, vs, ws, mn, mx⟩ := dc
  simp only at hiw hws hmin hW
  subst hiw; subst hws; subst hmin
  have hd := dim_bounds y m
  unfold TargetSpec DayNode.targetDay Cron.targetDay
  rw [isWeekday_mk]
  simp only [ne_eq, not_true_eq_false, decide_false, Bool.false_eq_true, if_false, mkDay_n]
  have hgo : (decide (n > 0) && decide (band n NWeekday ≠ 0)) = decide (n > 0 ∧ n.toNat &&& 2 ≠ 0) := by
    by_cases h0 : n > 0
    · rw [Bool.decide_and, show decide (band n NWeekday ≠ 0) = _ from band_test n h0 2]
    · rw [decide_eq_false h0, Bool.false_and, decide_eq_false (fun h => h0 h.1)]
  rw [hgo]
  by_cases hc : n > 0 ∧ n.toNat &&& 2 ≠ 0
  · -- the `W` rules: nearest weekday to day `d0`, or to the last day with flag `L`
    rw [decide_eq_true hc, if_pos rfl, if_pos hc]
    have hcond : (decide (idx (ints vs) 0 > (dim y m : Int)) || decide (band n NLastDayOfMonth ≠ 0)) =
        decide (vs.headD 0 > dim y m ∨ n.toNat &&& 1 ≠ 0) := by
      rw [show decide (band n NLastDayOfMonth ≠ 0) = _ from band_test n hc.1 1, idx_ints_zero,
        show decide (((vs.headD 0 : Nat) : Int) > (dim y m : Int)) = _ from dec_lt_cast _ _, Bool.decide_or]
    by_cases hl : vs.headD 0 > dim y m ∨ n.toNat &&& 1 ≠ 0
    · rw [if_pos hl, closestOfMonth_eq false n vs mx y m v (dim y m) hm1 hm12 (Nat.le_trans (by decide) hd.1)
        (Nat.le_refl _) (by rw [hcond, decide_eq_true hl, if_pos rfl])]
      exact ⟨_, true, rfl, fun _ => ⟨by rw [Int.toNat_natCast], Int.natCast_nonneg _⟩, fun h => nomatch h⟩
    · have h1 : 1 ≤ vs.headD 0 := (hW hc.1 hc.2).resolve_left (fun h => hl (Or.inr h))
      rw [if_neg hl, closestOfMonth_eq false n vs mx y m v (vs.headD 0) hm1 hm12 h1
        (Nat.le_of_not_lt (fun h => hl (Or.inl h)))
        (by rw [hcond, decide_eq_false hl, if_neg Bool.false_ne_true, idx_ints_zero])]
      exact ⟨_, true, rfl, fun _ => ⟨by rw [Int.toNat_natCast], Int.natCast_nonneg _⟩, fun h => nomatch h⟩
  · -- `L`, `L-k`: the last day plus the offset, if that is still a day of the month
    rw [decide_eq_false hc, if_neg hc]
    have hoff : (if decide (n = NLastDayOfMonth) = true then (0 : Int) else n) = if n = 1 then 0 else n := by
      by_cases h1 : n = 1
      · rw [if_pos h1, if_pos (decide_eq_true h1)]
      · rw [if_neg h1, if_neg (fun h => h1 (of_decide_eq_true h))]
    simp only [DayNode.lastDayOfMonth, trans_lastDayOfMonth y m hm1 hm12, mkDay_n, hoff]
    refine ⟨_, _, rfl, fun hok => ?_, fun hok => ?_⟩
    · have hge : (dim y m : Int) + (if n = 1 then 0 else n) ≥ ((1 : Nat) : Int) := of_decide_eq_true hok
      exact ⟨by rw [if_pos hge], by omega⟩
    · have hge : ¬ (dim y m : Int) + (if n = 1 then 0 else n) ≥ ((1 : Nat) : Int) := of_decide_eq_false hok
      rw [if_neg hge]

theorem dayCfg_weekday (f : Fields) (hw : f.dow.values ≠ []) :
    dayCfg {} f = ⟨true, f.dow.n, [], f.dow.values, 1, 31⟩ := if_pos hw

theorem dayCfg_monthday (f : Fields) (hw : f.dow.values = []) :
    dayCfg {} f = ⟨false, f.dom.n, f.dom.values, [], 1, 31⟩ := if_neg (fun h => h hw)

theorem dayCfg_basic (f : Fields) :
    ((dayCfg {} f).isWeekdayNode = true ↔ (dayCfg {} f).wvalues ≠ []) ∧
    ((dayCfg {} f).isWeekdayNode = false → (dayCfg {} f).wvalues = []) ∧
    (dayCfg {} f).min = 1 ∧ (dayCfg {} f).max = 31 := by
  by_cases hw : f.dow.values = []
  · rw [dayCfg_monthday f hw]
    exact ⟨⟨fun h => Bool.noConfusion h, fun h => absurd rfl h⟩, fun _ => rfl, rfl, rfl⟩
  · rw [dayCfg_weekday f hw]
    exact ⟨⟨fun _ => hw, fun _ => rfl⟩, fun h => Bool.noConfusion h, rfl, rfl⟩

theorem trans_targetDay (f : Fields) (hwf : WellFormed f = true) (y m v fuel : Nat)
    (hm1 : 1 ≤ m) (hm12 : m ≤ 12) (hfuel : 32 ≤ fuel) (hn : (dayCfg {} f).n ≠ 0) :
    TargetSpec (dayCfg {} f) y m (DayNode.targetDay goTime (mkDay (dayCfg {} f) v) (m : Int) (y : Int) fuel) := by
  by_cases hw : f.dow.values = []
  · -- the shapes `WellFormed` allows for a day-of-month field with a flag
    have hs : Special (dayCfg {} f) :=
      (dayCfg_modes f hwf).elim (fun h => absurd h.n0 hn) (·.elim (fun h => absurd h.n0 hn) id)
    have shape := hs.shape
    rw [dayCfg_monthday f hw] at shape ⊢
    refine targetDay_monthdayNode _ y m v fuel hm1 hm12 rfl rfl rfl fun hpos h2 => ?_
    dsimp only at shape hpos h2 ⊢
    rcases shape with h | h | ⟨_, h⟩ | h | h
    · cases h
    · rw [h] at h2; exact (h2 rfl).elim
    · exact Or.inr h
    · rw [h]; exact Or.inl (by decide)
    · omega
  · -- a day-of-week field with a flag lists one weekday `≤ 6`
    have hdow := (wfParts f hwf).dow
    rw [dayCfg_weekday f hw] at hn ⊢
    refine targetDay_weekdayNode _ y m v fuel hm1 hm12 hfuel rfl hw ?_
    unfold dowOK at hdow
    rw [if_neg hn, Bool.and_eq_true] at hdow
    have h2 := hdow.2
    split at h2
    · rename_i w heq
      rw [show f.dow.values = [w] from heq]
      exact of_decide_eq_true h2
    · cases h2

theorem isValid_n0 (dc : DayCfg) (hwk : dc.isWeekdayNode = true ↔ dc.wvalues ≠ []) (hn0 : dc.n = 0)
    (y m v fuel : Nat) (hm1 : 1 ≤ m) (hm12 : m ≤ 12) :
    DayNode.isValid goTime (mkDay dc v) (m : Int) (y : Int) fuel = some (dayValid dc y m v) := by
  unfold DayNode.isValid dayValid
  rw [mkDay_n, decide_eq_false (not_not_intro hn0), if_neg Bool.false_ne_true, if_neg (not_not_intro hn0)]
  simp only [DayNode.isValidDay, DayNode.isValidWeekday, isWeekday_mk,
    trans_dayMax _ y m hm1 hm12, trans_getWeekday dc y m v hm1 hm12, mkDay_c, isValid_mk, mkCommon_value,
    dec_le_cast, mkDay_w, trans_contains]
  cases hiw : dc.isWeekdayNode with
  | true =>
    have := hwk.mp hiw
    simp [this]
  | false =>
    have : dc.wvalues = [] := Decidable.not_not.mp (fun h => Bool.noConfusion ((hwk.mpr h).symm.trans hiw))
    simp [this]

theorem isValid_special (dc : DayCfg) (hn : dc.n ≠ 0) (y m v fuel : Nat)
    (hT : TargetSpec dc y m (DayNode.targetDay goTime (mkDay dc v) (m : Int) (y : Int) fuel)) :
    DayNode.isValid goTime (mkDay dc v) (m : Int) (y : Int) fuel = some (dayValid dc y m v) := by
  unfold DayNode.isValid dayValid
  rw [mkDay_n, decide_eq_true hn, if_pos rfl, if_pos hn]
  rcases TargetSpec.cases hT with ⟨k, ht, e⟩ | ⟨t, ht, e⟩ <;> rw [ht, e, Option.bind_some]
  · show some (true && decide ((v : Int) = (k : Int))) = _
    rw [dec_eq_cast]; rfl
  · rfl

theorem trans_dayIsValid (f : Fields) (hwf : WellFormed f = true) (y m v fuel : Nat)
    (hm1 : 1 ≤ m) (hm12 : m ≤ 12) (_hv : v ≤ 31) (hfuel : 32 ≤ fuel) :
    DayNode.isValid goTime (mkDay (dayCfg {} f) v) (m : Int) (y : Int) fuel =
      some (dayValid (dayCfg {} f) y m v) := by
  by_cases hn : (dayCfg {} f).n = 0
  · exact isValid_n0 _ (dayCfg_basic f).1 hn y m v fuel hm1 hm12
  · exact isValid_special _ hn y m v fuel (trans_targetDay f hwf y m v fuel hm1 hm12 hfuel hn)

theorem mkDay_setValue (dc : DayCfg) (v x : Nat) :
    ({ mkDay dc v with c := { (mkDay dc v).c with value := (x : Int) } } : DayNode) = mkDay dc x := rfl

theorem mkDay_setC (dc : DayCfg) (v x : Nat) :
    ({ mkDay dc v with c := mkCommon dc.min dc.max dc.values x } : DayNode) = mkDay dc x := rfl

theorem next_special (dc : DayCfg) (hn : dc.n ≠ 0) (y m v fuel : Nat)
    (hT : TargetSpec dc y m (DayNode.targetDay goTime (mkDay dc v) (m : Int) (y : Int) fuel)) :
    DayNode.Next goTime (mkDay dc v) (m : Int) (y : Int) fuel =
      some (mkDay dc (dayNext dc y m v).1, (dayNext dc y m v).2) := by
  unfold DayNode.Next DayNode.nextDayN dayNext Cron.nextDayN
  rw [mkDay_n, decide_eq_true hn, if_pos rfl, if_pos hn]
  rcases TargetSpec.cases hT with ⟨k, ht, e⟩ | ⟨t, ht, e⟩ <;> rw [ht, e, Option.bind_some]
  · show Option.bind (if (true && decide ((v : Int) < (k : Int))) = true then _ else _) _ = _
    rw [dec_lt_cast]
    by_cases hlt : v < k
    · rw [Bool.true_and, if_pos (decide_eq_true hlt)]; dsimp only; rw [if_pos hlt]; rfl
    · rw [Bool.true_and, if_neg (fun h => hlt (of_decide_eq_true h))]; dsimp only; rw [if_neg hlt]; rfl
  · rfl

theorem nextWeekday_loop (wd : Nat) (off0 : Int) (l : List Nat) :
    DayNode.nextWeekday.loop1 (wd : Int) off0 (ints l) =
      match l.find? (fun x => decide (wd < x)) with
      | some x => (x : Int) - (wd : Int)
      | none => off0 := by
  induction l with
  | nil => rfl
  | cons a t ih =>
    rw [ints_cons, DayNode.nextWeekday.loop1, ih, List.find?_cons]
    show (if decide ((wd : Int) < (a : Int)) = true then _ else _) = _
    rw [dec_lt_cast]
    cases decide (wd < a) <;> rfl

theorem nextWeekday_off (ws : List Nat) (wd : Nat) (hwd : wd < 7) :
    DayNode.nextWeekday.loop1 (wd : Int) ((7 + idx (ints ws) 0) - (wd : Int)) (ints ws) =
      ((wOff ws wd : Nat) : Int) := by
  rw [nextWeekday_loop, idx_ints_zero]
  unfold wOff
  cases hf : ws.find? (fun x => decide (wd < x)) with
  | some x =>
    have := List.find?_some hf
    simp only [decide_eq_true_eq] at this
    simp only
    omega
  | none =>
    simp only
    omega

theorem next_wset (dc : DayCfg) (h : WSet dc) (y m v : Nat) (hm1 : 1 ≤ m) (hm12 : m ≤ 12) (hv : v ≤ 31) :
    DayNode.nextWeekday goTime (mkDay dc v) (m : Int) (y : Int) =
      (mkDay dc (Cron.nextWeekday dc y m v).1, (Cron.nextWeekday dc y m v).2) := by
  obtain ⟨o1, o2, _, _⟩ := wOff_spec dc.wvalues h.ne h.sorted h.le6 _ (Cal.weekday_lt y m v)
  have hd := dim_bounds y m
  unfold DayNode.nextWeekday DayNode.addDays
  simp only [trans_getWeekday dc y m v hm1 hm12, mkDay_w, nextWeekday_off dc.wvalues _ (Cal.weekday_lt y m v),
    trans_dayMax _ y m hm1 hm12, DayNode.Value, CommonNode.Value, mkDay_c, mkCommon_value, makeDateTime, T_date, T_day]
  rw [goDate_valid y m v hm1 hm12, nextWeekday_eq]
  generalize wOff dc.wvalues (weekday y m v) = off at o1 o2 ⊢
  rw [← Int.natCast_add, ← dayNumber_add, ← Int.natCast_add,
    show decide (((v + off : Nat) : Int) > (dim y m : Int)) = decide (v + off > dim y m) from dec_lt_cast _ _]
  by_cases hgt : v + off > dim y m
  · -- into the following month: `time.Date` normalises day `dim + k` to day `k`
    obtain ⟨k, hk⟩ : ∃ k, v + off = dim y m + k := ⟨v + off - dim y m, (Nat.add_sub_cancel' (Nat.le_of_lt hgt)).symm⟩
    rw [if_pos hgt, decide_eq_true hgt, hk, goDay_over y m k hm1 hm12 (by omega) (by omega), Nat.add_sub_cancel_left]
    rfl
  · rw [if_neg hgt, decide_eq_false hgt, goDay_dn y m (v + off)
      ⟨hm1, hm12, Nat.le_trans o1 (Nat.le_add_left off v), Nat.le_of_not_lt hgt⟩]
    rfl

theorem next_mset (dc : DayCfg) (y m v : Nat) (hm1 : 1 ≤ m) (hm12 : m ≤ 12) :
    DayNode.nextDay goTime (mkDay dc v) (m : Int) (y : Int) =
      (mkDay dc (Cron.nextDay dc y m v).1, (Cron.nextDay dc y m v).2) := by
  unfold DayNode.nextDay Cron.nextDay
  simp only [mkDay_c, Next_mk, mkDay_setC, trans_dayMax _ y m hm1 hm12, mkCommon_value, Reset_mk]
  cases (commonNext dc.min dc.max dc.values v).2 with
  | true => simp
  | false =>
    simp only [Bool.false_eq_true, if_false, show decide (_ > _) = _ from dec_lt_cast (dim y m) _, decide_eq_true_eq]
    split <;> rfl

theorem trans_dayNext (f : Fields) (hwf : WellFormed f = true) (y m v fuel : Nat)
    (hm1 : 1 ≤ m) (hm12 : m ≤ 12) (hv : v ≤ 31) (hfuel : 32 ≤ fuel) :
    DayNode.Next goTime (mkDay (dayCfg {} f) v) (m : Int) (y : Int) fuel =
      some (mkDay (dayCfg {} f) (dayNext (dayCfg {} f) y m v).1, (dayNext (dayCfg {} f) y m v).2) := by
  by_cases hn : (dayCfg {} f).n = 0
  · unfold DayNode.Next dayNext
    rw [mkDay_n, decide_eq_false (not_not_intro hn), if_neg Bool.false_ne_true, if_neg (not_not_intro hn), isWeekday_mk]
    rcases dayCfg_modes f hwf with h | h | h
    · rw [if_pos (decide_eq_true h.ne), if_pos h.wk, next_wset _ h y m v hm1 hm12 hv]
    · have : ¬ (decide ((dayCfg {} f).wvalues ≠ []) = true) := by simp [(dayCfg_basic f).2.1 h.wk]
      rw [if_neg this, if_neg (by simp [h.wk]), next_mset _ y m v hm1 hm12]
    · exact absurd hn h.n0
  · exact next_special _ hn y m v fuel (trans_targetDay f hwf y m v fuel hm1 hm12 hfuel hn)

theorem trans_dayFindForward (f : Fields) (hwf : WellFormed f = true) (y m v fuel : Nat)
    (hm1 : 1 ≤ m) (hm12 : m ≤ 12) (hv : v ≤ 31) (hfuel : 32 ≤ fuel) :
    DayNode.findForward goTime (mkDay (dayCfg {} f) v) (m : Int) (y : Int) fuel =
      some (if dayValid (dayCfg {} f) y m v then (mkDay (dayCfg {} f) v, unchanged)
        else (mkDay (dayCfg {} f) (dayNext (dayCfg {} f) y m v).1, ffCode (dayNext (dayCfg {} f) y m v).2)) := by
  unfold DayNode.findForward
  rw [trans_dayIsValid f hwf y m v fuel hm1 hm12 hv hfuel, Option.bind_some]
  cases dayValid (dayCfg {} f) y m v with
  | true => simp only [if_true]
  | false =>
    rw [trans_dayNext f hwf y m v fuel hm1 hm12 hv hfuel]
    simp only [Bool.false_eq_true, if_false, Option.bind_some, ffCode]
    cases (dayNext (dayCfg {} f) y m v).2 <;> simp

theorem trans_dayReset (f : Fields) (hwf : WellFormed f = true) (y m v fuel : Nat)
    (hm1 : 1 ≤ m) (hm12 : m ≤ 12) (_hv : v ≤ 31) (hfuel : 32 ≤ fuel) :
    DayNode.Reset goTime (mkDay (dayCfg {} f) v) (m : Int) (y : Int) fuel =
      some (mkDay (dayCfg {} f) (dayReset (dayCfg {} f) y m)) := by
  have hmin : (dayCfg {} f).min = 1 := (dayCfg_basic f).2.2.1
  show (DayNode.findForward goTime (mkDay (dayCfg {} f) (dayCfg {} f).min) m y fuel).bind _ = _
  rw [trans_dayFindForward f hwf y m _ fuel hm1 hm12 (by rw [hmin]; decide) hfuel, Option.bind_some]
  unfold dayReset
  cases dayValid (dayCfg {} f) y m (dayCfg {} f).min <;> simp

#print axioms trans_dayIsValid
#print axioms trans_dayNext
#print axioms trans_dayFindForward
#print axioms trans_dayReset

/-- `MON,WED,FRI`, February 2024, day 28 (a Wednesday): valid; `Next` overflows into March (Friday the 1st) -/
example : DayNode.isValid goTime (mkDay (dayCfg {} exWeekdays) 28) (2 : Nat) (2024 : Nat) 32 = some true ∧
    DayNode.Next goTime (mkDay (dayCfg {} exWeekdays) 28) (2 : Nat) (2024 : Nat) 32 =
      some (mkDay (dayCfg {} exWeekdays) 1, true) := by
  constructor
  · rw [trans_dayIsValid exWeekdays (by decide) 2024 2 28 32 (by decide) (by decide) (by decide) (by decide)]
    decide
  · rw [trans_dayNext exWeekdays (by decide) 2024 2 28 32 (by decide) (by decide) (by decide) (by decide)]
    decide

/-- `LW`, February 2024: from day 5 `findForward` advances to Thursday the 29th -/
example : DayNode.findForward goTime (mkDay (dayCfg {} exLastWorkday) 5) (2 : Nat) (2024 : Nat) 32 =
    some (mkDay (dayCfg {} exLastWorkday) 29, advanced) := by
  rw [trans_dayFindForward exLastWorkday (by decide) 2024 2 5 32 (by decide) (by decide) (by decide) (by decide)]
  decide

/-- `6#3` (third Friday), February 2024: `Reset` lands on the 16th; days 15,30,31 in February: on the 15th -/
example : DayNode.Reset goTime (mkDay (dayCfg {} exThirdFriday) 30) (2 : Nat) (2024 : Nat) 32 =
      some (mkDay (dayCfg {} exThirdFriday) 16) ∧
    DayNode.Reset goTime (mkDay (dayCfg {} exMonthDays) 30) (2 : Nat) (2024 : Nat) 32 =
      some (mkDay (dayCfg {} exMonthDays) 15) := by
  constructor
  · rw [trans_dayReset exThirdFriday (by decide) 2024 2 30 32 (by decide) (by decide) (by decide) (by decide)]
    decide
  · rw [trans_dayReset exMonthDays (by decide) 2024 2 30 32 (by decide) (by decide) (by decide) (by decide)]
    decide

/-- year 0, January, `1W` (the search reaches ordinals `≤ 0`, read as December of year -1): Saturday the 1st moves to Monday
the 3rd in both the model and the translation -/
example : Generated.Trans.closestWeekday goTime (dayNumber 0 1 1 : Int) = 3 := by
  rw [trans_closestWeekday 0 1 1 (by decide) (by decide) (by decide) (by decide)]
  decide

end TransDay
