import QuartzModel.Proofs.Odometer
import QuartzModel.Cron.Nodes
import QuartzModel.Cron.Spec
/-!
# CommonNode meets the odometer level contract

`commonLvl min max values` (model of `internal/csm/common_node.go`) satisfies `Odo.LvlOK` and
`Odo.LvlBound` for a sorted value list inside `[min,max]` (or no list).

The contract needs `min ≤ 1 ∨ values ≠ []`: with no value list, `Next` is `v+1` whenever `v+1 ≤ max`,
also when `v+1 < min`, so the produced digit need not be valid (`min = 5, max = 10, v = 0`: `Next`
yields `(1,false)`; `commonLvl_ok_counterexample`).  The Go code behaves the same (`CommonNode.next`
never looks at `min` unless it wraps); all six nodes built by `newCSMFromFields` have `min` 0 or 1.
Only the lower bound of the list is needed for the contract (`commonLvl_ok_lower`), which is what the
year node needs: its list is within `[1970,3940]` while the node range is `[0,2261]`.

The file starts with what the node proofs and the later files share about well-formed fields: `Sorted` as
`List.Pairwise` (`sorted_iff_pairwise`), `allIn` as a bounded quantifier (`allIn_iff`), and the conjuncts of
`WellFormed` by name (`WFParts`, `wfParts`).
-/
namespace Cron
open Odo

theorem sorted_iff_pairwise (l : List Nat) : Sorted l = true ↔ l.Pairwise (· ≤ ·) := by
  induction l with
  | nil => simp [Sorted]
  | cons a t ih =>
    cases t with
    | nil => simp [Sorted]
    | cons b t =>
      simp only [Sorted, Bool.and_eq_true, decide_eq_true_eq, ih, List.pairwise_cons (a := a), List.mem_cons,
        forall_eq_or_imp]
      exact ⟨fun ⟨hab, hp⟩ => ⟨⟨hab, fun x hx => Nat.le_trans hab ((List.pairwise_cons.1 hp).1 x hx)⟩, hp⟩,
        fun ⟨⟨hab, _⟩, hp⟩ => ⟨hab, hp⟩⟩

theorem sorted_head_min {a : Nat} {t : List Nat} (hs : Sorted (a :: t) = true) :
    ∀ y ∈ a :: t, a ≤ y :=
  fun y hy => (List.mem_cons.1 hy).elim (fun e => e ▸ Nat.le_refl _)
    ((List.pairwise_cons.1 ((sorted_iff_pairwise _).1 hs)).1 y)

theorem sorted_pairwise (l : List Nat) (h : Sorted l = true) : l.Pairwise (· ≤ ·) :=
  (sorted_iff_pairwise l).1 h

theorem allIn_iff (lo hi : Nat) (l : List Nat) :
    allIn lo hi l = true ↔ ∀ v ∈ l, lo ≤ v ∧ v ≤ hi := by
  simp [allIn, List.all_eq_true]

/-- the conjuncts of `WellFormed` that the proofs use, by name -/
structure WFParts (f : Fields) : Prop where
  secS : Sorted f.sec.values = true
  secA : allIn 0 59 f.sec.values = true
  minS : Sorted f.min.values = true
  minA : allIn 0 59 f.min.values = true
  hourS : Sorted f.hour.values = true
  hourA : allIn 0 23 f.hour.values = true
  dom : domOK f.dom = true
  monthS : Sorted f.month.values = true
  monthA : allIn 1 12 f.month.values = true
  dow : dowOK f.dow = true
  yearS : Sorted f.year.values = true
  yearA : allIn 1970 3940 f.year.values = true
  oneDay : (f.dom.values = [] ∧ f.dom.n = 0) ∨ (f.dow.values = [] ∧ f.dow.n = 0)

theorem wfParts (f : Fields) (hwf : WellFormed f = true) : WFParts f := by
  simp only [WellFormed, Bool.and_eq_true, Bool.or_eq_true, beq_iff_eq, decide_eq_true_eq, and_assoc] at hwf
  obtain ⟨_, h1, h2, _, h3, h4, _, h5, h6, hdom, _, h7, h8, hdow, _, h9, h10, hone⟩ := hwf
  exact ⟨h1, h2, h3, h4, h5, h6, hdom, h7, h8, hdow, h9, h10, hone⟩

theorem find_least (p : Nat → Bool) (l : List Nat) (hs : Sorted l = true) (x : Nat)
    (h : l.find? p = some x) : x ∈ l ∧ p x = true ∧ ∀ y ∈ l, p y = true → x ≤ y := by
  -- `p` fails on the part of the list before `x`, and `x` is the least of the rest
  obtain ⟨hp, as, bs, rfl, hbefore⟩ := List.find?_eq_some_iff_append.mp h
  refine ⟨by simp, hp, fun y hy hpy => ?_⟩
  rcases List.mem_append.mp hy with hy | hy
  · have := hbefore y hy
    rw [hpy] at this; cases this
  · exact sorted_head_min
      ((sorted_iff_pairwise _).mpr (List.pairwise_append.mp ((sorted_iff_pairwise _).mp hs)).2.1) y hy

theorem commonValid_iff (min max : Nat) (values : List Nat) (v : Nat) :
    commonValid min max values v = true ↔ min ≤ v ∧ v ≤ max ∧ memOrAny values v := by
  unfold commonValid memOrAny
  cases values with
  | nil => simp
  | cons a t => simp [and_assoc]

theorem commonValid_le (min max : Nat) (values : List Nat) (v : Nat)
    (h : commonValid min max values v = true) : v ≤ max :=
  ((commonValid_iff min max values v).mp h).2.1

/-- `Next` without overflow: the least valid value above `v`.  Only the lower bound of the list is
used; `hmin` is needed for the list-less node only (`v+1` must not fall below `min`). -/
theorem commonNext_ok (min max : Nat) (values : List Nat)
    (hs : Sorted values = true) (hlo : ∀ x ∈ values, min ≤ x)
    (hmin : min ≤ 1 ∨ values ≠ []) (v : Nat)
    (h : (commonNext min max values v).2 = false) :
    commonValid min max values (commonNext min max values v).1 = true ∧
      v < (commonNext min max values v).1 ∧
      ∀ u, commonValid min max values u = true → v < u → (commonNext min max values v).1 ≤ u := by
  simp only [commonValid_iff]
  unfold commonNext nextInRange memOrAny at *
  cases values with
  | nil =>
    simp only [ne_eq, not_true_eq_false, if_false] at h ⊢
    have hmin' : min ≤ 1 := hmin.elim id (absurd rfl)
    split at h
    · cases h
    · rename_i hle
      simp only [hle, if_false]
      exact ⟨⟨by omega, by omega, Or.inl trivial⟩, by omega, fun u _ hu => by omega⟩
  | cons a t =>
    simp only [ne_eq, reduceCtorEq, not_false_eq_true, if_true] at h ⊢
    cases hf : (a :: t).find? (fun x => decide (v < x) && decide (x ≤ max)) with
    | none => rw [hf] at h; cases h
    | some x =>
      simp only
      obtain ⟨hm, hp, hleast⟩ := find_least _ _ hs x hf
      simp only [Bool.and_eq_true, decide_eq_true_eq] at hp hleast
      refine ⟨⟨hlo x hm, hp.2, Or.inr hm⟩, hp.1, ?_⟩
      intro u hu hvu
      rcases hu with ⟨_, hu2, hu3 | hu3⟩
      · cases hu3
      · exact hleast u hu3 ⟨hvu, hu2⟩

/-- `Next` with overflow: no valid value above `v` (no hypothesis on the list at all) -/
theorem commonNext_ovf (min max : Nat) (values : List Nat) (v : Nat)
    (h : (commonNext min max values v).2 = true) :
    ∀ u, commonValid min max values u = true → u ≤ v := by
  intro u hu
  rw [commonValid_iff] at hu
  unfold commonNext nextInRange at h
  unfold memOrAny at hu
  cases values with
  | nil =>
    simp only [ne_eq, not_true_eq_false, if_false] at h
    split at h
    · have := hu.2.1; omega
    · cases h
  | cons a t =>
    simp only [ne_eq, reduceCtorEq, not_false_eq_true, if_true] at h
    cases hf : (a :: t).find? (fun x => decide (v < x) && decide (x ≤ max)) with
    | some x => rw [hf] at h; cases h
    | none =>
      rcases hu with ⟨_, hu2, hu3 | hu3⟩
      · cases hu3
      · have := List.find?_eq_none.mp hf u hu3
        simp only [Bool.and_eq_true, decide_eq_true_eq] at this
        omega

/-- every output of `Next` is `min`, the successor of the digit (list-less node), or a listed value -/
theorem commonNext_fst_cases (min max : Nat) (values : List Nat) (v : Nat) :
    (commonNext min max values v).1 = min ∨
      ((commonNext min max values v).1 = v + 1 ∧ v + 1 ≤ max) ∨ (commonNext min max values v).1 ∈ values := by
  unfold commonNext nextInRange
  cases values with
  | nil =>
    simp only [ne_eq, not_true_eq_false, if_false]
    split
    · exact Or.inl rfl
    · exact Or.inr (Or.inl ⟨rfl, by omega⟩)
  | cons a t =>
    simp only [ne_eq, reduceCtorEq, not_false_eq_true, if_true]
    cases hf : (a :: t).find? (fun x => decide (v < x) && decide (x ≤ max)) with
    | none => exact Or.inr (Or.inr (by simp))
    | some x => exact Or.inr (Or.inr (List.mem_of_find?_eq_some hf))

theorem commonNext_fst_le (min max : Nat) (values : List Nat) (b : Nat) (hmm : min ≤ max) (hb : max ≤ b)
    (hv : ∀ x ∈ values, x ≤ b) (v : Nat) : (commonNext min max values v).1 ≤ b := by
  rcases commonNext_fst_cases min max values v with h | h | h
  · omega
  · omega
  · exact hv _ h

theorem commonNext_fst_ge (min max : Nat) (values : List Nat) (hmin : 1 ≤ min)
    (hv : ∀ x ∈ values, 1 ≤ x) (v : Nat) : 1 ≤ (commonNext min max values v).1 := by
  rcases commonNext_fst_cases min max values v with h | h | h
  · omega
  · omega
  · exact hv _ h

theorem commonReset_cons (min max a : Nat) (t : List Nat) :
    commonReset min max (a :: t) = a := by
  unfold commonReset commonNext nextInRange
  simp only [ne_eq, reduceCtorEq, not_false_eq_true, if_true]
  cases hf : (a :: t).find? (fun x => decide (max < x) && decide (x ≤ max)) with
  | none => rfl
  | some x =>
    have := List.find?_some hf
    simp only [Bool.and_eq_true, decide_eq_true_eq] at this
    omega

theorem commonReset_nil (min max : Nat) : commonReset min max [] = min := by
  unfold commonReset commonNext
  simp

/-- `Reset` yields the least valid value whenever a valid value exists (lower bound of the list
only; the list may reach beyond `max`). -/
theorem commonReset_least (min max : Nat) (values : List Nat)
    (hs : Sorted values = true) (hlo : ∀ x ∈ values, min ≤ x)
    (hex : ∃ u, commonValid min max values u = true) :
    commonValid min max values (commonReset min max values) = true ∧
    ∀ u, commonValid min max values u = true → commonReset min max values ≤ u := by
  simp only [commonValid_iff] at hex ⊢
  unfold memOrAny at *
  cases values with
  | nil =>
    rw [commonReset_nil]
    obtain ⟨u, h1, h2, _⟩ := hex
    exact ⟨⟨Nat.le_refl _, by omega, Or.inl rfl⟩, fun u hu => hu.1⟩
  | cons a t =>
    rw [commonReset_cons]
    have hle := sorted_head_min hs
    obtain ⟨u, _, h2, h3 | h3⟩ := hex
    · cases h3
    · have := hle u h3
      refine ⟨⟨hlo a (by simp), by omega, Or.inr (by simp)⟩, ?_⟩
      intro w hw
      rcases hw with ⟨_, _, hw | hw⟩
      · cases hw
      · exact hle w hw

theorem commonReset_spec (min max : Nat) (values : List Nat)
    (hs : Sorted values = true) (hin : allIn min max values = true) (hmm : min ≤ max) :
    commonValid min max values (commonReset min max values) = true ∧
    ∀ u, commonValid min max values u = true → commonReset min max values ≤ u := by
  have hb := (allIn_iff min max values).mp hin
  apply commonReset_least min max values hs (fun x hx => (hb x hx).1)
  cases values with
  | nil => exact ⟨min, by rw [commonValid_iff]; exact ⟨Nat.le_refl _, hmm, Or.inl rfl⟩⟩
  | cons a t =>
    have := hb a (by simp)
    exact ⟨a, by rw [commonValid_iff]; exact ⟨this.1, this.2, Or.inr (by simp)⟩⟩

/-- The contract from the lower bound of the list alone (the list may reach beyond `max`, as the
year list does: values within `[1970,3940]`, node range `[0,2261]`). -/
theorem commonLvl_ok_lower (n k min max : Nat) (values : List Nat)
    (hs : Sorted values = true) (hlo : ∀ x ∈ values, min ≤ x)
    (hmin : min ≤ 1 ∨ values ≠ []) :
    LvlOK n k (commonLvl min max values) where
  ext_valid := fun _ _ _ _ => Iff.rfl
  next_ok := fun _ v h => commonNext_ok min max values hs hlo hmin v h
  next_ovf := fun _ v h => commonNext_ovf min max values v h
  rst_ok := fun _ hex => commonReset_least min max values hs hlo hex

/-- the contract: for a sorted value list inside [min,max] (or no list), at every level index k of
an n-level odometer.  Without `hmin` the statement is false (`commonLvl_ok_counterexample`): a
list-less node must have `min ≤ 1`.  True for every node of `newCSMFromFields` (`min ∈ {0,1}`). -/
theorem commonLvl_ok (n k min max : Nat) (values : List Nat)
    (hs : Sorted values = true) (hin : allIn min max values = true) (hmin : min ≤ 1 ∨ values ≠ []) :
    LvlOK n k (commonLvl min max values) :=
  commonLvl_ok_lower n k min max values hs
    (fun x hx => ((allIn_iff min max values).mp hin x hx).1) hmin

/-- Without `hmin` the contract fails: list-less node on `[5,10]`, digit `0`.
`Next` reports "no overflow" and yields `1`, which is not valid. -/
theorem commonLvl_ok_counterexample :
    Sorted [] = true ∧ allIn 5 10 [] = true ∧ 5 ≤ 10 ∧ ¬ LvlOK 1 0 (commonLvl 5 10 []) := by
  refine ⟨rfl, rfl, by decide, ?_⟩
  intro h
  have h1 : commonValid 5 10 [] (commonNext 5 10 [] 0).1 = true :=
    (h.next_ok ⟨fun _ => 0⟩ 0 (by decide)).1
  revert h1
  decide

/-- digit bounds from a bound on the listed values (they need not be ≤ max) -/
theorem commonLvl_bound_values (B : Nat → Nat) (k min max : Nat) (values : List Nat)
    (hv : ∀ x ∈ values, x ≤ B k) (hmm : min ≤ max) (hB : max ≤ B k) :
    LvlBound B k (commonLvl min max values) :=
  ⟨fun _ v _ => commonNext_fst_le min max values (B k) hmm hB hv v,
    fun _ => commonNext_fst_le min max values (B k) hmm hB hv max⟩

theorem commonLvl_bound (B : Nat → Nat) (k min max : Nat) (values : List Nat)
    (hin : allIn min max values = true) (hmm : min ≤ max) (hB : max ≤ B k) :
    LvlBound B k (commonLvl min max values) :=
  commonLvl_bound_values B k min max values
    (fun x hx => Nat.le_trans ((allIn_iff min max values).mp hin x hx).2 hB) hmm hB

example : LvlOK 6 0 (commonLvl 0 59 [0, 15, 30, 45]) :=
  commonLvl_ok 6 0 0 59 [0, 15, 30, 45] (by decide) (by decide) (Or.inl (by decide))

/-- month node, no list: `min = 1` -/
example : LvlOK 6 4 (commonLvl 1 12 []) :=
  commonLvl_ok 6 4 1 12 [] (by decide) (by decide) (Or.inl (by decide))

/-- year node: list beyond `max` is fine for the contract -/
example : LvlOK 6 5 (commonLvl 0 2261 [1999, 2024, 3000]) :=
  commonLvl_ok_lower 6 5 0 2261 [1999, 2024, 3000] (by decide) (fun _ _ => Nat.zero_le _)
    (Or.inl (by decide))

example : LvlBound B6 0 (commonLvl 0 59 [0, 15, 30, 45]) :=
  commonLvl_bound B6 0 0 59 [0, 15, 30, 45] (by decide) (by decide) (by decide)

example : commonValid 0 59 [0, 15, 30, 45] 30 = true ∧ commonReset 0 59 [0, 15, 30, 45] = 0 ∧
    commonNext 0 59 [0, 15, 30, 45] 45 = (0, true) ∧ commonNext 0 59 [0, 15, 30, 45] 7 = (15, false) ∧
    commonNext 0 59 [] 59 = (0, true) ∧ commonNext 0 59 [] 100 = (0, true) := by decide

example : (commonValid_iff 0 59 [0, 15, 30, 45] 30).mp (by decide) =
    ⟨Nat.zero_le _, by decide, Or.inr (by decide)⟩ := rfl

example : [0, 15, 30, 45].Pairwise (· ≤ ·) := sorted_pairwise _ (by decide)

example : commonValid 0 59 [0, 15, 30, 45] (commonReset 0 59 [0, 15, 30, 45]) = true :=
  (commonReset_spec 0 59 [0, 15, 30, 45] (by decide) (by decide) (by decide)).1

example : (45 : Nat) ≤ 59 := commonValid_le 0 59 [0, 15, 30, 45] 45 (by decide)

end Cron
