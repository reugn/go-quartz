import QuartzModel.Cron.Parse
import QuartzModel.Proofs.CommonNode
/-!
# Lemmas about the cron parser model (`Cron/Parse.lean`) for `Theorems/C07.lean`

What the sub-parsers return is sorted and in range, for the list field by way of its meaning: the sorted union of its
members (`parseMember`, `parseList_eq`); `parseExpr` split into tokenisation (`tokensOf`) and the rest (`parseTokens`);
`atoi` against decimal rendering and against glossary words; the equations of `parseField` on a text whose separators
are known (`singleOf`, `rangeOf`, `stepOf`); what `trimExpr` ignores. The tactics `decide_text` / `decide_parse` for the
test vectors are defined here.
-/
namespace Cron

/-- what every sub-parser returns: a sorted list within `[lo, hi]` (`Sorted`, `allIn` as propositions) -/
def Good (lo hi : Nat) (l : List Nat) : Prop := l.Pairwise (· ≤ ·) ∧ ∀ v ∈ l, lo ≤ v ∧ v ≤ hi

theorem Good.sorted {lo hi l} (h : Good lo hi l) : Sorted l = true := (sorted_iff_pairwise l).2 h.1
theorem Good.allIn {lo hi l} (h : Good lo hi l) : allIn lo hi l = true := (allIn_iff lo hi l).2 h.2

theorem perm_insertSorted (x : Nat) (l : List Nat) : (insertSorted x l).Perm (x :: l) := by
  induction l with
  | nil => exact List.Perm.refl _
  | cons h t ih =>
    simp only [insertSorted]
    split
    · exact List.Perm.refl _
    · exact ((List.Perm.cons h ih).trans (List.Perm.swap x h t))

theorem sortNat_cons (a : Nat) (t : List Nat) : sortNat (a :: t) = insertSorted a (sortNat t) := rfl

theorem perm_sortNat (l : List Nat) : (sortNat l).Perm l := by
  induction l with
  | nil => exact List.Perm.refl _
  | cons a t ih =>
    rw [sortNat_cons]
    exact (perm_insertSorted a _).trans (List.Perm.cons a ih)

theorem pairwise_insertSorted (x : Nat) (l : List Nat) (h : l.Pairwise (· ≤ ·)) :
    (insertSorted x l).Pairwise (· ≤ ·) := by
  induction l with
  | nil => simp [insertSorted]
  | cons a t ih =>
    simp only [insertSorted]
    have hc := List.pairwise_cons.1 h
    split
    · rename_i hxa
      exact List.pairwise_cons.2 ⟨List.forall_mem_cons.2 ⟨hxa, fun y hy => Nat.le_trans hxa (hc.1 y hy)⟩, h⟩
    · rename_i hxa
      refine List.pairwise_cons.2 ⟨fun y hy => ?_, ih hc.2⟩
      rcases List.mem_cons.1 ((perm_insertSorted x t).mem_iff.1 hy) with rfl | hy
      · omega
      · exact hc.1 y hy

theorem pairwise_sortNat (l : List Nat) : (sortNat l).Pairwise (· ≤ ·) := by
  induction l with
  | nil => simp [sortNat]
  | cons a t ih =>
    rw [sortNat_cons]
    exact pairwise_insertSorted a _ ih

theorem sorted_sortNat (l : List Nat) : Sorted (sortNat l) = true :=
  (sorted_iff_pairwise _).2 (pairwise_sortNat l)

theorem insertSorted_of_le (x : Nat) (l : List Nat) (h : ∀ y ∈ l, x ≤ y) :
    insertSorted x l = x :: l := by
  cases l with
  | nil => rfl
  | cons a t => simp [insertSorted, h a (by simp)]

theorem sortNat_of_pairwise (l : List Nat) (h : l.Pairwise (· ≤ ·)) : sortNat l = l := by
  induction l with
  | nil => rfl
  | cons a t ih =>
    have hc := List.pairwise_cons.1 h
    rw [sortNat_cons, ih hc.2, insertSorted_of_le a t hc.1]

theorem fillStep_good {a s z : Nat} {l : List Nat} (h : fillStep a s z = some l) : Good a z l := by
  unfold fillStep at h
  split at h
  · cases h
  · rename_i hc
    injection h with h; subst h
    refine ⟨List.pairwise_map.2 (List.pairwise_lt_range.imp fun {i j} hij => ?_), ?_⟩
    · have : i * s ≤ j * s := Nat.mul_le_mul_right s (Nat.le_of_lt hij)
      omega
    · intro v hv
      simp only [List.mem_map, List.mem_range] at hv
      obtain ⟨j, hj, rfl⟩ := hv
      have h1 : j * s ≤ (z - a) / s * s := Nat.mul_le_mul_right s (by omega)
      have h2 : (z - a) / s * s ≤ z - a := Nat.div_mul_le_self _ _
      omega

theorem fillRange_eq_fillStep (a z : Nat) : fillRange a z = fillStep a 1 z := by
  simp [fillRange, fillStep, Nat.add_comm]

theorem Good.mono {lo hi lo' hi' : Nat} {l : List Nat} (h : Good lo hi l) (h1 : lo' ≤ lo) (h2 : hi ≤ hi') :
    Good lo' hi' l :=
  ⟨h.1, fun v hv => ⟨Nat.le_trans h1 (h.2 v hv).1, Nat.le_trans (h.2 v hv).2 h2⟩⟩

theorem inScope_iff (v lo hi : Int) : inScope v lo hi = true ↔ lo ≤ v ∧ v ≤ hi := by
  simp [inScope]

theorem inScope_eq_false {v lo hi : Int} (h : v < lo ∨ v > hi) : inScope v lo hi = false := by
  rw [Bool.eq_false_iff, Ne, inScope_iff]; omega

theorem inScope_natCast {a lo hi : Nat} (h1 : lo ≤ a) (h2 : a ≤ hi) : inScope a lo hi = true := by
  rw [inScope_iff]; omega

theorem mapM'_eq_some_iff {α β} {f : α → Option β} {l : List α} {r : List β} :
    mapM' f l = some r ↔ l.map f = r.map some := by
  induction l generalizing r with
  | nil => cases r <;> simp [mapM']
  | cons a t ih =>
    cases r with
    | nil => cases h1 : f a <;> cases h2 : mapM' f t <;> simp [mapM', h1, h2]
    | cons b bs =>
      rw [List.map_cons, List.map_cons, List.cons.injEq, ← ih]
      cases h1 : f a <;> cases h2 : mapM' f t <;> simp [mapM', h1, h2]

theorem mapM'_forall {α β} {f : α → Option β} {l : List α} {r : List β} (h : mapM' f l = some r) :
    ∀ x ∈ l, ∃ y ∈ r, f x = some y := by
  intro x hx
  have : f x ∈ r.map some := mapM'_eq_some_iff.1 h ▸ List.mem_map_of_mem hx
  simpa [eq_comm] using this

theorem mapM'_of_forall {α β} {f : α → Option β} {l : List α} (d : β)
    (h : ∀ x ∈ l, (f x).isSome = true) : mapM' f l = some (l.map (fun x => (f x).getD d)) := by
  rw [mapM'_eq_some_iff, List.map_map]
  apply List.map_congr_left
  intro x hx
  obtain ⟨y, hy⟩ := Option.isSome_iff_exists.1 (h x hx)
  simp [hy]

theorem mapM'_congr {α β} {f g : α → Option β} {l : List α} (h : ∀ x ∈ l, f x = g x) :
    mapM' f l = mapM' g l :=
  Option.ext fun r => by rw [mapM'_eq_some_iff, mapM'_eq_some_iff, List.map_congr_left h]

theorem parseRange_good {fld : Str} {b : Bound} {names : List Str} {l : List Nat}
    (h : parseRange fld b names = some l) : Good b.lower b.upper l := by
  unfold parseRange at h
  split at h
  · split at h
    · rename_i frm to _ _
      split at h
      · rename_i hs
        simp only [Bool.and_eq_true, inScope_iff] at hs
        rw [fillRange_eq_fillStep] at h
        exact (fillStep_good h).mono (by omega) (by omega)
      · cases h
    · cases h
  · cases h

theorem parseStep_good {fld : Str} {b : Bound} {names : List Str} {l : List Nat}
    (h : parseStep fld b names = some l) : Good b.lower b.upper l := by
  unfold parseStep at h
  split at h
  · simp only at h
    split at h
    · rename_i frm to step _ _
      split at h
      · rename_i hs
        simp only [Bool.and_eq_true, inScope_iff] at hs
        exact (fillStep_good h).mono (by omega) (by omega)
      · cases h
    · cases h
  · cases h

/-- what `parseList` (`parseListField`) does with one comma-separated member: it sorts the members into steps, ranges
and plain values by these two tests -/
def parseMember (t : Str) (b : Bound) (names : List Str) : Option (List Nat) :=
  if t.contains '/' then parseStep t b names
  else if t.contains '-' then parseRange t b names
  else match normalize names t with
    | some v => if inScope v b.lower b.upper then some [v.toNat] else none
    | none => none

theorem parseField_eq_member (t : Str) (b : Bound) (names : List Str) (hw : t ≠ ['*'] ∧ t ≠ ['?'])
    (hc : ¬ (t.contains ',' = true)) :
    parseField t b names = (parseMember t b names).map (fun v => { values := v }) := by
  unfold parseField parseMember
  simp only [hw.1, hw.2, or_self, if_false, hc, Bool.false_eq_true]
  by_cases h1 : t.contains '/' = true
  · simp only [h1, if_true]
  · by_cases h2 : t.contains '-' = true
    · simp only [h1, h2, if_true, Bool.false_eq_true, if_false]
    · simp only [h1, h2, Bool.false_eq_true, if_false]
      cases normalize names t with
      | none => rfl
      | some v =>
        simp only
        split <;> rfl

theorem parseList_members {fld : Str} {b : Bound} {names : List Str} {l : List Nat}
    (h : parseList fld b names = some l) :
    ∀ t ∈ splitOn ',' fld, (parseMember t b names).isSome = true := by
  unfold parseList at h
  simp only at h
  split at h
  · cases h
  · rename_i lits hl
    split at h
    · cases h
    · rename_i hall
      split at h
      · rename_i sv rv hsv hrv
        intro t ht
        unfold parseMember
        cases h1 : t.contains '/'
        · cases h2 : t.contains '-'
          · simp only [Bool.false_eq_true, if_false]
            obtain ⟨y, hyl, hy⟩ := mapM'_forall hl t (by simp only [List.mem_filter, ht, h1, h2, Bool.not_false, and_self])
            simp only [Bool.not_eq_true, Bool.not_eq_false', List.all_eq_true] at hall
            simp [hy, hall y hyl]
          · simp only [if_true, Bool.false_eq_true, if_false]
            obtain ⟨y, _, hy⟩ := mapM'_forall hrv t (by simp only [List.mem_filter, ht, h1, h2, Bool.not_false, and_self])
            simp [hy]
        · simp only [if_true]
          obtain ⟨y, _, hy⟩ := mapM'_forall hsv t (by simp only [List.mem_filter, ht, h1, and_self])
          simp [hy]
      · cases h

section ListMeaning
open List

theorem sortNat_perm {l₁ l₂ : List Nat} (h : l₁ ~ l₂) : sortNat l₁ = sortNat l₂ := by
  apply Perm.eq_of_pairwise (le := (· ≤ ·)) (fun a b _ _ h1 h2 => Nat.le_antisymm h1 h2)
    (pairwise_sortNat l₁) (pairwise_sortNat l₂)
  exact (perm_sortNat l₁).trans (h.trans (perm_sortNat l₂).symm)

theorem parseList_eq (fld : Str) (b : Bound) (names : List Str) :
    parseList fld b names =
      (mapM' (fun t => parseMember t b names) (splitOn ',' fld)).map (fun vs => sortNat vs.flatten) := by
  cases hm : mapM' (fun t => parseMember t b names) (splitOn ',' fld) with
  | none =>
    cases hp : parseList fld b names with
    | none => rfl
    | some l => rw [mapM'_of_forall [] (parseList_members hp)] at hm; cases hm
  | some vs =>
    have hsome : ∀ x ∈ splitOn ',' fld, (parseMember x b names).isSome = true := by
      intro x hx
      obtain ⟨y, _, hy⟩ := mapM'_forall hm x hx
      simp [hy]
    have hvs := mapM'_of_forall [] hsome
    rw [hm] at hvs
    injection hvs with hvs
    generalize hT : splitOn ',' fld = T at *
    -- the sublists `parseList` works on: steps, the rest, and of the rest ranges and plain values
    obtain ⟨S, hS⟩ : ∃ S, T.filter (fun v => v.contains '/') = S := ⟨_, rfl⟩
    obtain ⟨N, hN⟩ : ∃ N, T.filter (fun v => !v.contains '/') = N := ⟨_, rfl⟩
    obtain ⟨R, hR⟩ : ∃ R, N.filter (fun v => v.contains '-') = R := ⟨_, rfl⟩
    obtain ⟨P, hP⟩ : ∃ P, N.filter (fun v => !v.contains '-') = P := ⟨_, rfl⟩
    have mS : ∀ x ∈ S, x ∈ T ∧ x.contains '/' = true := by
      subst hS; exact fun x hx => List.mem_filter.1 hx
    have mN : ∀ x ∈ N, x ∈ T ∧ x.contains '/' = false := by
      subst hN; intro x hx; simpa using List.mem_filter.1 hx
    have mR : ∀ x ∈ R, x ∈ N ∧ x.contains '-' = true := by
      subst hR; exact fun x hx => List.mem_filter.1 hx
    have mP : ∀ x ∈ P, x ∈ N ∧ x.contains '-' = false := by
      subst hP; intro x hx; simpa using List.mem_filter.1 hx
    let g : Str → List Nat := fun x => (parseMember x b names).getD []
    let nz : Str → Int := fun x => (normalize names x).getD 0
    have hsv : mapM' (fun s => parseStep s b names) S = some (S.map g) := by
      rw [mapM'_congr (g := fun t => parseMember t b names)]
      · exact mapM'_of_forall [] (fun x hx => hsome x (mS x hx).1)
      · intro x hx
        simp only [parseMember, (mS x hx).2, if_true]
    have hrv : mapM' (fun r => parseRange r b names) R = some (R.map g) := by
      rw [mapM'_congr (g := fun t => parseMember t b names)]
      · exact mapM'_of_forall [] (fun x hx => hsome x (mN x (mR x hx).1).1)
      · intro x hx
        simp only [parseMember, (mN x (mR x hx).1).2, (mR x hx).2, if_true, Bool.false_eq_true, if_false]
    have hplain : ∀ x ∈ P,
        normalize names x = some (nz x) ∧ inScope (nz x) b.lower b.upper = true ∧ g x = [(nz x).toNat] := by
      intro x hx
      have hs := hsome x (mN x (mP x hx).1).1
      simp only [g, nz]
      simp only [parseMember, (mN x (mP x hx).1).2, (mP x hx).2, Bool.false_eq_true, if_false] at hs ⊢
      cases hn : normalize names x with
      | none => rw [hn] at hs; cases hs
      | some v =>
        rw [hn] at hs
        simp only at hs
        by_cases hsc : inScope v b.lower b.upper = true
        · simp [hsc]
        · simp [hsc] at hs
    have hl : mapM' (normalize names) P = some (P.map nz) := by
      apply mapM'_of_forall 0
      intro x hx
      rw [(hplain x hx).1]; rfl
    have hsc : (P.map nz).all (fun v => inScope v b.lower b.upper) = true := by
      rw [List.all_eq_true]
      intro v hv
      obtain ⟨x, hx, rfl⟩ := List.mem_map.1 hv
      exact (hplain x hx).2.1
    have hpl : (P.map nz).map Int.toNat = (P.map g).flatten := by
      rw [List.map_map, List.map_eq_flatMap, List.flatMap_def]
      congr 1
      apply List.map_congr_left
      intro x hx
      rw [(hplain x hx).2.2]; rfl
    unfold parseList
    simp only [hT, hS, hN, hR, hP, hl, hsc, hsv, hrv, Bool.not_true, Bool.false_eq_true, if_false, Option.map_some]
    congr 1
    apply sortNat_perm
    rw [hpl, hvs]
    -- `T` is `S`, `R`, `P` up to order
    have p1 : T ~ S ++ N := by rw [← hS, ← hN]; exact (filter_append_perm _ T).symm
    have p2 : N ~ R ++ P := by rw [← hR, ← hP]; exact (filter_append_perm _ N).symm
    have p4 := ((p1.trans (Perm.append_left _ p2)).map g).flatten
    refine Perm.trans ?_ p4.symm
    rw [List.map_append, List.map_append, List.flatten_append, List.flatten_append, List.append_assoc,
      ← List.append_assoc (S.map g).flatten]
    exact perm_append_comm

end ListMeaning

theorem parseMember_good {t : Str} {b : Bound} {names : List Str} {l : List Nat}
    (h : parseMember t b names = some l) : Good b.lower b.upper l := by
  unfold parseMember at h
  split at h
  · exact parseStep_good h
  · split at h
    · exact parseRange_good h
    · split at h
      · split at h
        · -- a single value `v`, in scope
          rename_i v _ hs
          injection h with h; subst h
          simp only [inScope_iff] at hs
          refine ⟨by simp, ?_⟩
          intro w hw
          simp only [List.mem_singleton] at hw
          subst hw; omega
        · cases h
      · cases h

theorem parseList_good {fld : Str} {b : Bound} {names : List Str} {l : List Nat}
    (h : parseList fld b names = some l) : Good b.lower b.upper l := by
  rw [parseList_eq, Option.map_eq_some_iff] at h
  obtain ⟨vs, hvs, rfl⟩ := h
  refine ⟨pairwise_sortNat _, fun v hv => ?_⟩
  obtain ⟨ys, hys, hv⟩ := List.mem_flatten.1 ((perm_sortNat _).mem_iff.1 hv)
  have : some ys ∈ (splitOn ',' fld).map _ := mapM'_eq_some_iff.1 hvs ▸ List.mem_map_of_mem hys
  obtain ⟨t, _, ht⟩ := List.mem_map.1 this
  exact (parseMember_good ht).2 v hv

theorem parseField_good {fld : Str} {b : Bound} {names : List Str} {f : Field}
    (h : parseField fld b names = some f) : f.n = 0 ∧ Good b.lower b.upper f.values := by
  by_cases hw : fld = ['*'] ∨ fld = ['?']
  · unfold parseField at h
    rw [if_pos hw] at h
    cases h
    exact ⟨rfl, List.Pairwise.nil, by simp⟩
  · by_cases hc : fld.contains ',' = true
    · unfold parseField at h
      rw [if_neg hw, if_pos hc, Option.map_eq_some_iff] at h
      obtain ⟨v, hv, rfl⟩ := h
      exact ⟨rfl, parseList_good hv⟩
    · rw [parseField_eq_member fld b names (not_or.1 hw) hc, Option.map_eq_some_iff] at h
      obtain ⟨v, hv, rfl⟩ := h
      exact ⟨rfl, parseMember_good hv⟩

/-! ## day-of-month / day-of-week parsers: L / W / # never combine with anything else -/

theorem domOK_lastK (k : Int) (h1 : 1 ≤ k) (h2 : k ≤ 31) : domOK { values := [], n := -k } = true := by
  have a0 : ¬ (-k = 0) := by omega
  have a1 : ¬ (-k = 1) := by omega
  have a2 : ¬ (-k = 2) := by omega
  have a3 : ¬ (-k = 3) := by omega
  simp only [domOK, a0, a1, a2, a3, if_false, Bool.and_eq_true, decide_eq_true_eq, beq_self_eq_true,
    and_true]
  omega

theorem domOK_weekday (d : Int) (h1 : 1 ≤ d) (h2 : d ≤ 31) : domOK { values := [d.toNat], n := 2 } = true := by
  simp [domOK]
  omega

theorem domOK_of_good {f : Field} (h : f.n = 0 ∧ Good 1 31 f.values) : domOK f = true := by
  simp [domOK, h.1, h.2.sorted, h.2.allIn]

theorem parseDom_domOK {fld : Str} {f : Field} (h : parseDom fld ⟨1, 31⟩ = some f) : domOK f = true := by
  unfold parseDom at h
  split at h
  · split at h
    · -- `L`
      injection h with h; subst h; rfl
    · split at h
      · split at h
        · split at h
          · -- `L-n`, `n` in scope
            rename_i n _ hs
            injection h with h; subst h
            simp only [inScope_iff] at hs
            exact domOK_lastK n (by omega) (by omega)
          · cases h
        · cases h
      · cases h
  · split at h
    · -- `LW`
      injection h with h; subst h; rfl
    · split at h
      · split at h
        · split at h
          · -- `dW`, `d` in scope
            rename_i d _ hs
            injection h with h; subst h
            simp only [inScope_iff] at hs
            exact domOK_weekday d (by omega) (by omega)
          · cases h
        · cases h
      · -- an ordinary field
        exact domOK_of_good (parseField_good h)

/-- the field produced by `buildFields` for the day of week (`add(-1)`) -/
def shiftDow (f : Field) : Field := { f with values := f.values.map (· - 1) }

/-- the forms of an accepted day-of-week field: `L`, `wL`, `w#k`, or an ordinary field -/
theorem parseDow_cases {fld : Str} {b : Bound} {f : Field} (h : parseDow fld b = some f) :
    f = { values := [7], n := -1 } ∨
    (∃ w : Int, inScope w b.lower b.upper = true ∧ (f = { values := [w.toNat], n := -1 } ∨
      ∃ n : Int, inScope n 1 5 = true ∧ f = { values := [w.toNat], n := n })) ∨
    parseField fld b dayNames = some f := by
  unfold parseDow at h
  split at h
  · simp only at h
    split at h
    · -- `L`
      exact Or.inl (Option.some.inj h).symm
    · split at h
      · split at h
        · -- `wL`, `w` in scope
          rename_i w _ hs
          exact Or.inr (Or.inl ⟨w, hs, Or.inl (Option.some.inj h).symm⟩)
        · cases h
      · cases h
  · split at h
    · split at h
      · split at h
        · split at h
          · -- `w#n`, both in scope
            rename_i w n _ _ hs
            rw [Bool.and_eq_true] at hs
            exact Or.inr (Or.inl ⟨w, hs.1, Or.inr ⟨n, hs.2, (Option.some.inj h).symm⟩⟩)
          · cases h
        · cases h
      · cases h
    · -- an ordinary field
      exact Or.inr (Or.inr h)

theorem dowOK_last (w : Int) (_h1 : 1 ≤ w) (h2 : w ≤ 7) :
    dowOK (shiftDow { values := [w.toNat], n := -1 }) = true := by
  simp [dowOK, shiftDow]
  omega

theorem dowOK_hash (w n : Int) (h1 : 1 ≤ w) (h2 : w ≤ 7) (h3 : 1 ≤ n) (h4 : n ≤ 5) :
    dowOK (shiftDow { values := [w.toNat], n := n }) = true := by
  have a0 : ¬ (n = 0) := by omega
  simp [dowOK, shiftDow, a0]
  omega

theorem dowOK_of_good {f : Field} (h : f.n = 0 ∧ Good 1 7 f.values) : dowOK (shiftDow f) = true := by
  have hs : Sorted (f.values.map (· - 1)) = true := by
    rw [sorted_iff_pairwise, List.pairwise_map]
    exact List.Pairwise.imp (fun {a b} hab => by omega) h.2.1
  have ha : allIn 0 6 (f.values.map (· - 1)) = true := by
    rw [allIn_iff]
    intro v hv
    simp only [List.mem_map] at hv
    obtain ⟨w, hw, rfl⟩ := hv
    have := h.2.2 w hw
    omega
  simp [dowOK, shiftDow, h.1, hs, ha]

theorem parseDow_dowOK {fld : Str} {f : Field} (h : parseDow fld ⟨1, 7⟩ = some f) :
    dowOK (shiftDow f) = true := by
  rcases parseDow_cases h with rfl | ⟨w, hw, rfl | ⟨n, hn, rfl⟩⟩ | h
  · rfl
  · simp only [inScope_iff] at hw
    exact dowOK_last w (by omega) (by omega)
  · simp only [inScope_iff] at hw hn
    exact dowOK_hash w n (by omega) (by omega) (by omega) (by omega)
  · exact dowOK_of_good (parseField_good h)

theorem parseDow_pos {fld : Str} {f : Field} (h : parseDow fld ⟨1, 7⟩ = some f) : ∀ v ∈ f.values, 1 ≤ v := by
  rcases parseDow_cases h with rfl | ⟨w, hw, rfl | ⟨n, _, rfl⟩⟩ | h
  · simp
  · simp only [inScope_iff] at hw
    simp; omega
  · simp only [inScope_iff] at hw
    simp; omega
  · exact fun v hv => ((parseField_good h).2.2 v hv).1

theorem anyDay_iff (t : Str) : anyDay t = true ↔ t = ['?'] ∨ t = ['*'] := by
  simp [anyDay]

theorem parseDay_anyDay {t : Str} (ha : anyDay t = true) (b : Bound) :
    parseDom t b = some { values := [] } ∧ parseDow t b = some { values := [] } := by
  rcases (anyDay_iff t).1 ha with rfl | rfl <;> exact ⟨rfl, rfl⟩

theorem splitOn_ne_nil (sep : Char) (s : Str) : splitOn sep s ≠ [] := by
  induction s with
  | nil => simp [splitOn]
  | cons c cs ih =>
    simp only [splitOn]
    split
    · simp
    · split <;> simp

theorem splitOn_append_sep (sep : Char) (x y : Str) :
    splitOn sep (x ++ sep :: y) = splitOn sep x ++ splitOn sep y := by
  induction x with
  | nil => simp [splitOn]
  | cons c cs ih =>
    simp only [List.cons_append, splitOn]
    split
    · simp [ih]
    · rw [ih]
      cases hs : splitOn sep cs with
      | nil => exact absurd hs (splitOn_ne_nil _ _)
      | cons h t => simp

theorem splitOn_noSep (sep : Char) (x : Str) (h : ¬ (x.contains sep = true)) : splitOn sep x = [x] := by
  induction x with
  | nil => rfl
  | cons c cs ih =>
    simp only [List.contains_cons, Bool.or_eq_true, beq_iff_eq, not_or] at h
    have hc : c ≠ sep := fun e => h.1 e.symm
    simp only [splitOn, hc, if_false, ih h.2]

theorem splitOn_two (sep : Char) (x y : Str) (hx : ¬ (x.contains sep = true)) (hy : ¬ (y.contains sep = true)) :
    splitOn sep (x ++ sep :: y) = [x, y] := by
  rw [splitOn_append_sep, splitOn_noSep sep x hx, splitOn_noSep sep y hy]; rfl

theorem splitOn_no_sep_mem (sep : Char) (s : Str) : ∀ t ∈ splitOn sep s, ∀ c ∈ t, c ≠ sep := by
  induction s with
  | nil => simp [splitOn]
  | cons c cs ih =>
    simp only [splitOn]
    split
    · exact List.forall_mem_cons.2 ⟨(fun _ h => nomatch h), ih⟩
    · rename_i hc
      cases hs : splitOn sep cs with
      | nil => exact absurd hs (splitOn_ne_nil _ _)
      | cons h tl =>
        rw [hs, List.forall_mem_cons] at ih
        exact List.forall_mem_cons.2 ⟨List.forall_mem_cons.2 ⟨hc, ih.1⟩, ih.2⟩

/-- the `let tokens` of `parseExpr` (`parseCronExpression`): the macro's expansion or the text itself, split at blanks -/
def tokensOf (expr : Str) : List Str :=
  match specialTable.lookup expr with
  | some v => splitOn ' ' v
  | none => splitOn ' ' expr

/-- the rest of `parseExpr` after `let tokens` -/
def parseTokens (bs : Bounds) (tokens : List Str) : Option Fields :=
  if tokens.length < 6 ∨ tokens.length > 7 then none else
  let tokens := if tokens.length = 6 then tokens ++ [['*']] else tokens
  if !anyDay (tokens.getD 3 []) && !anyDay (tokens.getD 5 []) then none
  else buildFields bs tokens

theorem parseExpr_eq (bs : Bounds) (expr : Str) : parseExpr bs expr = parseTokens bs (tokensOf expr) := rfl

theorem tokensOf_of_lookup_none {expr : Str} (h : specialTable.lookup expr = none) :
    tokensOf expr = splitOn ' ' expr := by
  simp [tokensOf, h]

theorem specialTable_keys_head : ∀ p ∈ specialTable, p.1.head? = some '@' := by decide +kernel

theorem lookup_special_none {e : Str} (h : e.head? ≠ some '@') : specialTable.lookup e = none := by
  rw [List.lookup_eq_none_iff]
  intro p hp
  simp only [bne_iff_ne, ne_eq]
  intro heq
  exact h (heq ▸ specialTable_keys_head p hp)

theorem specialTable_keys_no_space : ∀ p ∈ specialTable, ¬ (' ' ∈ p.1) := by decide +kernel

theorem lookup_with_space (x y : Str) : specialTable.lookup (x ++ ' ' :: y) = none := by
  rw [List.lookup_eq_none_iff]
  intro p hp
  have hk := specialTable_keys_no_space p hp
  simp only [bne_iff_ne, ne_eq]
  intro heq
  rw [← heq] at hk
  exact hk (by simp)

theorem parse_eq_match (bs : Bounds) (s : Str) :
    parse bs s = match trimExpr s with
      | '@' :: t => parseExpr bs ('@' :: t)
      | e => parseTokens bs (splitOn ' ' e) := by
  unfold parse
  generalize trimExpr s = e
  split
  · rfl
  · rename_i h
    rw [parseExpr_eq, tokensOf_of_lookup_none (lookup_special_none ?_)]
    cases e with
    | nil => simp
    | cons c cs =>
      intro hc
      simp only [List.head?_cons, Option.some.injEq] at hc
      exact h cs (by rw [hc])

/-- `decide +kernel` on a closed statement about a text written as a string literal. The kernel gets at the characters of
a literal by decoding its UTF-8 bytes, by far the dearest step of such an evaluation; `String.toList_ofList` hands them
over instead. One literal is rewritten (all its occurrences); a statement about several texts spells the rewrites out. -/
macro "decide_text" : tactic => `(tactic| (rw [String.toList_ofList]; decide +kernel))

/-- the same for a statement about `parse`, where `parse_eq_match` also keeps the kernel from comparing the text with every
key of the macro table, literals again -/
macro "decide_parse" : tactic => `(tactic| (rw [String.toList_ofList, parse_eq_match]; decide +kernel))

theorem parseTokens_six (bs : Bounds) (tokens : List Str) (h : tokens.length = 6) :
    parseTokens bs tokens = parseTokens bs (tokens ++ [['*']]) := by
  have h7 : (tokens ++ [['*']]).length = 7 := by simp [h]
  unfold parseTokens
  simp only [h, h7]
  simp

theorem finish_wellFormed {f : Fields} (h : WellFormed f = true) : WellFormed (finish f) = true := by
  unfold finish
  split
  · simp only [WellFormed, Bool.and_eq_true] at h ⊢
    simp at h
    simp [h]
    -- left: `Sorted (List.range 60) = true ∧ allIn 0 59 (List.range 60) = true`
    decide
  · exact h

theorem buildFields_wellFormed {tokens : List Str} {f : Fields}
    (hd : anyDay (tokens.getD 3 []) = true ∨ anyDay (tokens.getD 5 []) = true)
    (h : buildFields {} tokens = some f) : WellFormed f = true := by
  unfold buildFields at h
  split at h
  · rename_i t0 t1 t2 t3 t4 t5 t6
    split at h
    · rename_i f0 f1 f2 f3 f4 f5 f6 h0 h1 h2 h3 h4 h5 h6
      injection h with h; subst h
      have g0 : f0.n = 0 ∧ Good 0 59 f0.values := parseField_good h0
      have g1 : f1.n = 0 ∧ Good 0 59 f1.values := parseField_good h1
      have g2 : f2.n = 0 ∧ Good 0 23 f2.values := parseField_good h2
      have g3 : domOK f3 = true := parseDom_domOK h3
      have g4 : f4.n = 0 ∧ Good 1 12 f4.values := parseField_good h4
      have g5 : dowOK (shiftDow f5) = true := parseDow_dowOK h5
      have g6 : f6.n = 0 ∧ Good 1970 3940 f6.values := parseField_good h6
      have gd : ((f3.values == [] && decide (f3.n = 0)) ||
          ((f5.values.map (· - 1)) == [] && decide (f5.n = 0))) = true := by
        rcases hd with hd | hd
        · rw [(parseDay_anyDay (t := t3) hd _).1] at h3
          cases h3
          rfl
        · rw [(parseDay_anyDay (t := t5) hd _).2] at h5
          cases h5
          simp
      unfold shiftDow at g5
      simp only [WellFormed, Bool.and_eq_true]
      simp only [g0.1, g1.1, g2.1, g4.1, g6.1, g0.2.sorted, g1.2.sorted, g2.2.sorted, g4.2.sorted,
        g6.2.sorted, g0.2.allIn, g1.2.allIn, g2.2.allIn, g4.2.allIn, g6.2.allIn, g3, g5, gd,
        decide_true, and_self]
    · cases h
  · cases h

theorem parseTokens_wellFormed {tokens : List Str} {f : Fields} (h : parseTokens {} tokens = some f) :
    WellFormed f = true := by
  unfold parseTokens at h
  split at h
  · cases h
  · dsimp only at h
    generalize (if tokens.length = 6 then tokens ++ [['*']] else tokens) = toks at h
    split at h
    · cases h
    · rename_i hd
      refine buildFields_wellFormed ?_ h
      simp only [Bool.and_eq_true, Bool.not_eq_true', not_and, Bool.not_eq_false] at hd
      cases ha : anyDay (toks.getD 3 [])
      · exact Or.inr (hd ha)
      · exact Or.inl rfl

theorem char_le_iff (a b : Char) : a ≤ b ↔ a.toNat ≤ b.toNat := Iff.rfl

theorem isDigit_iff (c : Char) : isDigit c = true ↔ 48 ≤ c.toNat ∧ c.toNat ≤ 57 := by
  simp [isDigit, char_le_iff]

theorem isDigit_eq (c : Char) : isDigit c = c.isDigit := by
  rw [Bool.eq_iff_iff, isDigit_iff]
  unfold Char.isDigit
  simp only [ge_iff_le, Bool.and_eq_true, decide_eq_true_eq, UInt32.le_iff_toNat_le]
  rfl

theorem digitsVal_eq (l : Str) (acc : Nat) : digitsVal l acc = Nat.ofDigitChars 10 l acc := by
  induction l generalizing acc with
  | nil => simp [digitsVal]
  | cons c cs ih => rw [digitsVal, Nat.ofDigitChars_cons, ih, Nat.mul_comm]

theorem atoi_cons_of_not_sign (c : Char) (cs : Str) (h1 : c ≠ '-') (h2 : c ≠ '+') :
    atoi (c :: cs) =
      if (c :: cs).all isDigit = true then
        (if digitsVal (c :: cs) 0 ≤ maxInt64 then some (digitsVal (c :: cs) 0 : Int) else none)
      else none := by
  unfold atoi
  split
  rename_i neg ds heq
  split at heq
  · rename_i heq'; injection heq' with heq' _; exact absurd heq' h1
  · rename_i heq'; injection heq' with heq' _; exact absurd heq' h2
  · injection heq with e1 e2; subst e1; subst e2
    by_cases hall : (c :: cs).all isDigit = true
    · simp [hall]
    · simp [hall]

theorem atoi_digits {ds : Str} {v : Nat} (hne : ds ≠ []) (hall : ds.all isDigit = true)
    (hv : digitsVal ds 0 = v) (hle : v ≤ maxInt64) : atoi ds = some (v : Int) := by
  subst hv
  cases ds with
  | nil => exact absurd rfl hne
  | cons c cs =>
    have hc : isDigit c = true := by simp at hall; exact hall.1
    have h1 : c ≠ '-' := by rintro rfl; revert hc; decide
    have h2 : c ≠ '+' := by rintro rfl; revert hc; decide
    rw [atoi_cons_of_not_sign c cs h1 h2]
    simp [hall, hle]

/-- decimal rendering (`strconv.Itoa` on a non-negative number) -/
def renderNat (n : Nat) : Str := Nat.toDigits 10 n

theorem renderNat_all_digit (n : Nat) : (renderNat n).all isDigit = true := by
  rw [List.all_eq_true]
  intro c hc
  rw [isDigit_eq]
  exact Nat.isDigit_of_mem_toDigits (by decide) (by decide) hc

theorem digitsVal_renderNat (n : Nat) : digitsVal (renderNat n) 0 = n := by
  rw [digitsVal_eq]; exact Nat.ofDigitChars_ten_toDigits

theorem atoi_renderNat (n : Nat) (h : n ≤ maxInt64) : atoi (renderNat n) = some (n : Int) :=
  atoi_digits Nat.toDigits_ne_nil (renderNat_all_digit n) (digitsVal_renderNat n) h

theorem normalize_renderNat (names : List Str) (n : Nat) (h : n ≤ maxInt64) :
    normalize names (renderNat n) = some (n : Int) := by
  unfold normalize; rw [atoi_renderNat n h]

/-- none of `,` `/` `-` occurs: the three tests by which `parseField` picks a sub-parser all fail -/
def noSep (v : Str) : Bool := !v.contains ',' && !v.contains '/' && !v.contains '-'

theorem noSep_iff (v : Str) : noSep v = true ↔
    ¬ (v.contains ',' = true) ∧ ¬ (v.contains '/' = true) ∧ ¬ (v.contains '-' = true) := by
  simp [noSep, and_assoc]

theorem not_contains_append_sep {a z : Str} {sep c : Char} (ha : ¬ (a.contains c = true)) (hc : c ≠ sep)
    (hz : ¬ (z.contains c = true)) : ¬ ((a ++ sep :: z).contains c = true) := by
  simp only [List.contains_eq_mem, List.mem_append, List.mem_cons, decide_eq_true_eq, not_or] at ha hz ⊢
  exact ⟨ha, hc, hz⟩

theorem not_contains_of_all_digit (v : Str) (h : v.all isDigit = true) (c : Char) (hc : isDigit c = false) :
    ¬ (v.contains c = true) := by
  intro hm
  rw [List.all_eq_true] at h
  have := h c (by simpa using hm)
  rw [hc] at this; cases this

theorem noSep_of_all_digit (v : Str) (h : v.all isDigit = true) : noSep v = true :=
  (noSep_iff v).2 ⟨not_contains_of_all_digit v h _ (by decide), not_contains_of_all_digit v h _ (by decide),
    not_contains_of_all_digit v h _ (by decide)⟩

theorem noSep_renderNat (n : Nat) : noSep (renderNat n) = true := noSep_of_all_digit _ (renderNat_all_digit n)

theorem not_wild_of_contains {v : Str} {c : Char} (hc : v.contains c = true) (h1 : c ≠ '*') (h2 : c ≠ '?') :
    v ≠ ['*'] ∧ v ≠ ['?'] := by
  constructor <;> (rintro rfl; simp at hc; contradiction)

theorem not_wild_of_all_digit (v : Str) (h : v.all isDigit = true) : v ≠ ['*'] ∧ v ≠ ['?'] := by
  constructor
  · rintro rfl; revert h; decide
  · rintro rfl; revert h; decide

theorem indexOf?_of_nodup (names : List Str) (i : Nat) (nm : Str) (h : names[i]? = some nm)
    (hnodup : names.Nodup) : indexOf? names nm = some i := by
  induction names generalizing i with
  | nil => simp at h
  | cons x t ih =>
    have hn := List.nodup_cons.1 hnodup
    cases i with
    | zero =>
      simp at h; subst h; simp [indexOf?]
    | succ j =>
      simp at h
      have hmem : nm ∈ t := List.mem_of_getElem? h
      have hx : x ≠ nm := by rintro rfl; exact hn.1 hmem
      simp [indexOf?, hx, ih j h hn.2]

def isUpperAZ (c : Char) : Bool := 'A' ≤ c && c ≤ 'Z'

theorem isUpperAZ_iff (c : Char) : isUpperAZ c = true ↔ 65 ≤ c.toNat ∧ c.toNat ≤ 90 := by
  simp [isUpperAZ, char_le_iff]

/-- whatever upper-cases to an ASCII capital is itself a letter(-like) character: code ≥ 65, in
    particular no digit, sign, separator, wildcard or blank -/
theorem ge65_of_upperChar (c : Char) (h : isUpperAZ (upperChar c) = true) : 65 ≤ c.toNat := by
  unfold upperChar at h
  split at h
  · rename_i hc
    simp only [Bool.and_eq_true, decide_eq_true_eq, char_le_iff] at hc
    have : 'a'.toNat = 97 := rfl
    omega
  · split at h
    · omega
    · split at h
      · omega
      · exact ((isUpperAZ_iff c).1 h).1

/-- all characters have code ≥ 65 (no digit, sign, separator, wildcard or blank): what upper-cases to a glossary name -/
def Wordy (v : Str) : Prop := ∀ c ∈ v, 65 ≤ c.toNat

theorem wordy_of_map_upper (v nm : Str) (hv : v.map upperChar = nm) (hall : nm.all isUpperAZ = true) :
    Wordy v := by
  intro c hc
  apply ge65_of_upperChar
  rw [List.all_eq_true] at hall
  apply hall
  rw [← hv]
  exact List.mem_map_of_mem hc

theorem Wordy.not_mem {v : Str} (h : Wordy v) (c : Char) (hc : c.toNat < 65) : ¬ (v.contains c = true) := by
  intro hm
  have := h c (by simpa using hm)
  omega

theorem atoi_wordy (v : Str) (h : Wordy v) : atoi v = none := by
  cases v with
  | nil => decide
  | cons c cs =>
    have hc : 65 ≤ c.toNat := h c (by simp)
    have h1 : c ≠ '-' := by rintro rfl; revert hc; decide
    have h2 : c ≠ '+' := by rintro rfl; revert hc; decide
    have h3 : isDigit c = false := by
      rw [Bool.eq_false_iff]; intro hd; have := (isDigit_iff c).1 hd; omega
    rw [atoi_cons_of_not_sign c cs h1 h2]
    simp [h3]

theorem Wordy.noSep {v : Str} (h : Wordy v) : noSep v = true :=
  (noSep_iff v).2 ⟨h.not_mem _ (by decide), h.not_mem _ (by decide), h.not_mem _ (by decide)⟩

theorem Wordy.not_wild {v : Str} (h : Wordy v) : v ≠ ['*'] ∧ v ≠ ['?'] := by
  constructor
  · rintro rfl; have := h '*' (by simp); revert this; decide
  · rintro rfl; have := h '?' (by simp); revert this; decide

/-- the entries after index 0 (the placeholder `"0"`) are non-empty words of `A`–`Z`; true of `monthNames`, `dayNames` -/
def glossaryOK (names : List Str) : Bool :=
  (names.drop 1).all (fun nm => nm.all isUpperAZ && nm != [])

theorem glossaryOK_get {names : List Str} (h : glossaryOK names = true) {i : Nat} {nm : Str}
    (hi : 0 < i) (hnm : names[i]? = some nm) : nm.all isUpperAZ = true ∧ nm ≠ [] := by
  unfold glossaryOK at h
  rw [List.all_eq_true] at h
  have hmem : nm ∈ names.drop 1 := by
    apply List.mem_of_getElem? (i := i - 1)
    rw [List.getElem?_drop]
    have : 1 + (i - 1) = i := by omega
    rw [this]; exact hnm
  have := h nm hmem
  simpa using this

/-- the last branch of `parseField` (no `,` `/` `-`), as a function of `normalize names field` -/
def singleOf (b : Bound) (x : Option Int) : Option Field :=
  match x with
  | some v => if inScope v b.lower b.upper then some { values := [v.toNat] } else none
  | none => none

theorem parseField_single (v : Str) (b : Bound) (names : List Str) (hw : v ≠ ['*'] ∧ v ≠ ['?'])
    (hs : noSep v = true) : parseField v b names = singleOf b (normalize names v) := by
  obtain ⟨h1, h2, h3⟩ := (noSep_iff v).1 hs
  unfold parseField singleOf
  simp only [hw.1, hw.2, or_self, if_false, h1, h2, h3]
  rfl

/-- the body of `parseRange` after the split at `-`, as a function of the two `normalize` results -/
def rangeOf (b : Bound) (x y : Option Int) : Option (List Nat) :=
  match x, y with
  | some frm, some to =>
    if inScope frm b.lower b.upper && inScope to b.lower b.upper then fillRange frm.toNat to.toNat else none
  | _, _ => none

theorem parseRange_eq (a z : Str) (b : Bound) (names : List Str)
    (ha : ¬ (a.contains '-' = true)) (hz : ¬ (z.contains '-' = true)) :
    parseRange (a ++ '-' :: z) b names = rangeOf b (normalize names a) (normalize names z) := by
  unfold parseRange rangeOf
  rw [splitOn_two '-' a z ha hz]
  rfl

theorem parseField_range (a z : Str) (b : Bound) (names : List Str)
    (ha : noSep a = true) (hz : noSep z = true) :
    parseField (a ++ '-' :: z) b names =
      (rangeOf b (normalize names a) (normalize names z)).map (fun v => { values := v }) := by
  obtain ⟨a1, a2, a3⟩ := (noSep_iff a).1 ha
  obtain ⟨z1, z2, z3⟩ := (noSep_iff z).1 hz
  have hd : (a ++ '-' :: z).contains '-' = true := by simp
  obtain ⟨w1, w2⟩ := not_wild_of_contains hd (by decide) (by decide)
  have c1 := not_contains_append_sep (sep := '-') a1 (by decide) z1
  have c2 := not_contains_append_sep (sep := '-') a2 (by decide) z2
  unfold parseField
  simp only [w1, w2, or_self, if_false, c1, c2, hd, if_true, Bool.false_eq_true,
    parseRange_eq a z b names a3 z3]

/-- the `let fromTo` of `parseStep` (`parseStepField`): the `from`/`to` pair, from the text before `/` -/
def stepFromTo (b : Bound) (names : List Str) (t0 : Str) : Option (Int × Int) :=
  if t0 = ['*'] then some (b.lower, b.upper)
  else if t0.contains '-' then
    match splitOn '-' t0 with
    | [a, z] =>
      match normalize names a, normalize names z with
      | some frm, some to => some (frm, to)
      | _, _ => none
    | _ => none
  else (normalize names t0).map (fun frm => (frm, (b.upper : Int)))

/-- the final `match` of `parseStep`, as a function of `fromTo` and `atoi t1` -/
def stepOf (b : Bound) (fromTo : Option (Int × Int)) (step : Option Int) : Option (List Nat) :=
  match fromTo, step with
  | some (frm, to), some step =>
    if inScope frm b.lower b.upper && inScope step 1 b.upper && inScope to b.lower b.upper
    then fillStep frm.toNat step.toNat to.toNat else none
  | _, _ => none

theorem parseStep_eq (t0 t1 : Str) (b : Bound) (names : List Str)
    (h0 : ¬ (t0.contains '/' = true)) (h1 : ¬ (t1.contains '/' = true)) :
    parseStep (t0 ++ '/' :: t1) b names = stepOf b (stepFromTo b names t0) (atoi t1) := by
  unfold parseStep stepOf stepFromTo
  rw [splitOn_two '/' t0 t1 h0 h1]
  rfl

theorem stepOf_natCast {b : Bound} {a z s : Nat} (h1 : b.lower ≤ a) (h2 : a ≤ z) (h3 : z ≤ b.upper)
    (hs1 : 1 ≤ s) (hs2 : s ≤ b.upper) :
    stepOf b (some ((a : Int), (z : Int))) (some (s : Int)) =
      some ((List.range ((z - a) / s + 1)).map (fun j => a + j * s)) := by
  have is' : inScope (s : Int) 1 b.upper = true := inScope_natCast hs1 hs2
  have n1 : ¬ (z < a ∨ s = 0) := by omega
  simp [stepOf, inScope_natCast h1 (Nat.le_trans h2 h3), inScope_natCast (Nat.le_trans h1 h2) h3, is', fillStep, n1]

theorem stepFromTo_star (b : Bound) (names : List Str) :
    stepFromTo b names ['*'] = some ((b.lower : Int), (b.upper : Int)) := by
  simp [stepFromTo]

theorem stepFromTo_from (b : Bound) (names : List Str) (a : Str) (hw : a ≠ ['*'])
    (ha : ¬ (a.contains '-' = true)) :
    stepFromTo b names a = (normalize names a).map (fun frm => (frm, (b.upper : Int))) := by
  unfold stepFromTo
  simp only [hw, if_false, ha, Bool.false_eq_true]

theorem stepFromTo_range (b : Bound) (names : List Str) (a z : Str)
    (ha : ¬ (a.contains '-' = true)) (hz : ¬ (z.contains '-' = true)) :
    stepFromTo b names (a ++ '-' :: z) =
      (match normalize names a, normalize names z with
       | some frm, some to => some (frm, to)
       | _, _ => none) := by
  have hd : (a ++ '-' :: z).contains '-' = true := by simp
  unfold stepFromTo
  simp only [(not_wild_of_contains hd (by decide) (by decide)).1, if_false, hd, if_true, splitOn_two '-' a z ha hz]

theorem parseField_step (t0 t1 : Str) (b : Bound) (names : List Str)
    (c0 : ¬ (t0.contains ',' = true)) (c1 : ¬ (t1.contains ',' = true))
    (h0 : ¬ (t0.contains '/' = true)) (h1 : ¬ (t1.contains '/' = true)) :
    parseField (t0 ++ '/' :: t1) b names =
      (stepOf b (stepFromTo b names t0) (atoi t1)).map (fun v => { values := v }) := by
  have hd : (t0 ++ '/' :: t1).contains '/' = true := by simp
  obtain ⟨w1, w2⟩ := not_wild_of_contains hd (by decide) (by decide)
  have cc := not_contains_append_sep (sep := '/') c0 (by decide) c1
  unfold parseField
  simp only [w1, w2, or_self, if_false, cc, hd, if_true, Bool.false_eq_true,
    parseStep_eq t0 t1 b names h0 h1]

def AllReSpace (w : Str) : Prop := ∀ c ∈ w, isReSpace c = true

theorem AllReSpace.tail {c : Char} {w : Str} (h : AllReSpace (c :: w)) : AllReSpace w :=
  fun d hd => h d (by simp [hd])

theorem collapseAux_run (f : Bool) (w y : Str) (hne : w ≠ []) (hw : AllReSpace w) :
    collapseAux f (w ++ y) = (if f then [] else [' ']) ++ collapseAux true y := by
  induction w generalizing f with
  | nil => exact absurd rfl hne
  | cons c w ih =>
    simp only [List.cons_append, collapseAux, hw c (by simp), if_true]
    -- the rest of the run adds nothing
    have : collapseAux true (w ++ y) = collapseAux true y := by
      cases w with
      | nil => rfl
      | cons d w => exact ih true (by simp) hw.tail
    rw [this]
    cases f <;> simp

/-- `collapseAux` goes through its input from left to right and carries nothing but the flag -/
theorem collapseAux_append (f : Bool) (x : Str) :
    ∃ f', ∀ y, collapseAux f (x ++ y) = collapseAux f x ++ collapseAux f' y := by
  induction x generalizing f with
  | nil => exact ⟨f, fun y => rfl⟩
  | cons c x ih =>
    simp only [List.cons_append, collapseAux]
    split
    · obtain ⟨f', h⟩ := ih true
      exact ⟨f', fun y => by rw [h]; split <;> rfl⟩
    · obtain ⟨f', h⟩ := ih false
      exact ⟨f', fun y => by rw [h]; rfl⟩

theorem trimExpr_between (x y w1 w2 : Str) (h1 : w1 ≠ []) (h2 : w2 ≠ [])
    (a1 : AllReSpace w1) (a2 : AllReSpace w2) :
    trimExpr (x ++ w1 ++ y) = trimExpr (x ++ w2 ++ y) := by
  unfold trimExpr collapseSpace
  obtain ⟨f', h⟩ := collapseAux_append false x
  rw [List.append_assoc, List.append_assoc, h, h, collapseAux_run f' w1 y h1 a1, collapseAux_run f' w2 y h2 a2]

theorem isUniSpace_space : isUniSpace ' ' = true := by decide

theorem dropWhile_collapseAux (x : Str) :
    (collapseAux true x).dropWhile isUniSpace = (collapseAux false x).dropWhile isUniSpace := by
  cases x with
  | nil => rfl
  | cons c x =>
    simp only [collapseAux]
    split
    · simp [isUniSpace_space]
    · rfl

theorem trimExpr_leading (w x : Str) (hw : AllReSpace w) : trimExpr (w ++ x) = trimExpr x := by
  cases hw0 : w with
  | nil => rfl
  | cons c w' =>
    subst hw0
    unfold trimExpr collapseSpace trimSpace
    rw [collapseAux_run false (c :: w') x (by simp) hw]
    simp only [Bool.false_eq_true, if_false, List.singleton_append, List.dropWhile_cons,
      isUniSpace_space, if_true]
    rw [dropWhile_collapseAux]

theorem trimSpace_append_space (A : Str) : trimSpace (A ++ [' ']) = trimSpace A := by
  unfold trimSpace
  rw [List.dropWhile_append]
  split
  · rename_i hemp
    have : A.dropWhile isUniSpace = [] := by simpa using hemp
    rw [this]
    simp [isUniSpace_space]
  · simp [isUniSpace_space]

theorem trimExpr_trailing (x w : Str) (hw : AllReSpace w) : trimExpr (x ++ w) = trimExpr x := by
  unfold trimExpr collapseSpace
  obtain ⟨f', h⟩ := collapseAux_append false x
  rw [h]
  by_cases hne : w = []
  · subst hne; simp [collapseAux]
  · have := collapseAux_run f' w [] hne hw
    rw [List.append_nil] at this
    rw [this]
    cases f'
    · exact trimSpace_append_space _
    · simp [collapseAux]

end Cron
