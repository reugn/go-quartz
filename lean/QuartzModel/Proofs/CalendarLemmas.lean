import QuartzModel.Calendar
/-!
# Correctness of the proleptic-Gregorian calendar model

Year and month lengths; `dayNumber` is strictly monotone in the lexicographic order of valid dates; the
bounded searches `yearOfDay`, `monthSearch` find the bracket, so `civilOfDay` inverts `dayNumber`;
`Civil.toSeconds` / `Civil.ofSeconds` are mutually inverse and respect the order.
-/
namespace Cal

theorem dim_bounds (y m : Nat) : 28 ≤ dim y m ∧ dim y m ≤ 31 := by
  unfold dim; split
  · split <;> omega
  · split <;> omega

/-- passing from `y` to `y + 1` raises `⌈y / d⌉` exactly when `d ∣ y` -/
theorem ceilDiv_succ (d y : Nat) (hd : 0 < d) :
    (y + 1 + (d - 1)) / d = (y + (d - 1)) / d + if y % d = 0 then 1 else 0 := by
  have e : y + 1 + (d - 1) = y + (d - 1) + 1 := by omega
  have hdvd : d ∣ y + (d - 1) + 1 ↔ y % d = 0 := by
    rw [show y + (d - 1) + 1 = y + d by omega, Nat.dvd_iff_mod_eq_zero, Nat.add_mod_right]
  rw [e, Nat.succ_div]
  simp only [hdvd]

theorem mod_eq_zero_of_dvd {y a b : Nat} (hab : a ∣ b) (h : y % b = 0) : y % a = 0 := by
  rw [← Nat.mod_mod_of_dvd y hab, h]; rfl

/-- `a`, `b`, `c` are the ceiling divisions by 4, 100, 400 in `daysBeforeYear y`; `i`, `j`, `k` what each gains
at `y + 1` (`ceilDiv_succ`), i.e. the three indicators that make up the leap day -/
theorem yearLen_arith (y a b c i j k : Nat) (hba : b ≤ a) (hji : j ≤ i) :
    365 * (y + 1) + (a + i) - (b + j) + (c + k) = 365 * y + a - b + c + (365 + i - j + k) := by omega

theorem yearLen (y : Nat) :
    daysBeforeYear (y + 1) = daysBeforeYear y + (if IsLeap y then 366 else 365) := by
  have l1 : (y + 99) / 100 ≤ (y + 3) / 4 := by omega
  have s4 : (y + 1 + 3) / 4 = _ := ceilDiv_succ 4 y (by decide)
  have s100 : (y + 1 + 99) / 100 = _ := ceilDiv_succ 100 y (by decide)
  have s400 : (y + 1 + 399) / 400 = _ := ceilDiv_succ 400 y (by decide)
  -- the length of the year from the three indicators, which are decreasing in the divisor
  have len : (if IsLeap y then 366 else 365) =
      365 + (if y % 4 = 0 then 1 else 0) - (if y % 100 = 0 then 1 else 0) + (if y % 400 = 0 then 1 else 0)
      ∧ (if y % 100 = 0 then 1 else 0) ≤ (if y % 4 = 0 then 1 else 0) := by
    by_cases h400 : y % 400 = 0
    · have h100 : y % 100 = 0 := mod_eq_zero_of_dvd (by decide) h400
      have h4 : y % 4 = 0 := mod_eq_zero_of_dvd (by decide) h100
      rw [if_pos h4, if_pos h100, if_pos h400, if_pos (show IsLeap y from ⟨h4, Or.inr h400⟩)]
      decide
    · by_cases h100 : y % 100 = 0
      · have h4 : y % 4 = 0 := mod_eq_zero_of_dvd (by decide) h100
        rw [if_pos h4, if_pos h100, if_neg h400,
          if_neg (fun h : IsLeap y => h.2.elim (fun g => g h100) h400)]
        decide
      · rw [if_neg h100, if_neg h400]
        by_cases h4 : y % 4 = 0
        · rw [if_pos h4, if_pos (show IsLeap y from ⟨h4, Or.inl h100⟩)]; decide
        · rw [if_neg h4, if_neg (fun h : IsLeap y => h4 h.1)]; decide
  unfold daysBeforeYear
  rw [s4, s100, s400, len.1]
  exact yearLen_arith y _ _ _ _ _ _ l1 len.2

theorem monthLen (y m : Nat) (h1 : 1 ≤ m) (h2 : m < 12) :
    daysBeforeMonth y (m + 1) = daysBeforeMonth y m + dim y m := by
  unfold daysBeforeMonth dim
  revert h1; revert m
  -- the year enters through `IsLeap y` only: two tables of eleven months
  by_cases hl : IsLeap y <;> simp only [hl, and_true, and_false, if_true, if_false] <;> decide

theorem epochDay_eq : dayNumber 1970 1 1 = epochDay := by decide

theorem yearLen_bounds (y : Nat) :
    365 ≤ (if IsLeap y then 366 else 365) ∧ (if IsLeap y then 366 else 365) ≤ 366 := by
  split <;> omega

theorem daysBeforeMonth_one (y : Nat) : daysBeforeMonth y 1 = 0 := by
  simp [daysBeforeMonth, monthTable]

theorem daysBeforeMonth_twelve (y : Nat) :
    daysBeforeMonth y 12 + dim y 12 = (if IsLeap y then 366 else 365) := by
  unfold daysBeforeMonth dim
  by_cases hl : IsLeap y <;> simp only [hl, and_true, and_false, if_true, if_false] <;> decide

/-- month offsets grow by at least 28 per month -/
theorem daysBeforeMonth_mono (y m k : Nat) (h1 : 1 ≤ m) (h2 : m + k ≤ 12) :
    daysBeforeMonth y m + 28 * k ≤ daysBeforeMonth y (m + k) := by
  induction k with
  | zero => exact Nat.le_refl _
  | succ k ih =>
    have := ih (by omega)
    have hl := monthLen y (m + k) (by omega) (by omega)
    have hd := dim_bounds y (m + k)
    rw [show m + (k + 1) = m + k + 1 by omega, hl]; omega

/-- a later month starts after the end of an earlier one -/
theorem daysBeforeMonth_next (y m m' : Nat) (h1 : 1 ≤ m) (h2 : m < m') (h3 : m' ≤ 12) :
    daysBeforeMonth y m + dim y m ≤ daysBeforeMonth y m' := by
  have hl := monthLen y m h1 (by omega)
  have := daysBeforeMonth_mono y (m + 1) (m' - (m + 1)) (by omega) (by omega)
  rw [show m + 1 + (m' - (m + 1)) = m' by omega] at this
  omega

theorem daysBeforeMonth_year (y m : Nat) (h1 : 1 ≤ m) (h2 : m ≤ 12) :
    daysBeforeMonth y m + dim y m ≤ (if IsLeap y then 366 else 365) := by
  by_cases h : m = 12
  · subst h; exact Nat.le_of_eq (daysBeforeMonth_twelve y)
  · have a := daysBeforeMonth_next y m 12 h1 (by omega) (by omega)
    have b := daysBeforeMonth_twelve y
    omega

theorem daysBeforeYear_mono (y k : Nat) : daysBeforeYear y + 365 * k ≤ daysBeforeYear (y + k) := by
  induction k with
  | zero => simp
  | succ k ih =>
    have hl := yearLen (y + k)
    have e : y + (k + 1) = y + k + 1 := by omega
    rw [e, hl]
    split <;> omega

theorem daysBeforeYear_le_of_le (y y' : Nat) (h : y ≤ y') : daysBeforeYear y ≤ daysBeforeYear y' := by
  have := daysBeforeYear_mono y (y' - y)
  rw [Nat.add_sub_cancel' h] at this
  omega

theorem daysBeforeYear_zero : daysBeforeYear 0 = 0 := by decide

theorem daysBeforeYear_le (y : Nat) : daysBeforeYear y ≤ 366 * y := by
  induction y with
  | zero => simp [daysBeforeYear_zero]
  | succ y ih =>
    rw [yearLen]
    split <;> omega

/-! ## one step of a lexicographic order on numbers: `a < b ∨ (a = b ∧ P)` -/

theorem lexStep_trans {a b c : Nat} {P Q R : Prop} (h : P → Q → R) :
    (a < b ∨ (a = b ∧ P)) → (b < c ∨ (b = c ∧ Q)) → (a < c ∨ (a = c ∧ R)) := by
  rintro (h1 | ⟨rfl, p⟩) (h2 | ⟨rfl, q⟩)
  · exact Or.inl (Nat.lt_trans h1 h2)
  · exact Or.inl h1
  · exact Or.inl h2
  · exact Or.inr ⟨rfl, h p q⟩

theorem lexStep_irrefl {a : Nat} {P : Prop} (h : ¬ P) : ¬ (a < a ∨ (a = a ∧ P)) :=
  fun h' => h'.elim (Nat.lt_irrefl a) (fun p => h p.2)

theorem lexStep_tri {a b : Nat} {P E Q : Prop} (h : P ∨ E ∨ Q) :
    (a < b ∨ (a = b ∧ P)) ∨ (a = b ∧ E) ∨ (b < a ∨ (b = a ∧ Q)) := by
  rcases Nat.lt_trichotomy a b with h1 | rfl | h1
  · exact Or.inl (Or.inl h1)
  · rcases h with p | e | q
    · exact Or.inl (Or.inr ⟨rfl, p⟩)
    · exact Or.inr (Or.inl ⟨rfl, e⟩)
    · exact Or.inr (Or.inr (Or.inr ⟨rfl, q⟩))
  · exact Or.inr (Or.inr (Or.inl h1))

theorem dayNumber_lt (y m d y' m' d' : Nat) (hv : ValidDate y m d) (hv' : ValidDate y' m' d')
    (hlt : y < y' ∨ (y = y' ∧ (m < m' ∨ (m = m' ∧ d < d')))) :
    dayNumber y m d < dayNumber y' m' d' := by
  obtain ⟨h1, h2, h3, h4⟩ := hv
  obtain ⟨h1', h2', h3', h4'⟩ := hv'
  unfold dayNumber
  rcases hlt with hy | ⟨rfl, hm | ⟨rfl, hd⟩⟩
  · have a := yearLen y ▸ daysBeforeYear_le_of_le (y + 1) y' hy
    have b := daysBeforeMonth_year y m h1 h2
    omega
  · have a := daysBeforeMonth_next y m m' h1 hm h2'
    omega
  · omega

theorem dayNumber_inj (y m d y' m' d' : Nat) (hv : ValidDate y m d) (hv' : ValidDate y' m' d')
    (h : dayNumber y m d = dayNumber y' m' d') : y = y' ∧ m = m' ∧ d = d' := by
  rcases lexStep_tri (lexStep_tri (Nat.lt_trichotomy d d')) with hlt | he | hgt
  · have := dayNumber_lt y m d y' m' d' hv hv' hlt; omega
  · exact he
  · have := dayNumber_lt y' m' d' y m d hv' hv hgt; omega

theorem dayNumber_lt_iff (y m d y' m' d' : Nat) (hv : ValidDate y m d) (hv' : ValidDate y' m' d') :
    dayNumber y m d < dayNumber y' m' d' ↔ (y < y' ∨ (y = y' ∧ (m < m' ∨ (m = m' ∧ d < d')))) := by
  refine ⟨fun h => ?_, dayNumber_lt y m d y' m' d' hv hv'⟩
  rcases lexStep_tri (lexStep_tri (Nat.lt_trichotomy d d')) with hlt | ⟨e1, e2, e3⟩ | hgt
  · exact hlt
  · rw [e1, e2, e3] at h; exact absurd h (Nat.lt_irrefl _)
  · exact absurd h (Nat.lt_asymm (dayNumber_lt y' m' d' y m d hv' hv hgt))

theorem weekday_lt (y m d : Nat) : weekday y m d < 7 := by
  unfold weekday; omega

/-- weekday is linear in the day, for ANY month number m (also out of range) -/
theorem weekday_add (y m d k : Nat) : weekday y m (d + k) = (weekday y m d + k) % 7 := by
  unfold weekday dayNumber
  rw [Nat.mod_add_mod, Nat.add_right_comm _ 5 k, Nat.add_assoc _ d k]

/-- going back `k` days is going forward `6 * k` days, as far as the weekday is concerned -/
theorem weekday_sub (y m d k : Nat) (h : k ≤ d) : weekday y m (d - k) = (weekday y m d + 6 * k) % 7 := by
  obtain ⟨j, rfl⟩ := Nat.exists_eq_add_of_le' h
  rw [Nat.add_sub_cancel, weekday_add, Nat.mod_add_mod, Nat.add_assoc, show k + 6 * k = 7 * k by omega,
    Nat.add_mul_mod_self_left, Nat.mod_eq_of_lt (weekday_lt y m j)]

theorem weekday_of_first (y m d : Nat) (hd : 1 ≤ d) :
    weekday y m d = (weekday y m 1 + (d - 1)) % 7 := by
  rw [← weekday_add, Nat.add_sub_cancel' hd]

theorem yearSearch_spec (n : Nat) : ∀ fuel y, daysBeforeYear y < n → n ≤ daysBeforeYear (y + fuel) →
    daysBeforeYear (yearSearch fuel y n) < n ∧ n ≤ daysBeforeYear (yearSearch fuel y n + 1) := by
  intro fuel
  induction fuel with
  | zero => intro y h1 h2; simp at h2; omega
  | succ f ih =>
    intro y h1 h2
    unfold yearSearch
    split
    · next hlt =>
      apply ih (y + 1) hlt
      have e : y + 1 + f = y + (f + 1) := by omega
      rw [e]; exact h2
    · next hge => exact ⟨h1, by omega⟩

theorem yearOfDay_spec (n : Nat) (h : 1 ≤ n) :
    daysBeforeYear (yearOfDay n) < n ∧ n ≤ daysBeforeYear (yearOfDay n + 1) := by
  unfold yearOfDay
  apply yearSearch_spec
  · have := daysBeforeYear_le ((n - 1) / 366); omega
  · have := daysBeforeYear_mono ((n - 1) / 366) n; omega

/-- the year brackets of two days are ordered like the days -/
theorem year_bracket_le {n n' y y' : Nat} (h : daysBeforeYear y < n) (h' : n' ≤ daysBeforeYear (y' + 1))
    (hle : n ≤ n') : y ≤ y' := by
  refine Nat.le_of_not_lt fun hlt => ?_
  have := daysBeforeYear_le_of_le (y' + 1) y hlt
  omega

theorem year_unique (n y y' : Nat)
    (h : daysBeforeYear y < n ∧ n ≤ daysBeforeYear (y + 1))
    (h' : daysBeforeYear y' < n ∧ n ≤ daysBeforeYear (y' + 1)) : y = y' :=
  Nat.le_antisymm (year_bracket_le h.1 h'.2 (Nat.le_refl n))
    (year_bracket_le h'.1 h.2 (Nat.le_refl n))

theorem yearOfDay_mono (n n' : Nat) (h : 1 ≤ n) (hle : n ≤ n') : yearOfDay n ≤ yearOfDay n' :=
  year_bracket_le (yearOfDay_spec n h).1 (yearOfDay_spec n' (Nat.le_trans h hle)).2 hle

theorem monthSearch_spec (y r : Nat) (hr : r ≤ (if IsLeap y then 366 else 365)) :
    ∀ fuel m, 1 ≤ m → m ≤ 12 → 13 ≤ m + fuel → daysBeforeMonth y m < r →
      1 ≤ monthSearch fuel y m r ∧ monthSearch fuel y m r ≤ 12 ∧
      daysBeforeMonth y (monthSearch fuel y m r) < r ∧
      r ≤ daysBeforeMonth y (monthSearch fuel y m r) + dim y (monthSearch fuel y m r) := by
  intro fuel
  induction fuel with
  | zero => intro m h1 h2 h3; omega
  | succ f ih =>
    intro m h1 h2 h3 h4
    unfold monthSearch
    split
    · next hc => exact ih (m + 1) (by omega) (by omega) (by omega) hc.2
    · next hc =>
      refine ⟨h1, h2, h4, ?_⟩
      by_cases h12 : m = 12
      · subst h12; have := daysBeforeMonth_twelve y; omega
      · have := monthLen y m h1 (by omega)
        have : ¬ daysBeforeMonth y (m + 1) < r := fun hh => hc ⟨by omega, hh⟩
        omega

theorem civilOfDay_valid (n : Nat) (h : 1 ≤ n) :
    ValidDate (civilOfDay n).1 (civilOfDay n).2.1 (civilOfDay n).2.2 ∧
    dayNumber (civilOfDay n).1 (civilOfDay n).2.1 (civilOfDay n).2.2 = n := by
  have hy := yearOfDay_spec n h
  have hl := yearLen (yearOfDay n)
  have hm := monthSearch_spec (yearOfDay n) (n - daysBeforeYear (yearOfDay n)) (by omega) 12 1
    (by omega) (by omega) (by omega) (by rw [daysBeforeMonth_one]; omega)
  simp only [civilOfDay, ValidDate, dayNumber]
  omega

theorem civilOfDay_dayNumber (y m d : Nat) (hv : ValidDate y m d) :
    civilOfDay (dayNumber y m d) = (y, m, d) := by
  have h1 : 1 ≤ dayNumber y m d := by have := hv.2.2.1; unfold dayNumber; omega
  obtain ⟨hv', he⟩ := civilOfDay_valid (dayNumber y m d) h1
  obtain ⟨e1, e2, e3⟩ := dayNumber_inj _ _ _ _ _ _ hv' hv he
  exact Prod.ext e1 (Prod.ext e2 e3)

theorem civilOfDay_fst (n : Nat) : (civilOfDay n).1 = yearOfDay n := rfl

theorem Civil.ofSeconds_eq (s : Int) :
    Civil.ofSeconds s =
      { year := (civilOfDay (s / 86400 + epochDay).toNat).1
        month := (civilOfDay (s / 86400 + epochDay).toNat).2.1
        day := (civilOfDay (s / 86400 + epochDay).toNat).2.2
        hour := (s % 86400).toNat / 3600
        minute := (s % 86400).toNat % 3600 / 60
        second := (s % 86400).toNat % 60 } := rfl

theorem hms_split (h m s : Nat) (hm : m ≤ 59) (hs : s ≤ 59) :
    (h * 3600 + m * 60 + s) / 3600 = h ∧ (h * 3600 + m * 60 + s) % 3600 / 60 = m ∧
      (h * 3600 + m * 60 + s) % 60 = s := by omega

theorem hms_join (r : Nat) (hr : r < 86400) :
    r / 3600 ≤ 23 ∧ r % 3600 / 60 ≤ 59 ∧ r % 60 ≤ 59 ∧
      r / 3600 * 3600 + r % 3600 / 60 * 60 + r % 60 = r := by omega

theorem day_split (d : Int) (r : Nat) (hr : r < 86400) :
    (d * 86400 + r) / 86400 = d ∧ ((d * 86400 + r) % 86400).toNat = r := by omega

theorem Civil.ofSeconds_toSeconds (t : Civil) (hv : t.Valid) : Civil.ofSeconds t.toSeconds = t := by
  obtain ⟨hd, hh, hm, hs⟩ := hv
  have e : t.toSeconds = ((dayNumber t.year t.month t.day : Int) - epochDay) * 86400 +
      ((t.hour * 3600 + t.minute * 60 + t.second : Nat) : Int) := by
    unfold Civil.toSeconds; omega
  obtain ⟨k1, k2⟩ := day_split ((dayNumber t.year t.month t.day : Int) - epochDay)
    (t.hour * 3600 + t.minute * 60 + t.second) (by omega)
  obtain ⟨a, b, c⟩ := hms_split t.hour t.minute t.second hm hs
  rw [Civil.ofSeconds_eq, e, k1, k2, a, b, c, Int.sub_add_cancel, Int.toNat_natCast,
    civilOfDay_dayNumber _ _ _ hd]

theorem Civil.toSeconds_ofSeconds (s : Int) (h : -(epochDay : Int) * 86400 + 86400 ≤ s) :
    (Civil.ofSeconds s).Valid ∧ (Civil.ofSeconds s).toSeconds = s := by
  obtain ⟨hv, he⟩ := civilOfDay_valid (s / 86400 + epochDay).toNat (by omega)
  obtain ⟨a, b, c, d⟩ := hms_join (s % 86400).toNat (by omega)
  rw [Civil.ofSeconds_eq]
  refine ⟨⟨hv, a, b, c⟩, ?_⟩
  simp only [Civil.toSeconds]
  rw [he]
  generalize (s % 86400).toNat / 3600 = hh at d ⊢
  generalize (s % 86400).toNat % 3600 / 60 = mm at d ⊢
  generalize (s % 86400).toNat % 60 = ss at d ⊢
  omega

/-- lexicographic order on (year, month, day, hour, minute, second) -/
def Civil.lexLt (t u : Civil) : Prop :=
  t.year < u.year ∨ (t.year = u.year ∧ (t.month < u.month ∨ (t.month = u.month ∧ (t.day < u.day ∨ (t.day = u.day ∧
  (t.hour < u.hour ∨ (t.hour = u.hour ∧ (t.minute < u.minute ∨ (t.minute = u.minute ∧ t.second < u.second)))))))))

theorem Civil.lexLt_trans (a b c : Civil) (h1 : Civil.lexLt a b) (h2 : Civil.lexLt b c) : Civil.lexLt a c :=
  lexStep_trans (lexStep_trans (lexStep_trans (lexStep_trans (lexStep_trans Nat.lt_trans)))) h1 h2

theorem Civil.lexLt_irrefl (a : Civil) : ¬ Civil.lexLt a a :=
  lexStep_irrefl (lexStep_irrefl (lexStep_irrefl (lexStep_irrefl (lexStep_irrefl (Nat.lt_irrefl _)))))

theorem Civil.lexLt_trichotomy (t u : Civil) : Civil.lexLt t u ∨ t = u ∨ Civil.lexLt u t := by
  cases t; cases u
  simp only [Civil.lexLt, Civil.mk.injEq]
  exact lexStep_tri (lexStep_tri (lexStep_tri (lexStep_tri (lexStep_tri (Nat.lt_trichotomy _ _)))))

theorem Civil.toSeconds_lt_of_lexLt (t u : Civil) (ht : t.Valid) (hu : u.Valid) (h : Civil.lexLt t u) :
    t.toSeconds < u.toSeconds := by
  obtain ⟨hd, hh, hm, hs⟩ := ht
  obtain ⟨hd', hh', hm', hs'⟩ := hu
  -- an earlier day, whatever the times of day
  have far : dayNumber t.year t.month t.day < dayNumber u.year u.month u.day → t.toSeconds < u.toSeconds := by
    unfold Civil.toSeconds; omega
  rcases h with h | ⟨e1, h | ⟨e2, h | ⟨e3, h⟩⟩⟩
  · exact far (dayNumber_lt _ _ _ _ _ _ hd hd' (Or.inl h))
  · exact far (dayNumber_lt _ _ _ _ _ _ hd hd' (Or.inr ⟨e1, Or.inl h⟩))
  · exact far (dayNumber_lt _ _ _ _ _ _ hd hd' (Or.inr ⟨e1, Or.inr ⟨e2, h⟩⟩))
  · unfold Civil.toSeconds; rw [e1, e2, e3]; omega

theorem Civil.toSeconds_lt_iff (t u : Civil) (ht : t.Valid) (hu : u.Valid) :
    t.toSeconds < u.toSeconds ↔ Civil.lexLt t u := by
  constructor
  · intro h
    rcases Civil.lexLt_trichotomy t u with h1 | h1 | h1
    · exact h1
    · subst h1; omega
    · have := Civil.toSeconds_lt_of_lexLt u t hu ht h1; omega
  · exact Civil.toSeconds_lt_of_lexLt t u ht hu

theorem Civil.toSeconds_inj (t u : Civil) (ht : t.Valid) (hu : u.Valid) (h : t.toSeconds = u.toSeconds) :
    t = u := by
  rw [← Civil.ofSeconds_toSeconds t ht, h, Civil.ofSeconds_toSeconds u hu]

/-- year of an instant is monotone: used to bound results by the last representable year -/
theorem Civil.ofSeconds_year_mono (s s' : Int) (h0 : -(epochDay : Int) * 86400 + 86400 ≤ s) (h : s ≤ s') :
    (Civil.ofSeconds s).year ≤ (Civil.ofSeconds s').year := by
  rw [Civil.ofSeconds_eq, Civil.ofSeconds_eq]
  show (civilOfDay _).1 ≤ (civilOfDay _).1
  rw [civilOfDay_fst, civilOfDay_fst]
  apply yearOfDay_mono <;> omega

instance (y m d : Nat) : Decidable (ValidDate y m d) := by unfold ValidDate; infer_instance
instance (t : Civil) : Decidable t.Valid := by unfold Civil.Valid; infer_instance
instance (t u : Civil) : Decidable (Civil.lexLt t u) := by unfold Civil.lexLt; infer_instance

example : dim 2024 2 = 29 ∧ dim 2023 2 = 28 ∧ dim 2100 2 = 28 ∧ dim 2000 2 = 29 := by decide
example : ValidDate 2024 2 29 := by decide
example : ValidDate 2023 12 31 ∧ ValidDate 2024 1 1 ∧
    dayNumber 2023 12 31 < dayNumber 2024 1 1 := by decide
example : weekday 2024 2 29 = 4 := by decide          -- a Thursday
example : civilOfDay (dayNumber 2024 2 29) = (2024, 2, 29) :=
  civilOfDay_dayNumber 2024 2 29 (by decide)

def leapEve : Civil := { year := 2024, month := 2, day := 29, hour := 23, minute := 59, second := 59 }

theorem leapEve_valid : leapEve.Valid := by decide
theorem leapEve_seconds : leapEve.toSeconds = 1709251199 := by decide

example : Civil.ofSeconds leapEve.toSeconds = leapEve := Civil.ofSeconds_toSeconds leapEve leapEve_valid
example : (Civil.ofSeconds 1709251199).Valid ∧ (Civil.ofSeconds 1709251199).toSeconds = 1709251199 :=
  Civil.toSeconds_ofSeconds 1709251199 (by decide)
example : (Civil.ofSeconds (-1)).Valid ∧ (Civil.ofSeconds (-1)).toSeconds = -1 :=
  Civil.toSeconds_ofSeconds (-1) (by decide)
example : Civil.lexLt leapEve { leapEve with month := 3, day := 1, hour := 0, minute := 0, second := 0 } := by
  decide

def marchFirst : Civil := { year := 2024, month := 3, day := 1, hour := 0, minute := 0, second := 0 }
theorem marchFirst_valid : marchFirst.Valid := by decide

example : leapEve.toSeconds < marchFirst.toSeconds :=
  (Civil.toSeconds_lt_iff leapEve marchFirst leapEve_valid marchFirst_valid).2 (by decide)
example : Civil.ofSeconds 1709251200 = marchFirst :=
  Civil.toSeconds_inj _ _ (Civil.toSeconds_ofSeconds 1709251200 (by decide)).1 marchFirst_valid
    ((Civil.toSeconds_ofSeconds 1709251200 (by decide)).2.trans (by decide))
example : (Civil.ofSeconds 1709251199).year ≤ (Civil.ofSeconds 4102444800).year :=
  Civil.ofSeconds_year_mono _ _ (by decide) (by decide)
example : dayNumber 2024 2 29 = dayNumber 2024 2 29 → (2024 = 2024 ∧ 2 = 2 ∧ 29 = 29) :=
  dayNumber_inj 2024 2 29 2024 2 29 (by decide) (by decide)
example : civilOfDay 1 = (0, 1, 1) ∧ civilOfDay epochDay = (1970, 1, 1) := by decide

end Cal
