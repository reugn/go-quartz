import QuartzModel.Generated.TransLoop
import QuartzModel.Proofs.FaultsLemmas
import QuartzModel.Proofs.TransSchedLemmas
/-!
# Representation maps between the translated execution loop (`Generated.TransLoop`) and the hand-written fault model
(`Sched/Faults.lean`), the scripted externals, and the equivalence lemmas.

* `theShape`: the one `Faults.Shape` that satisfies `Faults.WF` (`wf_eq`): the shape the TRANSLATED code is proved to have.
* `scriptQ eE eO i : JobQueueExt SQ Unit`: a queue every answer of which is dictated by the model input `i : Faults.In`
  (`Size()` answers `i.size` before the `Pop()` of the iteration and `i.size2` after it, `Head()` answers `i.head`, `Pop()` `i.pop`, `Push()`
  `i.pushOk`); `eE` is the error value it uses for "empty" (any error with `errors.Is(eE, ErrQueueEmpty)`), `eO` the one for every
  other failure (any error that is not).  Its state `SQ` is the script's own log: the calls with their outcomes, the job handed out
  by `Pop()`, the job accepted by `Push()`.
* `scriptT trig : TriggerExt Unit`: `Trigger.NextFireTime` of the trigger with identity `k` is `trig k`.
* `inpOf`: a model input as the generated `Inputs` record; `absOut`: the result of the translated iteration as a `Faults.Out`.
* `fetchAndReschedule_spec`: the imported `fetchAndReschedule` on the script = `Faults.fetch`.
* `armPart`, `iter_select`: the generated iteration is its arming part followed by the `select`, for any externals.
-/
namespace TransLoop
open Generated.TransSched Generated.TransLoop Faults

/-- `maxTimerDuration` as the translator evaluates it -/
def maxDur : Int := 9223372036854775807

/-- the shape of the error handling that the translated code has -/
def theShape : Shape :=
  { onSizeErr := .retry, backoff := .deadline, onBackoff := .untilRetry, onEmpty := .max, onDefault := .nextTick,
    headErr := .retry, headEmpty := .retry, stateFromTick := true, popErrReturned := true, popEmpty := .unlessSizeZero,
    pushErrReturned := true, backoffFirst := true, stateFromArm := true }

theorem theShape_wf : WF theShape := by decide

@[simp] theorem theShape_onSizeErr : theShape.onSizeErr = .retry := rfl
@[simp] theorem theShape_backoff : theShape.backoff = .deadline := rfl
@[simp] theorem theShape_onBackoff : theShape.onBackoff = .untilRetry := rfl
@[simp] theorem theShape_onEmpty : theShape.onEmpty = .max := rfl
@[simp] theorem theShape_onDefault : theShape.onDefault = .nextTick := rfl
@[simp] theorem theShape_headErr : theShape.headErr = .retry := rfl
@[simp] theorem theShape_headEmpty : theShape.headEmpty = .retry := rfl
@[simp] theorem theShape_stateFromTick : theShape.stateFromTick = true := rfl
@[simp] theorem theShape_popErrReturned : theShape.popErrReturned = true := rfl
@[simp] theorem theShape_popEmpty : theShape.popEmpty = .unlessSizeZero := rfl
@[simp] theorem theShape_pushErrReturned : theShape.pushErrReturned = true := rfl
@[simp] theorem theShape_backoffFirst : theShape.backoffFirst = true := rfl
@[simp] theorem theShape_stateFromArm : theShape.stateFromArm = true := rfl

/-- `WF.eq_shape`, with the literal under its name -/
theorem wf_eq (S : Shape) (h : WF S) : S = theShape := h.eq_shape

/-- a model entry as a Go `*scheduledJob`: non-nil detail (the job object and the trigger object are identified by the key),
    key, options (not suspended: `Faults.validate` leaves the paused case out) -/
def ofEntry (e : Entry) : scheduledJob :=
  { job := some { job := some e.key, jobKey := some { name := "job", group := "" }, opts := some {} },
    trigger := some e.key, priority := e.prio }

/-- what the loop observes of a `ScheduledJob` -/
def toEntry (j : scheduledJob) : Entry := { key := deref j.trigger, prio := j.priority }

@[simp] theorem toEntry_ofEntry (e : Entry) : toEntry (ofEntry e) = e := rfl

@[simp] theorem deref_some {α : Type} [Inhabited α] (a : α) : deref (some a) = a := rfl

/-- the script's own record of what happened to it -/
structure SQ where
  /-- `Pop()` has been called (the `Size()` that follows is the one of `fetchAndReschedule`) -/
  afterPop : Bool := false
  log : List (Op × Outcome) := []
  popped : Option scheduledJob := none
  pushed : Option scheduledJob := none
deriving Repr, DecidableEq

def SQ.call (q : SQ) (o : Op) (r : Outcome) : SQ := { q with log := q.log ++ [(o, r)] }

/-- a queue that answers what the model input dictates -/
def scriptQ (eE eO : Err) (i : In) : JobQueueExt SQ Unit where
  Push q j := if i.pushOk then ({ q.call .push .ok with pushed := j }, none) else (q.call .push .err, some eO)
  Pop q :=
    match i.pop with
    | .ok e => ({ q.call .pop .ok with popped := some (ofEntry e), afterPop := true }, (some (ofEntry e), none))
    | .empty => ({ q.call .pop .empty with afterPop := true }, (none, some eE))
    | .err => ({ q.call .pop .err with afterPop := true }, (none, some eO))
  Head q :=
    match i.head with
    | .ok f => (q.call .head .ok, (some (ofEntry ⟨0, f⟩), none))
    | .empty => (q.call .head .empty, (none, some eE))
    | .err => (q.call .head .err, (none, some eO))
  Get q _ := (q, (none, some eO))
  Remove q _ := (q, (none, some eO))
  ScheduledJobs q _ := (q, ([], some eO))
  Size q :=
    match (if q.afterPop then i.size2 else i.size) with
    | some n => (q.call .size .ok, (Int.ofNat n, none))
    | none => (q.call .size .err, (0, some eO))
  Clear q := (q, some eO)

/-- triggers by identity -/
def scriptT (trig : Trig) : TriggerExt Unit where
  NextFireTime _ k prev :=
    match trig k prev with
    | some t => ((), (t, none))
    | none => ((), (0, some (.other 0)))
  Description _ _ := ((), "")

/-- the scheduler options of a model configuration; `blocking` / `workers`: the dispatch mode -/
def envOf (c : Cfg) (blocking : Bool) (workers : Int) : Env :=
  { opts := { BlockingExecution := blocking, WorkerLimit := workers, OutdatedThreshold := c.thr, RetryInterval := c.R },
    started := true, now := 0 }

/-- a model input as the generated input record: the three clock readings of the arming part that lie on different paths
    through the `switch` (`time.Until(retryAt)`, the two `retryAt = time.Now().Add(…)`) are the model's one `now2`. `dsel`: what the `select` of the worker-pool dispatch does;
    `tstop`: what `timer.Stop()` answers in the interrupt case (neither is part of the model) -/
def inpOf (i : In) (dsel : executeAndReschedule.Sel1) (tstop : Bool) : Inputs :=
  { calculateNextTick_now1 := i.now2, fetchAndReschedule_now := i.nowVal, executeAndReschedule_sel1 := dsel,
    startExecutionLoop_now1 := i.now1, startExecutionLoop_now2 := i.now2, startExecutionLoop_now3 := i.now2,
    startExecutionLoop_now4 := i.now2,
    startExecutionLoop_sel1 := if i.interrupted then .recv_sched_interrupt else .recv_timer_C,
    startExecutionLoop_now5 := i.nowErr, startExecutionLoop_timerStop1 := tstop }

@[simp] theorem envOf_R (c : Cfg) (b : Bool) (w : Int) : (envOf c b w).opts.RetryInterval = c.R := rfl
@[simp] theorem inpOf_now1 (i : In) (d : executeAndReschedule.Sel1) (t : Bool) : (inpOf i d t).startExecutionLoop_now1 = i.now1 := rfl
@[simp] theorem inpOf_now2 (i : In) (d : executeAndReschedule.Sel1) (t : Bool) : (inpOf i d t).startExecutionLoop_now2 = i.now2 := rfl
@[simp] theorem inpOf_now3 (i : In) (d : executeAndReschedule.Sel1) (t : Bool) : (inpOf i d t).startExecutionLoop_now3 = i.now2 := rfl
@[simp] theorem inpOf_now4 (i : In) (d : executeAndReschedule.Sel1) (t : Bool) : (inpOf i d t).startExecutionLoop_now4 = i.now2 := rfl
@[simp] theorem inpOf_now5 (i : In) (d : executeAndReschedule.Sel1) (t : Bool) : (inpOf i d t).startExecutionLoop_now5 = i.nowErr := rfl
@[simp] theorem inpOf_sel (i : In) (d : executeAndReschedule.Sel1) (t : Bool) :
    (inpOf i d t).startExecutionLoop_sel1 = if i.interrupted then .recv_sched_interrupt else .recv_timer_C := rfl
@[simp] theorem inpOf_tstop (i : In) (d : executeAndReschedule.Sel1) (t : Bool) : (inpOf i d t).startExecutionLoop_timerStop1 = t := rfl

/-- the initial state of an iteration: a fresh script, nothing recorded -/
def σ0 : LSt SQ Unit := { queue := {}, trigs := (), out := [] }

def resetOf : LEvent → Option Int
  | .timerReset d => some d
  | _ => none

/-- the `JobDetail` handed to `executeWithRetries` / a new goroutine / the worker pool -/
def dispOf : LEvent → Option (Option JobDetail)
  | .execute jd => some jd
  | .spawn jd => some jd
  | .send _ job => some (scheduledJob.JobDetail (deref job))
  | _ => none

/-- receives from the interrupt channel: `true` = the blocking receive of a `select`, `false` = a non-blocking drain -/
def intrOf : LEvent → Option Bool
  | .recv ch => if ch = "sched.interrupt" then some true else none
  | .tryRecv ch => if ch = "sched.interrupt" then some false else none
  | _ => none

/-- the result of the translated iteration as the model's `Out` -/
def absOut (st : BState) (r : LSt SQ Unit × (Time × Bool)) : Out :=
  { armed := ((r.1.out.filterMap resetOf).head?).getD 0,
    calls := r.1.queue.log,
    dispatched := match (r.1.out.filterMap dispOf).head? with
      | some jd => (r.1.queue.popped.filter (fun j => decide (j.job = jd))).map toEntry
      | none => none,
    pushed := r.1.queue.pushed.map toEntry,
    popped := r.1.queue.popped.map toEntry,
    armErr := decide (r.1.queue.log.head? = some (.size, .err)) || r.1.queue.log.contains (.head, .err),
    tickErr := r.1.queue.log.contains (.pop, .err) || r.1.queue.log.contains (.push, .err),
    st := { st with retryAt := r.2.1 } }

@[simp] theorem resetOf_sched (e : Event) : resetOf (.sched e) = none := rfl
@[simp] theorem resetOf_log (a b : String) : resetOf (.log a b) = none := rfl
@[simp] theorem resetOf_timerNew (d : Int) : resetOf (.timerNew d) = none := rfl
@[simp] theorem resetOf_timerReset (d : Int) : resetOf (.timerReset d) = some d := rfl
@[simp] theorem resetOf_timerStop : resetOf .timerStop = none := rfl
@[simp] theorem resetOf_recv (a : String) : resetOf (.recv a) = none := rfl
@[simp] theorem resetOf_send (a : String) (j : Option scheduledJob) : resetOf (.send a j) = none := rfl
@[simp] theorem resetOf_trySend (a : String) : resetOf (.trySend a) = none := rfl
@[simp] theorem resetOf_tryRecv (a : String) : resetOf (.tryRecv a) = none := rfl
@[simp] theorem resetOf_execute (j : Option JobDetail) : resetOf (.execute j) = none := rfl
@[simp] theorem resetOf_spawn (j : Option JobDetail) : resetOf (.spawn j) = none := rfl
@[simp] theorem resetOf_wgAdd (n : Int) : resetOf (.wgAdd n) = none := rfl
@[simp] theorem resetOf_deferWgDone : resetOf .deferWgDone = none := rfl
@[simp] theorem intrOf_sched (e : Event) : intrOf (.sched e) = none := rfl
@[simp] theorem intrOf_log (a b : String) : intrOf (.log a b) = none := rfl
@[simp] theorem intrOf_timerNew (d : Int) : intrOf (.timerNew d) = none := rfl
@[simp] theorem intrOf_timerReset (d : Int) : intrOf (.timerReset d) = none := rfl
@[simp] theorem intrOf_timerStop : intrOf .timerStop = none := rfl
@[simp] theorem intrOf_recv (a : String) : intrOf (.recv a) = if a = "sched.interrupt" then some true else none := rfl
@[simp] theorem intrOf_send (a : String) (j : Option scheduledJob) : intrOf (.send a j) = none := rfl
@[simp] theorem intrOf_trySend (a : String) : intrOf (.trySend a) = none := rfl
@[simp] theorem intrOf_tryRecv (a : String) : intrOf (.tryRecv a) = if a = "sched.interrupt" then some false else none := rfl
@[simp] theorem intrOf_execute (j : Option JobDetail) : intrOf (.execute j) = none := rfl
@[simp] theorem intrOf_spawn (j : Option JobDetail) : intrOf (.spawn j) = none := rfl
@[simp] theorem intrOf_wgAdd (n : Int) : intrOf (.wgAdd n) = none := rfl
@[simp] theorem intrOf_deferWgDone : intrOf .deferWgDone = none := rfl
@[simp] theorem dispOf_sched (e : Event) : dispOf (.sched e) = none := rfl
@[simp] theorem dispOf_log (a b : String) : dispOf (.log a b) = none := rfl
@[simp] theorem dispOf_timerNew (d : Int) : dispOf (.timerNew d) = none := rfl
@[simp] theorem dispOf_timerReset (d : Int) : dispOf (.timerReset d) = none := rfl
@[simp] theorem dispOf_timerStop : dispOf .timerStop = none := rfl
@[simp] theorem dispOf_recv (a : String) : dispOf (.recv a) = none := rfl
@[simp] theorem dispOf_send (a : String) (j : Option scheduledJob) : dispOf (.send a j) = some (scheduledJob.JobDetail (deref j)) := rfl
@[simp] theorem dispOf_trySend (a : String) : dispOf (.trySend a) = none := rfl
@[simp] theorem dispOf_tryRecv (a : String) : dispOf (.tryRecv a) = none := rfl
@[simp] theorem dispOf_execute (j : Option JobDetail) : dispOf (.execute j) = some j := rfl
@[simp] theorem dispOf_spawn (j : Option JobDetail) : dispOf (.spawn j) = some j := rfl
@[simp] theorem dispOf_wgAdd (n : Int) : dispOf (.wgAdd n) = none := rfl
@[simp] theorem dispOf_deferWgDone : dispOf .deferWgDone = none := rfl

theorem scriptQ_Size (eE eO : Err) (i : In) (q : SQ) :
    (scriptQ eE eO i).Size q =
      match (if q.afterPop then i.size2 else i.size) with
      | some n => (q.call .size .ok, (Int.ofNat n, none))
      | none => (q.call .size .err, (0, some eO)) := rfl

theorem scriptQ_Pop (eE eO : Err) (i : In) (q : SQ) :
    (scriptQ eE eO i).Pop q =
      match i.pop with
      | .ok e => ({ q.call .pop .ok with popped := some (ofEntry e), afterPop := true }, (some (ofEntry e), none))
      | .empty => ({ q.call .pop .empty with afterPop := true }, (none, some eE))
      | .err => ({ q.call .pop .err with afterPop := true }, (none, some eO)) := rfl

theorem scriptQ_Push (eE eO : Err) (i : In) (q : SQ) (j : Option scheduledJob) :
    (scriptQ eE eO i).Push q j =
      if i.pushOk then ({ q.call .push .ok with pushed := j }, none) else (q.call .push .err, some eO) := rfl

/-- the log lines of `calculateNextTick` -/
def calcLogs : Res Int → List LEvent
  | .ok _ => [.log "Trace" "Next tick"]
  | .empty => [.log "Debug" "Queue is empty"]
  | .err => [.log "Error" "Failed to calculate next tick"]

@[simp] theorem outcome_err_iff (h : Res Int) : (h.outcome = Outcome.err) = (h = Res.err) := by
  cases h <;> simp [Res.outcome]

@[simp] theorem outcome_err_iff' (h : Res Int) : (Outcome.err = h.outcome) = (h = Res.err) := by
  cases h <;> simp [Res.outcome]

@[simp] theorem calcLogs_reset (h : Res Int) : (calcLogs h).filterMap resetOf = [] := by
  cases h <;> simp [calcLogs, List.filterMap_cons]
@[simp] theorem calcLogs_disp (h : Res Int) : (calcLogs h).filterMap dispOf = [] := by
  cases h <;> simp [calcLogs, List.filterMap_cons]
@[simp] theorem calcLogs_intr (h : Res Int) : (calcLogs h).filterMap intrOf = [] := by
  cases h <;> simp [calcLogs, List.filterMap_cons]

theorem satDuration_id {x : Int} (h : -9223372036854775808 ≤ x ∧ x ≤ 9223372036854775807) : satDuration x = x := by
  rw [satDuration, if_neg (Int.not_lt.mpr h.2), if_neg (Int.not_lt.mpr h.1)]

/-- what a callee translated in `Generated.TransSched` records is not seen by `resetOf` / `dispOf` / `intrOf` -/
theorem filterMap_sched {β : Type} (f : LEvent → Option β) (hf : ∀ e, f (.sched e) = none) (l : List Event) :
    (l.map LEvent.sched).filterMap f = [] := by
  induction l with
  | nil => rfl
  | cons e l ih => simp [hf, ih]

/-- `validateJob`, followed by the call of the closure it returns (the next run time), = `Faults.validate`, for a job as the
    script hands it out -/
theorem validateJob_spec {M : Type} (JQ : JobQueueExt SQ M) (trig : Trig) (c : Cfg) (b : Bool) (w : Int) (e : Entry)
    (now : Int) (hov : i64 (now - c.thr) = now - c.thr) (σ : St SQ Unit) :
    let env := { envOf c b w with now := now }
    let r3 := validateJob JQ (scriptT trig) env σ (some (ofEntry e))
    let r4 := validateJob.Fn.call JQ (scriptT trig) env r3.1 r3.2.2
    r4.1.queue = σ.queue ∧ r3.2.1 = (validate c trig e now).1 ∧
      (match (validate c trig e now).2 with
        | some t => r4.2 = (t, none)
        | none => r4.2.2.isSome = true) := by
  intro env r3 r4
  by_cases h1 : e.prio < now - c.thr
  · cases ht : trig e.key now <;>
      simp [r4, r3, env, validateJob, validateJob.Fn.call, validate, scriptT, St.callT, St.emit, ofEntry, envOf,
        scheduledJob.JobDetail, scheduledJob.NextRunTime, scheduledJob.Trigger, hov, h1, ht]
  · by_cases h2 : e.prio > now
    · simp [r4, r3, env, validateJob, validateJob.Fn.call, validate, St.emit, ofEntry, envOf,
        scheduledJob.JobDetail, scheduledJob.NextRunTime, hov, h1, h2]
    · cases ht : trig e.key e.prio <;>
        simp [r4, r3, env, validateJob, validateJob.Fn.call, validate, scriptT, St.callT, ofEntry, envOf,
          scheduledJob.JobDetail, scheduledJob.NextRunTime, scheduledJob.Trigger, hov, h1, h2, ht]

theorem ofEntry_prio (e : Entry) (t : Int) :
    ({ job := scheduledJob.JobDetail (ofEntry e), trigger := scheduledJob.Trigger (ofEntry e), priority := t } : scheduledJob) =
      ofEntry { e with prio := t } := rfl

theorem fetchAndReschedule_spec (eE eO : Err) (hE : errorsIs (some eE) (some ErrQueueEmpty) = true)
    (hO : errorsIs (some eO) (some ErrQueueEmpty) = false) (trig : Trig) (c : Cfg) (b : Bool) (w : Int) (i : In)
    (hov : i64 (i.nowVal - c.thr) = i.nowVal - c.thr) (σ : St SQ Unit) :
    let F := fetch theShape c trig i
    let r := fetchAndReschedule (scriptQ eE eO i) (scriptT trig) { envOf c b w with now := i.nowVal } σ
    r.1.queue.log = σ.queue.log ++ F.calls ∧
    r.1.queue.popped = (match F.popped with | some e => some (ofEntry e) | none => σ.queue.popped) ∧
    r.1.queue.pushed = (match F.pushed with | some e => some (ofEntry e) | none => σ.queue.pushed) ∧
    r.2.1 = F.popped.map ofEntry ∧ r.2.2.1 = F.dispatched.isSome ∧ r.2.2.2.isSome = F.retErr := by
  intro F r
  cases hp : i.pop with
  | err => simp [F, r, fetch, fetchAndReschedule, scriptQ_Pop, St.callQ, St.emit, SQ.call, hp, hO]
  | empty =>
    -- the `Size()` after the `Pop()`: an error, 0, or more
    have hne (n : Nat) : ¬ ((n : Int) + 1 = 0) := by omega
    rcases hs : i.size2 with _ | _ | n <;>
      simp [F, r, fetch, fetchAndReschedule, scriptQ_Pop, scriptQ_Size, St.callQ, St.emit, SQ.call, hp, hE, hs, hne]
  | ok e =>
    have V := validateJob_spec (scriptQ eE eO i) trig c b w e i.nowVal hov
      { σ with queue := { σ.queue.call .pop .ok with popped := some (ofEntry e), afterPop := true } }
    simp only [SQ.call] at V
    obtain ⟨hq, hv, hn⟩ := V
    cases hv2 : (validate c trig e i.nowVal).2 with
    | none =>
      simp only [hv2] at hn
      simp [F, r, fetch, fetchAndReschedule, scriptQ_Pop, St.callQ, St.emit, SQ.call, hp, hq, hv, hn, hv2]
      cases (validate c trig e i.nowVal).1 <;> rfl
    | some t =>
      simp only [hv2] at hn
      cases hpu : i.pushOk <;>
        simp [F, r, fetch, fetchAndReschedule, scriptQ_Pop, scriptQ_Push, St.callQ, St.emit, SQ.call, hp, hq, hv, hn, hv2,
          hpu, ofEntry_prio] <;>
        cases (validate c trig e i.nowVal).1 <;> rfl

/-- the arming part of `startExecutionLoop.iter`: everything before the `select` (the back-off test, `Size()`, the `switch`
    with its one `timer.Reset`); result: the state and the `retryAt` with which the `select` is entered -/
def armPart {Q H M : Type} (JQ : JobQueueExt Q M) (TR : TriggerExt H) (env : Env) (inp : Inputs) (σ : LSt Q H)
    (retryAt : Time) : LSt Q H × Time :=
  if Time.Before (Time.now inp.startExecutionLoop_now1) retryAt then
    (σ.emit (.timerReset (Time.Until inp.startExecutionLoop_now2 retryAt)), retryAt)
  else
    let r2 := σ.callQ (fun q => JQ.Size q)
    if r2.2.2.isSome then
      ((r2.1.emit (.log "Error" "Failed to fetch queue size")).emit (.timerReset env.opts.RetryInterval),
        Time.Add (Time.now inp.startExecutionLoop_now3) env.opts.RetryInterval)
    else if decide (r2.2.1 = 0) then
      ((r2.1.emit (.log "Trace" "Queue is empty")).emit (.timerReset 9223372036854775807), retryAt)
    else
      let r4 := calculateNextTick JQ TR env inp r2.1
      (r4.1.emit (.timerReset r4.2.1),
        if r4.2.2.isSome then Time.Add (Time.now inp.startExecutionLoop_now4) env.opts.RetryInterval else retryAt)

theorem iter_select {Q H M : Type} (JQ : JobQueueExt Q M) (TR : TriggerExt H) (env : Env) (inp : Inputs) (σ : LSt Q H)
    (retryAt : Time) :
    startExecutionLoop.iter JQ TR env inp σ retryAt =
      let a := armPart JQ TR env inp σ retryAt
      match inp.startExecutionLoop_sel1 with
      | .recv_timer_C =>
        let r := executeAndReschedule JQ TR env inp ((a.1.emit (.recv "timer.C")).emit (.log "Trace" "Tick"))
        (r.1, (if r.2.isSome then Time.Add (Time.now inp.startExecutionLoop_now5) env.opts.RetryInterval else a.2, true))
      | .recv_sched_interrupt =>
        let σ := ((a.1.emit (.recv "sched.interrupt")).emit (.log "Trace" "Interrupted waiting for next tick")).emit .timerStop
        (if !inp.startExecutionLoop_timerStop1 then σ.emit (.tryRecv "timer.C") else σ, (a.2, true))
      | .recv_ctx_Done =>
        ((Reset JQ TR env inp (((a.1.emit (.recv "ctx.Done()")).emit (.log "Info" "Exit the execution loop")).emit
          .timerStop)).1, (a.2, false)) := by
  unfold startExecutionLoop.iter armPart
  -- after `simp only` the two sides differ in the name of the `match` only
  cases Time.Before (Time.now inp.startExecutionLoop_now1) retryAt <;>
    simp only [apply_ite Prod.fst, apply_ite Prod.snd, ite_self, Bool.not_true, Bool.not_false, Bool.false_eq_true,
      if_true, if_false] <;> rfl

end TransLoop
