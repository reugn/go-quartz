import QuartzModel.Generated.TransLogger
import QuartzModel.Logger.Simple
import QuartzModel.Proofs.LoggerLemmas
/-!
# Helper lemmas: the translated loggers (`Generated.TransLogger`) against the hand-written model `Logger` (Logger/Simple.lean)
-/
set_option autoImplicit false

namespace TransLogger
open Generated.TransLogger

variable {W A : Type}

/-- how fmt renders the argument list inside `formatMessage`: `%s` for a key (an argument at an even position that has a successor),
`%v` for a value and for the odd last argument.  The hand model works on these rendered strings. -/
def renderArgs (F : Fmt A) : List A → List String
  | [] => []
  | [a] => [F.fmtV a]
  | k :: v :: rest => F.fmtS k :: F.fmtV v :: renderArgs F rest

theorem renderArgs_length (F : Fmt A) : ∀ args : List A, (renderArgs F args).length = args.length
  | [] => rfl
  | [_] => rfl
  | _ :: _ :: rest => by simp [renderArgs, renderArgs_length F rest]

/-- when `%s` and `%v` agree (strings, and everything whose `String()`/`Error()` method fmt uses for both) this is a plain map -/
theorem renderArgs_map (F : Fmt A) (h : F.fmtS = F.fmtV) : ∀ args : List A, renderArgs F args = args.map F.fmtV
  | [] => rfl
  | [_] => rfl
  | _ :: _ :: rest => by simp [renderArgs, renderArgs_map F h rest, h]

theorem idx_of_drop [Inhabited A] (args : List A) (i : Nat) (a : A) (tl : List A) (h : args.drop i = a :: tl) :
    idx args (i : Int) = a := by
  have h1 : (args.drop i).head? = some a := by rw [h]; rfl
  rw [List.head?_drop] at h1
  unfold idx
  simp [List.getD, h1]

theorem length_of_drop (args : List A) (i : Nat) (a : A) (tl : List A) (h : args.drop i = a :: tl) :
    i + tl.length + 1 = args.length := by
  have := congrArg List.length h
  simp only [List.length_drop, List.length_cons] at this
  omega

/-- the loop of `formatMessage` started at position `i`, with enough fuel for what is left, appends `formatArgs` of the rendered
arguments from `i` on -/
theorem loop1_spec [Inhabited A] (F : Fmt A) (args : List A) (fuel : Nat) : ∀ (i : Nat) (b : String), args.length - i ≤ fuel →
    formatMessage.loop1 F (args.length : Int) args fuel (i : Int) b = b ++ Logger.formatArgs (renderArgs F (args.drop i)) := by
  induction fuel with
  | zero =>
    intro i b h
    rw [List.drop_eq_nil_iff.mpr (by omega)]
    simp [formatMessage.loop1, renderArgs, Logger.formatArgs]
  | succ f ih =>
    intro i b h
    have hc : ((i : Int) + 2) = ((i + 2 : Nat) : Int) := by omega
    have hd2 : args.drop (i + 2) = (args.drop i).drop 2 := by rw [List.drop_drop]
    have ih' := fun b => ih (i + 2) b (by omega)
    simp only [formatMessage.loop1, hc, ih', hd2]
    rcases hd : args.drop i with _ | ⟨a, _ | ⟨v, rest⟩⟩
    · have := List.drop_eq_nil_iff.mp hd
      have h1 : ¬ ((i : Int) < (args.length : Int)) := by omega
      simp [h1, renderArgs, Logger.formatArgs]
    · have := length_of_drop args i a [] hd
      have h1 : ((i : Int) < (args.length : Int)) := by simp at this; omega
      have h2 : ¬ ((i : Int) + 1 < (args.length : Int)) := by simp at this; omega
      simp [h1, h2, idx_of_drop args i a [] hd, renderArgs, Logger.formatArgs, String.append_assoc]
    · have := length_of_drop args i a (v :: rest) hd
      have h1 : ((i : Int) < (args.length : Int)) := by simp at this; omega
      have h2 : ((i : Int) + 1 < (args.length : Int)) := by simp at this; omega
      have hv : idx args ((i : Int) + 1) = v :=
        idx_of_drop args (i + 1) v rest (by rw [← List.drop_drop, hd]; rfl)
      simp [h1, h2, idx_of_drop args i a (v :: rest) hd, hv, renderArgs, Logger.formatArgs, String.append_assoc]

/-- the translated method of each level -/
def simpleCall [Inhabited A] (lv : Logger.Lvl) (F : Fmt A) (X : Ext W A) (σ : St W A) (l : SimpleLogger) (msg : String) (args : List A) :
    St W A × CallResult Unit :=
  match lv with
  | .trace => SimpleLogger.Trace F X σ l msg args
  | .debug => SimpleLogger.Debug F X σ l msg args
  | .info => SimpleLogger.Info F X σ l msg args
  | .warn => SimpleLogger.Warn F X σ l msg args
  | .error => SimpleLogger.Error F X σ l msg args

/-- the four events of an enabled call, in program order -/
def callEvents (lg : Option Ref) (label m : String) (res : CallResult (Option Err)) : List (Event A) :=
  [.lock "l.mtx", .setPrefix lg label, .output lg 3 m res, .unlock "l.mtx"]

/-- what the caller of a level method sees of `Output`'s outcome: its error is dropped, its panic propagates -/
def resultOf : CallResult (Option Err) → CallResult Unit
  | .panicked => .panicked
  | .returned _ => .returned ()

theorem output_spec [Inhabited A] (X : Ext W A) (σ : St W A) (l : SimpleLogger) (p m : String) :
    SimpleLogger.output X σ l p m =
      ({ world := (X.output σ.world l.logger 3 m).1,
         out := σ.out ++ callEvents l.logger p m (X.output σ.world l.logger 3 m).2 },
       resultOf (X.output σ.world l.logger 3 m).2) := by
  unfold SimpleLogger.output SimpleLogger.output.body
  simp only [St.emit, St.output, callEvents, resultOf]
  cases (X.output σ.world l.logger 3 m).2 <;> simp

/-- a method that only passes on the outcome of its one call IS that call -/
theorem passOn_eq {S : Type} (p : S × CallResult Unit) :
    (match p.2 with
      | .panicked => (p.1, CallResult.panicked)
      | .returned _ => (p.1, CallResult.returned ())) = p := by
  rcases p with ⟨a, _ | ⟨⟨⟩⟩⟩ <;> rfl

/-- each of the five methods is `if l.enabled(<its level>) { l.output(<its prefix>, formatMessage(msg, args)) }` -/
theorem simpleCall_spec [Inhabited A] (lv : Logger.Lvl) (F : Fmt A) (X : Ext W A) (σ : St W A) (l : SimpleLogger) (msg : String)
    (args : List A) :
    simpleCall lv F X σ l msg args =
      if Logger.enabled l.level lv.value = true then SimpleLogger.output X σ l lv.label (formatMessage F msg args)
      else (σ, .returned ()) := by
  cases lv <;> exact ite_congr rfl (fun _ => passOn_eq _) (fun _ => rfl)

/-- one call `l.<Level>(msg, args…)` -/
structure Call (A : Type) where
  lvl : Logger.Lvl
  msg : String
  args : List A

/-- the record of the hand model a call corresponds to (the model drops the arguments) -/
def Call.toRec (c : Call A) : Logger.Rec := ⟨c.lvl, c.msg⟩

/-- the atomic steps of one call of the TRANSLATED method: the events it records, in order; a call that records nothing
(filtered out) takes one silent step — it returns -/
def callProg [Inhabited A] (F : Fmt A) (X : Ext W A) (w : W) (l : SimpleLogger) (c : Call A) : List (Option (Event A)) :=
  match (simpleCall c.lvl F X ({ world := w } : St W A) l c.msg c.args).1.out with
  | [] => [none]
  | es => es.map some

structure EThread (A : Type) where
  /-- steps already taken inside the current call -/
  k : Nat := 0
  /-- calls still to make, current one first -/
  todo : List (Call A) := []

/-- the shared objects as the events see them: the prefix variable of the `log.Logger`, the holder of the mutex, the lines written -/
structure EState (A : Type) where
  pfx : String := ""
  lock : Option Nat := none
  th : Nat → EThread A
  out : List Logger.Emitted := []

/-- goroutine `i` performs its next event: `lock` acquires the mutex or blocks, `unlock` releases it, `setPrefix p` sets the shared prefix
variable, `output` writes a line with the prefix variable's CURRENT content (ghost: tagged with the call it belongs to) -/
def estep (P : Call A → List (Option (Event A))) (s : EState A) (i : Nat) : EState A :=
  match (s.th i).todo with
  | [] => s
  | c :: rest =>
    let next : EThread A := if (s.th i).k + 1 ≥ (P c).length then ⟨0, rest⟩ else ⟨(s.th i).k + 1, c :: rest⟩
    let upd : Nat → EThread A := fun j => if j = i then next else s.th j
    match (P c).getD (s.th i).k none with
    | some (.lock _) => (match s.lock with
        | none => { s with lock := some i, th := upd }
        | some _ => s)
    | some (.unlock _) => { s with lock := none, th := upd }
    | some (.setPrefix _ p) => { s with pfx := p, th := upd }
    | some (.output _ _ _ _) => { s with out := ⟨i, s.pfx, c.lvl, c.msg⟩ :: s.out, th := upd }
    | _ => { s with th := upd }

def erun (P : Call A → List (Option (Event A))) (s : EState A) (sched : List Nat) : EState A := sched.foldl (estep P) s

def einit (cwork : Nat → List (Call A)) : EState A := { th := fun i => { k := 0, todo := cwork i } }

def pcOf : Nat → Logger.LPc
  | 0 => .start | 1 => .locked | 2 => .prefixed | _ => .written

def absT (t : EThread A) : Logger.Thread := { pc := pcOf t.k, todo := t.todo.map Call.toRec }

/-- the state of the hand model that an event-level state stands for -/
def absS (s : EState A) : Logger.LState := { pfx := s.pfx, lock := s.lock, th := fun i => absT (s.th i), out := s.out }

/-- inside a call (past its first step) the call is an enabled one and has at most four steps -/
def EInv (thr : Int) (s : EState A) : Prop :=
  ∀ i, (s.th i).k = 0 ∨ ∃ c rest, (s.th i).todo = c :: rest ∧ Logger.enabled thr c.lvl.value = true ∧ (s.th i).k ≤ 3

theorem abs_upd (th : Nat → EThread A) (i : Nat) (t : EThread A) :
    (fun j => absT (if j = i then t else th j)) = Logger.updT (fun j => absT (th j)) i (absT t) := by
  funext j
  unfold Logger.updT
  split <;> rfl

/-- the shape of the per-call programs (what `callProg_isProg` says about the translated code) -/
def IsProg (thr : Int) (P : Call A → List (Option (Event A))) : Prop :=
  ∃ (lg : Option Ref) (d : Int) (m : Call A → String) (r : Call A → CallResult (Option Err)),
    ∀ c, P c = if Logger.enabled thr c.lvl.value = true then
        [some (.lock "l.mtx"), some (.setPrefix lg c.lvl.label), some (.output lg d (m c) (r c)), some (.unlock "l.mtx")]
      else [none]

theorem callProg_isProg [Inhabited A] (F : Fmt A) (X : Ext W A) (w : W) (l : SimpleLogger) :
    IsProg l.level (callProg F X w l) :=
  ⟨l.logger, 3, fun c => formatMessage F c.msg c.args,
    fun c => (X.output w l.logger 3 (formatMessage F c.msg c.args)).2, fun c => by
      unfold callProg
      rw [simpleCall_spec, output_spec]
      by_cases h : Logger.enabled l.level c.lvl.value = true <;> simp [h, callEvents]⟩

theorem einv_upd (thr : Int) (s : EState A) (i : Nat) (t : EThread A) (h : EInv thr s)
    (ht : t.k = 0 ∨ ∃ c rest, t.todo = c :: rest ∧ Logger.enabled thr c.lvl.value = true ∧ t.k ≤ 3)
    (s' : EState A) (hs : s'.th = fun j => if j = i then t else s.th j) : EInv thr s' := by
  intro j
  rw [hs]
  by_cases hj : j = i
  · simp only [hj, if_true]; exact ht
  · simp only [hj, if_false]; exact h j

/-- one event of the translated program is one step of the hand model: event `k` of an enabled call (`IsProg`: lock, setPrefix, output,
unlock) is the model's step at `pcOf k`, the one silent step of a filtered-out call is the model's skip at `start` -/
theorem estep_sim (thr : Int) (P : Call A → List (Option (Event A))) (hP : IsProg thr P) (s : EState A) (i : Nat)
    (h : EInv thr s) :
    absS (estep P s i) = Logger.lstep true thr (absS s) i ∧ EInv thr (estep P s i) := by
  obtain ⟨lg, d, m, r, hP⟩ := hP
  cases htodo : (s.th i).todo with
  | nil => exact ⟨by simp [estep, Logger.lstep, absS, absT, htodo], by simpa [estep, htodo] using h⟩
  | cons c rest =>
    have hPc := hP c
    have hi := h i
    rw [htodo] at hi
    cases he : Logger.enabled thr c.lvl.value <;> simp [he] at hPc hi
    · refine ⟨?_, einv_upd thr s i ⟨0, rest⟩ h (.inl rfl) _ (by simp [estep, htodo, hPc, hi])⟩
      simp [estep, htodo, hPc, hi, absS, abs_upd]
      simp [Logger.lstep, absT, pcOf, htodo, hi, he, Call.toRec]
    · have h4 : (s.th i).k = 0 ∨ (s.th i).k = 1 ∨ (s.th i).k = 2 ∨ (s.th i).k = 3 := by omega
      constructor
      · rcases h4 with hk | hk | hk | hk
        · cases hl : s.lock <;> simp [estep, htodo, hPc, hk, hl, absS, abs_upd] <;>
            simp [Logger.lstep, absT, pcOf, htodo, hk, he, Call.toRec]
        all_goals
          simp [estep, htodo, hPc, hk, absS, abs_upd]
          simp [Logger.lstep, absT, pcOf, htodo, hk, Call.toRec]
      · rcases h4 with hk | hk | hk | hk
        · cases hl : s.lock
          · exact einv_upd thr s i ⟨1, c :: rest⟩ h (.inr ⟨c, rest, rfl, he, by simp⟩) _ (by simp [estep, htodo, hPc, hk, hl])
          · simpa [estep, htodo, hPc, hk, hl] using h
        · exact einv_upd thr s i ⟨2, c :: rest⟩ h (.inr ⟨c, rest, rfl, he, by simp⟩) _ (by simp [estep, htodo, hPc, hk])
        · exact einv_upd thr s i ⟨3, c :: rest⟩ h (.inr ⟨c, rest, rfl, he, by simp⟩) _ (by simp [estep, htodo, hPc, hk])
        · exact einv_upd thr s i ⟨0, rest⟩ h (.inl rfl) _ (by simp [estep, htodo, hPc, hk])

theorem erun_sim (thr : Int) (P : Call A → List (Option (Event A))) (hP : IsProg thr P) : ∀ (sched : List Nat) (s : EState A),
    EInv thr s → absS (erun P s sched) = Logger.lrun true thr (absS s) sched ∧ EInv thr (erun P s sched)
  | [], s, h => ⟨rfl, h⟩
  | i :: rest, s, h => by
    have h1 := estep_sim thr P hP s i h
    have h2 := erun_sim thr P hP rest (estep P s i) h1.2
    simp only [erun, Logger.lrun, List.foldl_cons] at h2 ⊢
    rw [← h1.1]
    exact h2

end TransLogger
