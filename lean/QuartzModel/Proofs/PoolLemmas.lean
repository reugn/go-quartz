import QuartzModel.Sched.Pool
/-!
# Lemmas for C12 (`Sched/Pool.lean`): worker flags, runs, the invariant of a run, rounds of dispatch,
several runs side by side
-/
namespace Pool

theorem exists_idle (l : List Bool) (h : l.count true < l.length) : ∃ i : Nat, l[i]? = some false :=
  List.mem_iff_getElem?.1 <| Decidable.byContradiction fun hf =>
    Nat.ne_of_lt h <| List.count_eq_length.2 fun b hb => match b, hb with
      | true, _ => rfl
      | false, hb => absurd hb hf

theorem count_set_busy (l : List Bool) (i : Nat) (h : l[i]? = some false) :
    (l.set i true).count true = l.count true + 1 := by
  obtain ⟨hlt, hf⟩ := List.getElem?_eq_some_iff.1 h
  rw [List.count_set hlt, hf]; rfl

theorem all_busy_no_idle (l : List Bool) (h : l.count true = l.length) (i : Nat) : l[i]? ≠ some false :=
  fun hi => nomatch List.count_eq_length.1 h false (List.mem_of_getElem? hi)

theorem guard_some {α : Type} {p : Prop} [Decidable p] {x y : α} (h : (if p then some x else none) = some y) :
    p ∧ x = y :=
  (Option.ite_none_right_eq_some.mp h).imp_right Option.some.inj

theorem run_append (code : Code) (c : Cfg) (s : St) (as bs : List Act) :
    run code c s (as ++ bs) = (run code c s as).bind (fun s' => run code c s' bs) := by
  induction as generalizing s with
  | nil => rfl
  | cons a as ih => cases h : step code c s a <;> simp [run, h, ih]

theorem reach_step (code : Code) (c : Cfg) (s s' : St) (a : Act) (hr : Reach code c s)
    (h : step code c s a = some s') : Reach code c s' := by
  obtain ⟨p, as, hrun⟩ := hr
  exact ⟨p, as ++ [a], by rw [run_append, hrun]; simp [run, h]⟩

variable {code : Code} {c c' : Cfg} {s s' : St}

theorem run_cons {a : Act} (h : step code c s a = some s') (as : List Act) :
    run code c s (a :: as) = run code c s' as := by
  rw [run, h]; rfl

theorem run_inv {P : St → Prop} (hstep : ∀ s a s', P s → step code c s a = some s' → P s') (as : List Act) :
    ∀ s : St, P s → run code c s as = some s' → P s' := by
  induction as with
  | nil => exact fun s hp h => Option.some.inj h ▸ hp
  | cons a as ih =>
    intro s hp h
    obtain ⟨s1, h1, h2⟩ := Option.bind_eq_some_iff.1 h
    exact ih s1 (hstep s a s1 hp h1) h2

/-! ## the arms of the real switch -/

theorem arm_std_blocking (c : Cfg) (h : c.blocking = true) : Code.std.arm c = .inline := by
  simp [Code.arm, Code.std, pick, Guard.holds, h]

theorem arm_std_pool (c : Cfg) (hb : c.blocking = false) (hn : 0 < c.workerLimit) :
    Code.std.arm c = .handoff := by
  simp [Code.arm, Code.std, pick, Guard.holds, hb, hn]

theorem arm_std_unbounded (c : Cfg) (hb : c.blocking = false) (hn : c.workerLimit = 0) :
    Code.std.arm c = .spawn := by
  simp [Code.arm, Code.std, pick, Guard.holds, hb, hn]

theorem workers_std_blocking (c : Cfg) (h : c.blocking = true) : Code.std.workers c = 0 := by
  simp [Code.workers, Code.std, h]

theorem workers_std_pool (c : Cfg) (hb : c.blocking = false) (hn : 0 < c.workerLimit) :
    Code.std.workers c = c.workerLimit := by
  simp [Code.workers, Code.std, hb, hn]

theorem workers_std_unbounded (c : Cfg) (hn : c.workerLimit = 0) : Code.std.workers c = 0 := by
  simp [Code.workers, Code.std, hn]

/-! ## the invariant of a run -/

/-- What holds in every mode when `dispatch` is unbuffered: the channel stays empty, the workers are those that
    `startWorkers` made, the loop is inside a job only under the `inline` arm, and per-execution goroutines exist
    only under the `spawn` arm. -/
structure Inv (code : Code) (c : Cfg) (s : St) : Prop where
  chan : s.chan = 0
  workers : s.workers.length = code.workers c
  pc : code.arm c ≠ .inline → s.pc ≠ .executing
  spawned : code.arm c ≠ .spawn → s.spawned = 0

theorem Inv.step {a : Act} (hcap : code.dispatchCap = 0)
    (hi : Inv code c s) (hs : Pool.step code c s a = some s') : Inv code c s' := by
  cases a
  case arrive => cases hs; exact ⟨hi.chan, hi.workers, hi.pc, hi.spawned⟩
  case fetch | inlineDone | skipJob =>
    obtain ⟨_, rfl⟩ := guard_some hs; exact ⟨hi.chan, hi.workers, fun _ => nofun, hi.spawned⟩
  case runInline => obtain ⟨hg, rfl⟩ := guard_some hs; exact ⟨hi.chan, hi.workers, fun h => absurd hg.2 h, hi.spawned⟩
  case handoff i =>
    obtain ⟨_, rfl⟩ := guard_some hs
    exact ⟨hi.chan, List.length_set.trans hi.workers, fun _ => nofun, hi.spawned⟩
  case sendBuf => exact absurd (hcap ▸ (guard_some hs).1.2.2) (Nat.not_lt_zero _)
  case recvBuf i => exact absurd (hi.chan ▸ (guard_some hs).1.1) (Nat.lt_irrefl 0)
  case workerDone i =>
    obtain ⟨_, rfl⟩ := guard_some hs; exact ⟨hi.chan, List.length_set.trans hi.workers, hi.pc, hi.spawned⟩
  case spawn => obtain ⟨hg, rfl⟩ := guard_some hs; exact ⟨hi.chan, hi.workers, fun _ => nofun, fun h => absurd hg.2 h⟩
  case spawnedDone =>
    obtain ⟨_, rfl⟩ := guard_some hs; exact ⟨hi.chan, hi.workers, hi.pc, fun h => congrArg (· - 1) (hi.spawned h)⟩

theorem Reach.inv (hcap : code.dispatchCap = 0) (hr : Reach code c s) :
    Inv code c s := by
  obtain ⟨p, as, h⟩ := hr
  exact run_inv (fun _ _ _ hi => hi.step hcap) as _
    ⟨rfl, List.length_replicate, fun _ => (nofun : LoopPc.idle ≠ .executing), fun _ => rfl⟩ h

theorem busy_init (code : Code) (c : Cfg) (p : Nat) : busy (init code c p) = 0 :=
  List.count_replicate.trans rfl

/-! ## the configuration is read only through `arm` and `workers` -/

theorem step_congr (h : code.arm c = code.arm c') (s : St) (a : Act) :
    step code c s a = step code c' s a := by
  unfold step; rw [h]

theorem run_congr (h : code.arm c = code.arm c') :
    ∀ (as : List Act) (s : St), run code c s as = run code c' s as
  | [], _ => rfl
  | a :: as, s => by simp only [run, step_congr h, run_congr h as]

theorem init_congr (h : code.workers c = code.workers c') (p : Nat) :
    init code c p = init code c' p := by
  simp only [init, h]

/-! ## rounds of dispatch: a fetch followed by the hand-off / the `go` statement, no job finishing -/

theorem run_fetch_handoff {i : Nat} (harm : code.arm c = .handoff)
    (hpc : s.pc = .idle) (hp : 0 < s.pending) (hi : s.workers[i]? = some false) (as : List Act) :
    run code c s (.fetch :: .handoff i :: as) =
      run code c { s with pc := .idle, pending := s.pending - 1, workers := s.workers.set i true } as := by
  rw [run_cons (show step code c s .fetch = some _ from if_pos ⟨hpc, hp⟩)]
  exact run_cons (by exact if_pos ⟨rfl, harm, hi⟩) as

theorem run_fetch_spawn (harm : code.arm c = .spawn)
    (hpc : s.pc = .idle) (hp : 0 < s.pending) (as : List Act) :
    run code c s (.fetch :: .spawn :: as) =
      run code c { s with pc := .idle, pending := s.pending - 1, spawned := s.spawned + 1 } as := by
  rw [run_cons (show step code c s .fetch = some _ from if_pos ⟨hpc, hp⟩)]
  exact run_cons (by exact if_pos ⟨rfl, harm⟩) as

/-- `m` rounds of fetch and hand-off: a schedule without any job finishing after which `m` more workers are busy -/
theorem run_handoff_rounds (harm : code.arm c = .handoff) (m : Nat) :
    ∀ s : St, s.pc = .idle → m ≤ s.pending → m + busy s ≤ s.workers.length →
    ∃ as s', (∀ a ∈ as, a.isFinish = false) ∧ run code c s as = some s' ∧ busy s' = m + busy s := by
  induction m with
  | zero => exact fun s _ _ _ => ⟨[], s, List.forall_mem_nil _, rfl, (Nat.zero_add _).symm⟩
  | succ m ih =>
    intro s hpc hp hb
    rw [Nat.add_right_comm] at hb ⊢
    obtain ⟨i, hi⟩ := exists_idle s.workers (Nat.lt_of_le_of_lt (Nat.le_add_left _ m) hb)
    let s1 : St := { s with pc := .idle, pending := s.pending - 1, workers := s.workers.set i true }
    have hbusy : busy s1 = busy s + 1 := count_set_busy s.workers i hi
    obtain ⟨as, s', hfin, hrun, hb'⟩ :=
      ih s1 rfl (Nat.le_sub_one_of_lt hp) (by rw [hbusy, List.length_set]; exact hb)
    exact ⟨.fetch :: .handoff i :: as, s', List.forall_mem_cons.2 ⟨rfl, List.forall_mem_cons.2 ⟨rfl, hfin⟩⟩,
      (run_fetch_handoff harm hpc (Nat.zero_lt_of_lt hp) hi as).trans hrun, hb'.trans (congrArg _ hbusy)⟩

/-- `m` rounds of fetch and `go`: a schedule without any job finishing after which `m` more goroutines are spawned -/
theorem run_spawn_rounds (harm : code.arm c = .spawn) (m : Nat) :
    ∀ s : St, s.pc = .idle → m ≤ s.pending →
    ∃ as s', (∀ a ∈ as, a.isFinish = false) ∧ run code c s as = some s' ∧ s'.spawned = m + s.spawned := by
  induction m with
  | zero => exact fun s _ _ => ⟨[], s, List.forall_mem_nil _, rfl, (Nat.zero_add _).symm⟩
  | succ m ih =>
    intro s hpc hp
    obtain ⟨as, s', hfin, hrun, hsp⟩ :=
      ih { s with pc := .idle, pending := s.pending - 1, spawned := s.spawned + 1 } rfl (Nat.le_sub_one_of_lt hp)
    exact ⟨.fetch :: .spawn :: as, s', List.forall_mem_cons.2 ⟨rfl, List.forall_mem_cons.2 ⟨rfl, hfin⟩⟩,
      (run_fetch_spawn harm hpc (Nat.zero_lt_of_lt hp) as).trans hrun, hsp.trans (Nat.add_right_comm m 1 _).symm⟩

/-! ## several runs: a worker of run `h` only ever executes jobs handed off by the loop of run `h` -/

/-- every job a worker of `r` is executing came from the loop of run `h` -/
def Own (h : Nat) (r : RunRec) : Prop := ∀ g, .busy g ∈ r.workers → g = h

theorem Own.set {h : Nat} {r : RunRec} (ho : Own h r) (i : Nat) (w : WorkerSt) (hw : ∀ g, w = .busy g → g = h) :
    Own h { r with workers := r.workers.set i w } := fun g hg =>
  (List.mem_or_eq_of_mem_set hg).elim (ho g) fun e => hw g e.symm

def InvR (s : RSt) : Prop := ∀ h r, s.runs[h]? = some r → Own h r

theorem InvR.setRun {s : RSt} {g : Nat} {r : RunRec} (hi : InvR s) (hr : Own g r) : InvR (setRun s g r) := by
  intro h r' hh
  rw [Pool.setRun, List.getElem?_set] at hh
  split at hh
  · subst h; split at hh <;> cases hh; exact hr
  · exact hi h r' hh

theorem InvR.step {s s' : RSt} {a : RAct} (hi : InvR s) (hs : rstep RunsCode.std s a = some s') : InvR s' := by
  cases a <;> simp only [rstep] at hs
  case start n =>
    cases hs
    intro h r hh g hg
    rw [List.getElem?_append] at hh
    split at hh
    · exact hi h r hh g hg
    · cases List.mem_singleton.1 (List.mem_of_getElem? hh)
      cases List.eq_of_mem_replicate hg
  case cancel g =>
    split at hs <;> cases hs
    next r hr => exact hi.setRun (hi g r hr)
  case fetch g =>
    split at hs
    next r hr => obtain ⟨_, rfl⟩ := guard_some hs; exact hi.setRun (hi g r hr)
    next => cases hs
  case handoff g h i =>
    split at hs
    next rg rh hrg hrh =>
      -- the per-run channel: `chanOf g = chanOf h` means `g = h`
      obtain ⟨⟨_, _, (hgh : g = h), _⟩, hs⟩ := Option.ite_none_right_eq_some.1 hs
      have hi1 := hi.setRun (r := { rg with holding := false }) (hi g rg hrg)
      split at hs <;> cases hs
      next r hr => exact hi1.setRun ((hi1 h r hr).set i (.busy g) fun _ e => by cases e; exact hgh)
    next => cases hs
  case loopExit g =>
    split at hs
    next r hr => obtain ⟨_, rfl⟩ := guard_some hs; exact hi.setRun (hi g r hr)
    next => cases hs
  case workerDone h i =>
    split at hs
    next r hr => split at hs <;> cases hs; exact hi.setRun ((hi h r hr).set i .idle nofun)
    next => cases hs
  case workerExit h i =>
    split at hs
    next r hr => obtain ⟨_, rfl⟩ := guard_some hs; exact hi.setRun ((hi h r hr).set i .exited nofun)
    next => cases hs

theorem InvR.run {s' : RSt} (as : List RAct) : ∀ s : RSt, InvR s → rrun RunsCode.std s as = some s' → InvR s' := by
  induction as with
  | nil => exact fun s hi h => Option.some.inj h ▸ hi
  | cons a as ih =>
    intro s hi h
    obtain ⟨s1, h1, h2⟩ := Option.bind_eq_some_iff.1 h
    exact ih s1 (hi.step h1) h2

end Pool
